import PhyModel.Model.Cache
import PhyModel.Model.Chains
import PhyModel.Model.Conc
import PhyModel.Model.Consensus
import PhyModel.Model.Density
import PhyModel.Model.DictRT
import PhyModel.Model.Dist
import PhyModel.Model.Emission
import PhyModel.Model.Framing
import PhyModel.Model.Graph
import PhyModel.Model.Lik
import PhyModel.Model.Loader
import PhyModel.Model.MapDP
import PhyModel.Model.MapSpec
import PhyModel.Model.Memo
import PhyModel.Model.Moves
import PhyModel.Model.Orders
import PhyModel.Model.OrdersSampler
import PhyModel.Model.PGSpec
import PhyModel.Model.Proposal
import PhyModel.Model.RunLoop
import PhyModel.Model.SMC
import PhyModel.Model.Store
import PhyModel.Model.Sweep
import PhyModel.Model.Table
import PhyModel.Model.Trace
import PhyModel.Model.TraceLoop
import PhyModel.Model.Tree
import PhyModel.Proofs.ASMCExch
import PhyModel.Proofs.ASMCFwd
import PhyModel.Proofs.ASMCInvariance
import PhyModel.Proofs.ASMCLaw
import PhyModel.Proofs.ASMCSystem
import PhyModel.Proofs.C07Example
import PhyModel.Proofs.C19Example
import PhyModel.Proofs.CacheProofs
import PhyModel.Proofs.CanonEqv
import PhyModel.Proofs.CanonKey
import PhyModel.Proofs.CanonSort
import PhyModel.Proofs.ChainsProofs
import PhyModel.Proofs.ConcDensity
import PhyModel.Proofs.ConcGibbs
import PhyModel.Proofs.ConcModel
import PhyModel.Proofs.ConsFamily
import PhyModel.Proofs.ConsForest
import PhyModel.Proofs.ConsParents
import PhyModel.Proofs.Consensus
import PhyModel.Proofs.DFIso
import PhyModel.Proofs.DensityPos
import PhyModel.Proofs.DictBuild
import PhyModel.Proofs.DictInv
import PhyModel.Proofs.DictRT
import PhyModel.Proofs.DistLemmas
import PhyModel.Proofs.DistSupport
import PhyModel.Proofs.EmissionProofs
import PhyModel.Proofs.ExceptLemmas
import PhyModel.Proofs.Framing
import PhyModel.Proofs.FramingContainer
import PhyModel.Proofs.Gibbs
import PhyModel.Proofs.GibbsTwoStage
import PhyModel.Proofs.GraphAddSub
import PhyModel.Proofs.GraphClosure
import PhyModel.Proofs.GraphCreate
import PhyModel.Proofs.GraphDict
import PhyModel.Proofs.GraphExample
import PhyModel.Proofs.GraphGetSub
import PhyModel.Proofs.GraphInv
import PhyModel.Proofs.GraphOf
import PhyModel.Proofs.GraphOfCreate
import PhyModel.Proofs.GraphOfDict
import PhyModel.Proofs.GraphOfGetSub
import PhyModel.Proofs.GraphOfGraft
import PhyModel.Proofs.GraphOfPayload
import PhyModel.Proofs.GraphOfRemove
import PhyModel.Proofs.GraphRemove
import PhyModel.Proofs.GraphSim
import PhyModel.Proofs.GraphStep
import PhyModel.Proofs.HoldsMoves
import PhyModel.Proofs.HoldsProposal
import PhyModel.Proofs.HoldsSMC
import PhyModel.Proofs.HoldsSubtree
import PhyModel.Proofs.LikIso
import PhyModel.Proofs.LikPos
import PhyModel.Proofs.LikProofs
import PhyModel.Proofs.LoaderBasics
import PhyModel.Proofs.LoaderPipeline
import PhyModel.Proofs.MapProofs
import PhyModel.Proofs.MapSpecProofs
import PhyModel.Proofs.MemoBridge
import PhyModel.Proofs.MemoProofs
import PhyModel.Proofs.MovesDist
import PhyModel.Proofs.MovesDp
import PhyModel.Proofs.MovesDpBlocks
import PhyModel.Proofs.MovesDpForest
import PhyModel.Proofs.MovesEqv
import PhyModel.Proofs.MovesKernel
import PhyModel.Proofs.MovesNodes
import PhyModel.Proofs.MovesPr
import PhyModel.Proofs.MovesPrBlocks
import PhyModel.Proofs.MovesPrForest
import PhyModel.Proofs.OrdersCount
import PhyModel.Proofs.OrdersEnum
import PhyModel.Proofs.OrdersLists
import PhyModel.Proofs.OrdersUniform
import PhyModel.Proofs.PGAsmcSpec
import PhyModel.Proofs.PGCsmc
import PhyModel.Proofs.PGExample
import PhyModel.Proofs.PGInj
import PhyModel.Proofs.PGKernel
import PhyModel.Proofs.PGLevel
import PhyModel.Proofs.PGPeel
import PhyModel.Proofs.PGPrec
import PhyModel.Proofs.PGPropagate
import PhyModel.Proofs.PGReachable
import PhyModel.Proofs.PGResample
import PhyModel.Proofs.PGRetained
import PhyModel.Proofs.PGStep
import PhyModel.Proofs.PGSubExample
import PhyModel.Proofs.PGSubGiven
import PhyModel.Proofs.PGSubKernel
import PhyModel.Proofs.PGSubRegion
import PhyModel.Proofs.PGValid
import PhyModel.Proofs.PlacementIdx
import PhyModel.Proofs.PropCanon
import PhyModel.Proofs.PropChoose
import PhyModel.Proofs.PropKeys
import PhyModel.Proofs.PropRecover
import PhyModel.Proofs.PropSampler
import PhyModel.Proofs.PropSplits
import PhyModel.Proofs.PropSumOne
import PhyModel.Proofs.PropTable
import PhyModel.Proofs.PropWeights
import PhyModel.Proofs.RunChain
import PhyModel.Proofs.RunExample
import PhyModel.Proofs.RunLoopProofs
import PhyModel.Proofs.RunSpec
import PhyModel.Proofs.SchedProofs
import PhyModel.Proofs.StoreCache_Dec
import PhyModel.Proofs.StoreCache_Gen
import PhyModel.Proofs.StoreCache_Legal
import PhyModel.Proofs.StoreCache_Map
import PhyModel.Proofs.StoreCache_Path
import PhyModel.Proofs.StoreCache_Rebuild
import PhyModel.Proofs.StoreCache_Step
import PhyModel.Proofs.StoreCache_Vec
import PhyModel.Proofs.StoreCache_addDp
import PhyModel.Proofs.StoreCache_addSub
import PhyModel.Proofs.StoreCache_create
import PhyModel.Proofs.StoreCache_relabel
import PhyModel.Proofs.StoreCache_rmSub
import PhyModel.Proofs.StoreDataMove
import PhyModel.Proofs.StoreInv
import PhyModel.Proofs.StoreWFB
import PhyModel.Proofs.StoreWF_AL
import PhyModel.Proofs.StoreWF_Base
import PhyModel.Proofs.StoreWF_Facts
import PhyModel.Proofs.StoreWF_Labels
import PhyModel.Proofs.StoreWF_LegalDec
import PhyModel.Proofs.StoreWF_SF
import PhyModel.Proofs.StoreWF_SF2
import PhyModel.Proofs.StoreWF_Step
import PhyModel.Proofs.StoreWF_Upd
import PhyModel.Proofs.StoreWF_addSub
import PhyModel.Proofs.StoreWF_create
import PhyModel.Proofs.StoreWF_dictRT
import PhyModel.Proofs.StoreWF_getSub
import PhyModel.Proofs.StoreWF_relabel
import PhyModel.Proofs.StoreWF_rmSub
import PhyModel.Proofs.SweepExample
import PhyModel.Proofs.SweepInv
import PhyModel.Proofs.SweepSpace
import PhyModel.Proofs.TableBasic
import PhyModel.Proofs.TablePos
import PhyModel.Proofs.TableRows
import PhyModel.Proofs.TopoProofs
import PhyModel.Proofs.TraceEntries
import PhyModel.Proofs.TraceProofs
import PhyModel.Props.C01
import PhyModel.Props.C02
import PhyModel.Props.C03
import PhyModel.Props.C04
import PhyModel.Props.C05
import PhyModel.Props.C06
import PhyModel.Props.C07
import PhyModel.Props.C08
import PhyModel.Props.C09
import PhyModel.Props.C10
import PhyModel.Props.C11
import PhyModel.Props.C12
import PhyModel.Props.C13
import PhyModel.Props.C14
import PhyModel.Props.C15
import PhyModel.Props.C16
import PhyModel.Props.C17
import PhyModel.Props.C18
import PhyModel.Props.C19
import PhyModel.Props.C20
