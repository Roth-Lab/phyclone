import PhyModel.Model.SMC
/-! Import-free model of the auxiliary moves (C04): Gibbs reassignment of single data points
(`DataPointSampler`) and prune-and-regraft of a random subtree (`PruneRegraphSampler`). -/
namespace PhyModel
open Orders Proposal

namespace Moves

/-- every clone as (own data, children), preorder -/
def nodesOf : DF → List (List Nat × DF)
  | .nil => []
  | .cons d k s => (d, k) :: (nodesOf k ++ nodesOf s)

def removeDp (i : Nat) : DF → DF
  | .nil => .nil
  | .cons d k s => .cons (d.filter (· != i)) (removeDp i k) (removeDp i s)

/-- add `i` to the clone whose own data contains `key` -/
def addDpAt (key i : Nat) : DF → DF
  | .nil => .nil
  | .cons d k s => .cons (if d.contains key then d ++ [i] else d) (addDpAt key i k) (addDpAt key i s)

def holderSize (i : Nat) (f : DF) : Nat :=
  match (nodesOf f).find? (fun nd => nd.1.contains i) with
  | some nd => nd.1.length
  | none => 0

/-- remove the clone whose own data contains `key`, with its whole subtree -/
def removeSub (key : Nat) : DF → DF
  | .nil => .nil
  | .cons d k s => if d.contains key then removeSub key s else .cons d (removeSub key k) (removeSub key s)

/-- graft the single-rooted subtree `(sd, sk)` as a child of the clone whose data contains `key` -/
def attachUnder (key : Nat) (sd : List Nat) (sk : DF) : DF → DF
  | .nil => .nil
  | .cons d k s =>
    if d.contains key then .cons d (.cons sd sk k) (attachUnder key sd sk s)
    else .cons d (attachUnder key sd sk k) (attachUnder key sd sk s)

structure Cfg where
  dt : Data
  α : Rat
  outliers : Bool     -- the data-point move may use the outlier set

def pOneOf (c : Cfg) (t : T) : Rat := Density.pOne c.dt c.α t.f t.out

/-- `DataPointSampler._sample_tree` for data point `i` (or no change when it is the only member of a
clone) -/
def dpStep (c : Cfg) (x : T) (i : Nat) : Dist T :=
  let isOut := x.out.contains i
  if !(isOut || holderSize i x.f > 1) then Dist.pure x
  else
    let f0 := removeDp i x.f
    let out0 := x.out.filter (· != i)
    let cands := ((nodesOf f0).map fun nd => T.mk' (addDpAt (nd.1.headD 0) i f0) out0) ++
      (if c.outliers then [T.mk' f0 (out0 ++ [i])] else [])
    Dist.categorical (cands.map fun t => (t, pOneOf c t))

def dpFold (c : Cfg) : List Nat → Dist T → Dist T
  | [], d => d
  | i :: rest, d => dpFold c rest (Dist.norm (Dist.bind d fun x => dpStep c x i))

/-- `DataPointSampler.sample_tree`: one Gibbs scan in a uniformly random order -/
def dataPointMove (c : Cfg) (x : T) : Dist T :=
  Dist.norm (Dist.bind (Dist.uniform (perms (x.f.all ++ x.out))) fun σ => dpFold c σ (Dist.pure x))

/-- `PruneRegraphSampler.sample_tree` -/
def pruneRegraft (c : Cfg) (x : T) : Dist T :=
  let nds := nodesOf x.f
  if nds.length ≤ 1 then Dist.pure x
  else
    Dist.norm (Dist.bind (Dist.uniform nds) fun sub =>
      let key := sub.1.headD 0
      let pruned := removeSub key x.f
      if (nodesOf pruned).isEmpty then Dist.pure x
      else
        let cands := ((nodesOf pruned).map fun nd => T.mk' (attachUnder (nd.1.headD 0) sub.1 sub.2 pruned) x.out) ++
          [T.mk' (.cons sub.1 sub.2 pruned) x.out]
        Dist.categorical (cands.map fun t => (t, pOneOf c t)))

/-- the clone that is the parent of the clone holding `key` (none when that clone is top-level) -/
def parentOf (key : Nat) : DF → Option (List Nat × DF)
  | .nil => none
  | .cons d k s =>
    if (k.roots.any fun r => r.1.contains key) then some (d, k)
    else match parentOf key k with
      | some p => some p
      | none => parentOf key s

/-- graft every root of `sub` under the clone holding `key`, or at the top level when `key` is none -/
def attachAll (key : Option Nat) (sub : List (List Nat × DF)) (f : DF) : DF :=
  match key with
  | none => sub.foldr (fun r acc => .cons r.1 r.2 acc) f
  | some k => sub.foldr (fun r acc => attachUnder k r.1 r.2 acc) f

/-- `ParticleGibbsSubtreeSampler.sample_tree`: pick a data point that is not an outlier, take the
parent of its clone as the root of the region (the virtual root if the clone is top-level), run the
conditional SMC on that subtree together with all outliers, then re-weight every particle by the
ratio of the full tree's density to the subtree's (`_correct_weights`) before the final draw.  With
every data point an outlier the whole-tree update is used. -/
def subtreeMove (r : SMC.Run) (x : T) : Dist T :=
  let dps := x.f.all
  if dps.isEmpty then SMC.pgStep r x
  else
    Dist.norm (Dist.bind (Dist.uniform dps) fun i =>
      let (region, remaining, graftKey) : DF × DF × Option Nat :=
        match parentOf i x.f with
        | none => (x.f, Orders.Forest.nil, none)
        | some (pd, pk) =>
          let key := pd.headD 0
          (Orders.Forest.cons pd pk .nil, removeSub key x.f, (parentOf key x.f).map fun g => g.1.headD 0)
      let xs := T.mk' region x.out
      Dist.bind (Dist.norm (sampleOrder xs.f xs.out)) fun σ =>
        Dist.bind (SMC.csmc r xs σ) fun sw =>
          Dist.categorical (sw.map fun (tw : T × Rat) =>
            let full := T.mk' (attachAll graftKey tw.1.f.roots remaining) tw.1.out
            (full, tw.2 / Density.pOne r.dt r.c.α tw.1.f tw.1.out * Density.pOne r.dt r.c.α full.f full.out)))

/-! ### The random-subtree move, factored through the region choice

`subtreeMove` above is what the correspondence check runs against the real sampler and is left as it
is.  `regionOf` is its region choice, `subtreeGiven` everything that follows once the region is
fixed, `subtreeVia` the composition; `Proofs/PGSubKernel.lean` shows `subtreeMove = subtreeVia`. -/

/-- the region selected through data point `i`: (forest of the region, remaining forest, graft point) -/
def regionOf (x : T) (i : Nat) : DF × DF × Option Nat :=
  match parentOf i x.f with
  | none => (x.f, Orders.Forest.nil, none)
  | some (pd, pk) =>
    let key := pd.headD 0
    (Orders.Forest.cons pd pk .nil, removeSub key x.f, (parentOf key x.f).map fun g => g.1.headD 0)

/-- the full tree: the subtree `t` grafted back onto the remaining forest (under the clone holding the
graft key, or at the top level); the subtree carries all outliers -/
def graftBack (rem : DF) (graftKey : Option Nat) (t : T) : T :=
  T.mk' (attachAll graftKey t.f.roots rem) t.out

/-- `_correct_weights`: every particle becomes the full tree, its weight is divided by the subtree's
density and multiplied by the full tree's -/
def correctWeights (r : SMC.Run) (rem : DF) (graftKey : Option Nat) (sw : SMC.Swarm) : List (T × Rat) :=
  sw.map fun (tw : T × Rat) =>
    let full := graftBack rem graftKey tw.1
    (full, tw.2 / Density.pOne r.dt r.c.α tw.1.f tw.1.out * Density.pOne r.dt r.c.α full.f full.out)

/-- the random-subtree move once the region is fixed: conditional SMC on the subtree `xs` (region and
all outliers) along a random compatible order, weight correction, final draw -/
def subtreeGiven (r : SMC.Run) (rem : DF) (graftKey : Option Nat) (xs : T) : Dist T :=
  Dist.bind (Dist.norm (sampleOrder xs.f xs.out)) fun σ =>
    Dist.bind (SMC.csmc r xs σ) fun sw => Dist.categorical (correctWeights r rem graftKey sw)

/-- region choice, then `subtreeGiven` -/
def subtreeVia (r : SMC.Run) (x : T) : Dist T :=
  let dps := x.f.all
  if dps.isEmpty then SMC.pgStep r x
  else
    Dist.norm (Dist.bind (Dist.uniform dps) fun i =>
      let reg := regionOf x i
      subtreeGiven r reg.2.1 reg.2.2 (T.mk' reg.1 x.out))

end Moves
end PhyModel
