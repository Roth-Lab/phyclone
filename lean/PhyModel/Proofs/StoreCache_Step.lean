import PhyModel.Proofs.StoreCache_rmSub
import PhyModel.Proofs.StoreCache_addSub
import PhyModel.Proofs.StoreWF_Step
/-! C06 over histories: one `step` on a system of live handles keeps every handle's cache in order;
`run` over any list of operations does. -/
namespace PhyModel.Store.C06

/-- the data indices an operation mentions lie inside the data set (where `DataNZ` speaks; used
for the division in `remove_data_point`) -/
def InRange (dt : Data) : Op → Prop
  | .create _ _ d => ∀ x ∈ d, x < dt.n
  | .createAdd _ _ dp => dp < dt.n
  | .addDp _ dp _ => dp < dt.n
  | .rmDp _ dp _ => dp < dt.n
  | _ => True

instance (dt : Data) (op : Op) : Decidable (InRange dt op) := by
  cases op <;> unfold InRange <;> infer_instance

theorem getElem?_lt {α} {l : List α} {i : Nat} {a : α} (h : l[i]? = some a) : i < l.length := by
  by_contra hc
  rw [List.getElem?_eq_none (by omega)] at h
  cases h

/-- **C06, one edit on a system of handles.**  `WFc` (the part of C07's `WF` the cache proofs use:
unique graph indices, name → index exact on the clones) of the handles before the edit is used to
locate the recomputation path. -/
theorem cacheOK_step' (dt : Data) (hNZ : DataNZ dt) (sys sys' : Sys) (op : Op)
    (hwf : ∀ s ∈ sys, WFc s) (hin : InRange dt op)
    (hc : ∀ s ∈ sys, CacheOK dt s) (h : step dt sys op = some sys') :
    ∀ s ∈ sys', CacheOK dt s := by
  intro s' hs'
  have get : ∀ {h s}, sys[h]? = some s → WFc s ∧ CacheOK dt s := fun hs =>
    ⟨hwf _ (List.mem_of_getElem? hs), hc _ (List.mem_of_getElem? hs)⟩
  rcases step_written h s' hs' with hold | hw
  · exact hc s' hold
  cases hw with
  | create hs hr => exact cacheOK_create dt _ _ _ _ _ (get hs).2 hr
  | createAdd hs hr hr2 => exact cacheOK_createAdd dt _ _ _ _ _ _ (get hs).2 hr hr2
  | addDp hs hr => exact cacheOK_addDp dt _ _ _ _ (get hs).1 (get hs).2 hr
  | rmDp hs hr => exact cacheOK_rmDp dt hNZ _ _ _ _ hin (get hs).1.idxs_nodup (get hs).2 hr
  | rmOut hs hr => exact cacheOK_rmOut dt _ _ _ (get hs).2 hr
  | getSubSrc hs hr =>
    split
    · exact cacheOK_touch dt _ _ (get hs).2
    · exact (get hs).2
  | getSub hs hr => exact cacheOK_getSub dt _ _ _ (get hs).2 hr
  | rmSubArg hs hsb hr => exact cacheOK_touch dt _ _ (get hsb).2
  | @rmSub _ _ s _ _ hs hsb hr =>
    have hw : WFc (s.touch s.nodes) := ⟨(get hs).1.1, (get hs).1.2⟩
    exact cacheOK_rmSub dt _ _ _ hw (cacheOK_touch dt s _ (get hs).2) hr
  | addSub hs hsb hr => exact cacheOK_addSub_in dt _ _ _ _ (get hs).1 (get hs).2 (get hsb).2 hr
  | relabel hs => exact cacheOK_relabel dt _ (get hs).2
  | dictRT hs hr => exact cacheOK_fromDict dt _ _ hr
  | update hs => exact cacheOK_update dt _ (get hs).2
  | fresh => exact cacheOK_init dt

/-- `P` holds of every system state an operation of `ops` is applied to, running from `sys` -/
def Along (dt : Data) (P : Sys → Prop) : Sys → List Op → Prop
  | _, [] => True
  | sys, op :: ops => P sys ∧ ∀ sys', step dt sys op = some sys' → Along dt P sys' ops

theorem Along.mono {dt : Data} {P Q : Sys → Prop} (hPQ : ∀ sy, P sy → Q sy) :
    ∀ {ops : List Op} {sys : Sys}, Along dt P sys ops → Along dt Q sys ops
  | [], _, _ => trivial
  | _ :: _, _, h => ⟨hPQ _ h.1, fun sys' hs => Along.mono hPQ (h.2 sys' hs)⟩

theorem run_cons (dt : Data) (sys : Sys) (op : Op) (ops : List Op) :
    run dt sys (op :: ops) = (step dt sys op).bind fun sys1 => run dt sys1 ops := by
  simp only [run, List.foldlM_cons]
  rfl

/-- the state-predicate form of "along the run" from its prefix form -/
theorem along_of_prefixes (dt : Data) (P : Sys → Prop) (ops : List Op) : ∀ sys : Sys,
    (∀ pre post sys1, ops = pre ++ post → run dt sys pre = some sys1 → P sys1) → Along dt P sys ops := by
  induction ops with
  | nil => exact fun _ _ => trivial
  | cons op ops ih =>
    intro sys h
    refine ⟨h [] (op :: ops) sys rfl rfl, fun sys' hs => ?_⟩
    apply ih sys'
    intro pre post sys1 he hr
    apply h (op :: pre) post sys1 (by rw [he]; rfl)
    rw [run_cons, hs]
    exact hr

/-- C06 over a history: if every handle is `WFc` in every state an operation of `ops` is applied to and every
operation is `InRange`, then `run` carries `CacheOK` of all handles from `sys` to `sys'` (`cacheOK_step'` at
each operation) -/
theorem cacheOK_run (dt : Data) (hNZ : DataNZ dt) (ops : List Op) : ∀ (sys sys' : Sys),
    Along dt (fun sy => ∀ s ∈ sy, WFc s) sys ops → (∀ op ∈ ops, InRange dt op) →
    (∀ s ∈ sys, CacheOK dt s) → run dt sys ops = some sys' → ∀ s ∈ sys', CacheOK dt s := by
  induction ops with
  | nil =>
    intro sys sys' _ _ hc h
    cases h
    exact hc
  | cons op ops ih =>
    intro sys sys' hal hin hc h
    rw [run_cons] at h
    obtain ⟨sys1, h1, h2⟩ := Option.bind_eq_some_iff.1 h
    exact ih sys1 sys' (hal.2 sys1 h1)
      (fun o ho => hin o (List.mem_cons_of_mem _ ho))
      (cacheOK_step' dt hNZ sys sys1 op hal.1 (hin op List.mem_cons_self) hc h1) h2

end PhyModel.Store.C06
