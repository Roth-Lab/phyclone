import PhyModel.Proofs.Framing
/-! Helper lemmas for C20: the two container readers on a cut file.  The incremental reader hands
out a prefix of the body, all of it from the end of the block stream on; the strict reader (end
marker and trailer required) accepts the complete file only.  Both are followed block by block:
one case split of the block stream (`blocksF_eq`) and, per reader, what one block does on a cut
stream. -/
namespace PhyModel.Framing

theorem blocksF_eq (B g : Nat) (b : List Sym) :
    blocksF B g b = if g = 0 ∨ b.length ≤ B + 1 then 1 :: b.length :: b
      else 0 :: (B + 1) :: (b.take (B + 1) ++ blocksF B (g - 1) (b.drop (B + 1))) := by
  cases g with
  | zero => rfl
  | succ g => simp [blocksF]

theorem blocksF_length_ge (B g : Nat) (b : List Sym) : 2 ≤ (blocksF B g b).length := by
  rw [blocksF_eq]
  split <;> simp

theorem deliverF_short (f : Nat) {s : List Sym} (h : s.length < 2) : deliverF f s = [] := by
  match f, s with
  | 0, _ => rfl
  | _ + 1, [] => rfl
  | _ + 1, [_] => rfl
  | _ + 1, _ :: _ :: _ => exact absurd h (by simp)

theorem deliverF_final (f : Nat) (b t : List Sym) (m : Nat) :
    deliverF (f + 1) (1 :: b.length :: (b ++ t).take m) = b.take m := by
  -- one step of `deliverF`, by computation; the branch taken is that of flag 1
  refine (if_pos rfl).trans ?_
  rw [List.take_take, List.take_append_of_le_length (Nat.min_le_left _ _),
    Nat.min_comm, ← List.take_eq_take_min]

theorem deliverF_cont (f : Nat) {d : List Sym} {l : Nat} (hd : d.length = l) (r : List Sym) (m : Nat) :
    deliverF (f + 1) (0 :: l :: (d ++ r).take m)
      = if m < l then d.take m else d ++ deliverF f (r.take (m - l)) := by
  subst hd
  refine (if_neg Nat.zero_ne_one).trans ((if_pos rfl).trans ?_)
  by_cases h : m < d.length
  · rw [if_pos h, List.take_append_of_le_length (Nat.le_of_lt h),
      if_pos (Nat.lt_of_le_of_lt (List.length_take_le _ _) h)]
  · rw [if_neg h, List.take_append, List.take_of_length_le (Nat.le_of_not_lt h),
      if_neg (List.length_append ▸ Nat.not_lt_of_le (Nat.le_add_right _ _)),
      List.take_left' rfl, List.drop_left' rfl]

/-- On the first `n` symbols of a block stream (followed by anything) the incremental reader hands
out a prefix `take k b` of the true body; `k` falls short of the body while a symbol of the block
stream is missing and reaches it as soon as the block stream is complete. -/
theorem deliverF_take (B : Nat) : ∀ (g : Nat) (b t : List Sym) (n f : Nat),
    ((blocksF B g b ++ t).take n).length ≤ f →
    ∃ k, deliverF f ((blocksF B g b ++ t).take n) = b.take k ∧
      (b ≠ [] → n < (blocksF B g b).length → k < b.length) ∧
      ((blocksF B g b).length ≤ n → b.length ≤ k) := by
  intro g
  induction g using Nat.strongRecOn with
  | _ g ih =>
    intro b t n f hf
    by_cases hn : n < 2
    · -- fewer than two symbols: nothing is handed out, and a block stream is longer
      refine ⟨0, ?_, fun hb _ => List.length_pos_iff.mpr hb,
        fun h => absurd (Nat.le_trans (blocksF_length_ge B g b) h) (Nat.not_le_of_lt hn)⟩
      rw [deliverF_short f (Nat.lt_of_le_of_lt (List.length_take_le _ _) hn), List.take_zero]
    · obtain ⟨m, rfl⟩ := Nat.exists_eq_add_of_le' (Nat.le_of_not_lt hn)
      rw [blocksF_eq] at hf ⊢
      cases f with
      | zero => split at hf <;> exact absurd hf (Nat.not_succ_le_zero _)
      | succ f =>
        by_cases hb : g = 0 ∨ b.length ≤ B + 1
        · rw [if_pos hb]
          exact ⟨m, deliverF_final f b t m, fun _ h => Nat.lt_of_add_lt_add_right (n := 2) h,
            fun h => Nat.le_of_add_le_add_right (b := 2) h⟩
        · rw [if_neg hb] at hf ⊢
          obtain ⟨hg, hb⟩ := not_or.mp hb
          have hlt : B + 1 < b.length := Nat.lt_of_not_le hb
          have hd : (b.take (B + 1)).length = B + 1 := List.length_take_of_le (Nat.le_of_lt hlt)
          simp only [List.cons_append, List.append_assoc, List.take_succ_cons, List.length_cons,
            List.length_append, hd] at hf ⊢
          rw [deliverF_cont f hd]
          -- cut inside the data of this block, or (`m = B + 1 + j`) this block read in full and the
          -- rest, cut after `j`, by induction
          by_cases hm : m < B + 1
          · rw [if_pos hm, List.take_take, Nat.min_eq_left (Nat.le_of_lt hm)]
            exact ⟨m, rfl, fun _ _ => Nat.lt_trans hm hlt,
              fun h => absurd (Nat.le_trans (Nat.le_add_right _ _)
                (Nat.le_of_add_le_add_right (b := 2) h)) (Nat.not_le_of_lt hm)⟩
          · obtain ⟨j, rfl⟩ := Nat.exists_eq_add_of_le (Nat.le_of_not_lt hm)
            rw [List.take_append, hd, Nat.add_sub_cancel_left, List.length_append] at hf
            obtain ⟨k, hk, h2, h3⟩ := ih (g - 1) (Nat.sub_lt (Nat.pos_of_ne_zero hg) Nat.one_pos)
              (b.drop (B + 1)) t j f
              (Nat.le_trans (Nat.le_add_left _ _) (Nat.le_of_succ_le (Nat.le_of_succ_le_succ hf)))
            rw [if_neg hm, Nat.add_sub_cancel_left, hk]
            rw [List.length_drop] at h2 h3
            simp only [Nat.add_assoc, Nat.add_lt_add_iff_left, Nat.add_lt_add_iff_right,
              Nat.add_le_add_iff_left, Nat.add_le_add_iff_right]
            exact ⟨B + 1 + k, List.take_add.symm,
              fun _ h => Nat.add_lt_of_lt_sub' (h2 (mt List.drop_eq_nil_iff.mp hb) h),
              fun h => Nat.sub_le_iff_le_add'.mp (h3 h)⟩

theorem pack_eq (B : Nat) (b : List Sym) :
    pack B b = 31 :: 139 :: 8 :: (blocksF B b.length b ++ trailer b) := by
  simp [pack, header, blocks]

theorem pack_length (B : Nat) (b : List Sym) : (pack B b).length = (blocks B b).length + 2 + 3 := by
  rw [pack_eq, List.length_cons, List.length_cons, List.length_cons, List.length_append]
  rfl

/-- The incremental reader on the first `n` symbols of a packed file: rejected inside the header,
afterwards a prefix of the true body, the whole body exactly from the end of the block stream on. -/
theorem deliver_take (B : Nat) (b : List Sym) (n : Nat) :
    (n < 3 ∧ deliver ((pack B b).take n) = none) ∨
    (3 ≤ n ∧ ∃ k, deliver ((pack B b).take n) = some (b.take k) ∧
      (b ≠ [] → n < (blocks B b).length + 3 → k < b.length) ∧
      ((blocks B b).length + 3 ≤ n → b.length ≤ k)) := by
  rw [pack_eq]
  match n with
  | 0 => exact .inl ⟨by decide, rfl⟩
  | 1 => exact .inl ⟨by decide, rfl⟩
  | 2 => exact .inl ⟨by decide, rfl⟩
  | m + 3 =>
    obtain ⟨k, hk, h2, h3⟩ := deliverF_take B b.length b (trailer b) m
      ((31 :: 139 :: 8 :: (blocksF B b.length b ++ trailer b)).take (m + 3)).length
      (Nat.le_add_right _ 3) -- the fuel is the length of the cut file: three more than needed
    exact .inr ⟨Nat.le_add_left 3 m, k, (if_pos rfl).trans (congrArg some hk),
      fun hb hn => h2 hb (Nat.lt_of_add_lt_add_right hn),
      fun hn => h3 (Nat.le_of_add_le_add_right hn)⟩

theorem parseF_short (f : Nat) {s : List Sym} (h : s.length < 2) : parseF f s = none := by
  match f, s with
  | 0, _ => rfl
  | _ + 1, [] => rfl
  | _ + 1, [_] => rfl
  | _ + 1, _ :: _ :: _ => exact absurd h (by simp)

theorem parseF_final (f : Nat) (b t : List Sym) (m : Nat) :
    parseF (f + 1) (1 :: b.length :: (b ++ t).take m)
      = if m < b.length then none else some (b, t.take (m - b.length)) := by
  by_cases h : m < b.length
  · rw [if_pos h]
    exact if_pos (Nat.lt_of_le_of_lt (List.length_take_le _ _) h)
  · rw [if_neg h, List.take_append, List.take_of_length_le (Nat.le_of_not_lt h)]
    refine (if_neg ?_).trans ((if_pos rfl).trans ?_)
    · exact List.length_append ▸ Nat.not_lt_of_le (Nat.le_add_right _ _)
    · rw [List.take_left' rfl, List.drop_left' rfl]

theorem parseF_cont (f : Nat) {d : List Sym} {l : Nat} (hd : d.length = l) (r : List Sym) (m : Nat) :
    parseF (f + 1) (0 :: l :: (d ++ r).take m)
      = if m < l then none else (parseF f (r.take (m - l))).map fun p => (d ++ p.1, p.2) := by
  subst hd
  by_cases h : m < d.length
  · rw [if_pos h]
    exact if_pos (Nat.lt_of_le_of_lt (List.length_take_le _ _) h)
  · rw [if_neg h, List.take_append, List.take_of_length_le (Nat.le_of_not_lt h)]
    refine (if_neg ?_).trans ((if_neg Nat.zero_ne_one).trans ((if_pos rfl).trans ?_))
    · exact List.length_append ▸ Nat.not_lt_of_le (Nat.le_add_right _ _)
    · rw [List.take_left' rfl, List.drop_left' rfl]
      cases parseF f (r.take (m - d.length)) <;> rfl

/-- The strict block parser on the first `n` symbols of a block stream followed by `t`: nothing
while a symbol of the block stream is missing, afterwards the body and the part of `t` read. -/
theorem parseF_take (B : Nat) : ∀ (g : Nat) (b t : List Sym) (n f : Nat),
    ((blocksF B g b ++ t).take n).length ≤ f →
    parseF f ((blocksF B g b ++ t).take n)
      = if n < (blocksF B g b).length then none else some (b, t.take (n - (blocksF B g b).length)) := by
  intro g
  induction g using Nat.strongRecOn with
  | _ g ih =>
    intro b t n f hf
    by_cases hn : n < 2
    · rw [if_pos (Nat.lt_of_lt_of_le hn (blocksF_length_ge B g b)),
        parseF_short f (Nat.lt_of_le_of_lt (List.length_take_le _ _) hn)]
    · obtain ⟨m, rfl⟩ := Nat.exists_eq_add_of_le' (Nat.le_of_not_lt hn)
      rw [blocksF_eq] at hf ⊢
      cases f with
      | zero => split at hf <;> exact absurd hf (Nat.not_succ_le_zero _)
      | succ f =>
        by_cases hb : g = 0 ∨ b.length ≤ B + 1
        · simp only [if_pos hb, List.length_cons, Nat.add_sub_add_right, Nat.add_lt_add_iff_right]
          exact parseF_final f b t m
        · rw [if_neg hb] at hf ⊢
          obtain ⟨hg, hb⟩ := not_or.mp hb
          have hd : (b.take (B + 1)).length = B + 1 :=
            List.length_take_of_le (Nat.le_of_lt (Nat.lt_of_not_le hb))
          simp only [List.cons_append, List.append_assoc, List.take_succ_cons, List.length_cons,
            List.length_append, hd] at hf ⊢
          rw [parseF_cont f hd]
          -- cut inside the data of this block, or (`m = B + 1 + j`) this block read in full and the
          -- rest, cut after `j`, by induction
          by_cases hm : m < B + 1
          · rw [if_pos hm, if_pos (Nat.add_lt_add_right (Nat.lt_add_right _ hm) 2)]
          · obtain ⟨j, rfl⟩ := Nat.exists_eq_add_of_le (Nat.le_of_not_lt hm)
            rw [List.take_append, hd, Nat.add_sub_cancel_left, List.length_append] at hf
            rw [if_neg hm, Nat.add_sub_cancel_left,
              ih (g - 1) (Nat.sub_lt (Nat.pos_of_ne_zero hg) Nat.one_pos) (b.drop (B + 1)) t j f
                (Nat.le_trans (Nat.le_add_left _ _)
                  (Nat.le_of_succ_le (Nat.le_of_succ_le_succ hf)))]
            simp only [Nat.add_assoc, Nat.add_lt_add_iff_left, Nat.add_lt_add_iff_right,
              Nat.add_sub_add_left, Nat.add_sub_add_right]
            split
            · rfl
            · simp only [Option.map_some, List.take_append_drop]

/-- the strict reader accepts exactly the complete file -/
theorem unpack_take (B : Nat) (b : List Sym) (n : Nat) :
    unpack ((pack B b).take n) = if (pack B b).length ≤ n then some b else none := by
  rw [pack_length, pack_eq, blocks]
  match n with
  | 0 => rfl
  | 1 => rfl
  | 2 => rfl
  | m + 3 =>
    have p := parseF_take B b.length b (trailer b) m
      ((31 :: 139 :: 8 :: (blocksF B b.length b ++ trailer b)).take (m + 3)).length
      (Nat.le_add_right _ 3) -- the fuel is the length of the cut file: three more than needed
    refine (if_pos rfl).trans ?_
    show (match parseF _ ((blocksF B b.length b ++ trailer b).take m) with
      | some (p, [c, l]) => if c = checksum p ∧ l = p.length then some p else none
      | _ => none) = _
    rw [p]
    simp only [Nat.add_le_add_iff_right]
    by_cases h : m < (blocksF B b.length b).length
    · rw [if_pos h, if_neg (Nat.not_le_of_lt (Nat.lt_add_right 2 h))]
    · obtain ⟨j, rfl⟩ := Nat.exists_eq_add_of_le (Nat.le_of_not_lt h)
      simp only [if_neg h, Nat.add_sub_cancel_left, Nat.add_le_add_iff_left]
      -- the trailer is accepted only when both of its symbols are there
      obtain _ | _ | j := j
      · rfl
      · rfl
      · simp [trailer]

end PhyModel.Framing
