import PhyModel.Proofs.PGPrec
import PhyModel.Proofs.MovesDpForest
/-! # C01 instance: peeling the last data point off a tree.

A well-formed tree `x` (`WFT`) in which the data point `i` sits in the outlier set or in a top-level
clone is a permitted placement of `i` on a smaller well-formed tree (`peel`).  This is the step of the
second half of `reachable_iff_order`. -/

namespace PhyModel.PG
open Orders Orders.Forest Proposal PGSpec Canon

/-- well-formed tree: canonical form, no empty clone, distinct data indices below the sentinel,
no outliers when outlier modelling is off -/
structure WFT (c : Cfg) (x : T) : Prop where
  canon : T.mk' x.f x.out = x
  ne : AllNonempty x.f
  nodup : (x.f.all ++ x.out).Nodup
  big : ∀ a ∈ x.f.all ++ x.out, a < Forest.big
  out : c.op = 0 → x.out = []

theorem WFT.canon_f {c : Cfg} {x : T} (w : WFT c x) : Forest.canon x.f = x.f := by
  have := w.canon
  unfold T.mk' at this
  exact congrArg T.f this

theorem WFT.sort_out {c : Cfg} {x : T} (w : WFT c x) : sortNat x.out = x.out := by
  have := w.canon
  unfold T.mk' at this
  exact congrArg T.out this

theorem WFT.wf {c : Cfg} {x : T} (w : WFT c x) : Canon.WF x.f :=
  ⟨(List.nodup_append.mp w.nodup).1, (ne_iff _).mp w.ne, fun a ha => w.big a (List.mem_append_left _ ha)⟩

theorem eqv_ofRoots_map_cn : ∀ l : List (List ℕ × DF), Eqv (ofRoots (l.map cn)) (ofRoots l)
  | [] => Eqv.refl _
  | (d, k) :: l => by
    simp only [List.map_cons, ofRoots, cn]
    exact .cons (sortNat_perm d) (canon_eqv k) (eqv_ofRoots_map_cn l)

theorem addAt_append (i : ℕ) (a : List ℕ × DF) : ∀ (s t : List (List ℕ × DF)),
    addAt i s.length (s ++ a :: t) = s ++ (a.1 ++ [i], a.2) :: t
  | [], t => by obtain ⟨d, k⟩ := a; rfl
  | x :: s, t => by
    simp only [List.cons_append, List.length_cons, addAt, addAt_append i a s t]

theorem addAt_of_perm (i : ℕ) {l rest : List (List ℕ × DF)} {a : List ℕ × DF} (h : l.Perm (a :: rest)) :
    ∃ j, j < l.length ∧ (addAt i j l).Perm ((a.1 ++ [i], a.2) :: rest) := by
  have ha : a ∈ l := h.mem_iff.mpr List.mem_cons_self
  obtain ⟨s, t, rfl⟩ := List.append_of_mem ha
  have hst : (s ++ t).Perm rest := List.Perm.cons_inv (List.perm_middle.symm.trans h)
  refine ⟨s.length, by simp, ?_⟩
  rw [addAt_append]
  exact List.perm_middle.trans (List.Perm.cons _ hst)

theorem mem_splits_cons {α : Type} {a : α} {l : List α} {cr : List α × List α} :
    cr ∈ splits (a :: l) ↔ ∃ c ∈ splits l, cr = (a :: c.1, c.2) ∨ cr = (c.1, a :: c.2) := by
  simp only [splits, List.mem_flatMap, List.mem_cons, List.not_mem_nil, or_false]

theorem exists_split_of_perm {α : Type} : ∀ (l X Y : List α), l.Perm (X ++ Y) →
    ∃ cr ∈ splits l, cr.1.Perm X ∧ cr.2.Perm Y
  | [], X, Y, h => by
    obtain ⟨rfl, rfl⟩ := List.append_eq_nil_iff.mp h.symm.eq_nil
    exact ⟨([], []), List.mem_singleton_self _, List.Perm.refl _, List.Perm.refl _⟩
  | a :: l, X, Y, h => by
    -- `a` goes to the side that holds it
    rcases List.mem_append.mp (h.mem_iff.mp List.mem_cons_self) with haX | haY
    · obtain ⟨s, t, rfl⟩ := List.append_of_mem haX
      have h' : l.Perm ((s ++ t) ++ Y) := by
        refine List.Perm.cons_inv (a := a) (h.trans ?_)
        rw [List.append_assoc, List.append_assoc]
        exact List.perm_middle
      obtain ⟨cr, hcr, h1, h2⟩ := exists_split_of_perm l _ _ h'
      exact ⟨(a :: cr.1, cr.2), mem_splits_cons.mpr ⟨cr, hcr, Or.inl rfl⟩,
        (List.Perm.cons a h1).trans List.perm_middle.symm, h2⟩
    · obtain ⟨s, t, rfl⟩ := List.append_of_mem haY
      have h' : l.Perm (X ++ (s ++ t)) := by
        refine List.Perm.cons_inv (a := a) (h.trans ?_)
        rw [← List.append_assoc, ← List.append_assoc]
        exact List.perm_middle
      obtain ⟨cr, hcr, h1, h2⟩ := exists_split_of_perm l _ _ h'
      exact ⟨(cr.1, a :: cr.2), mem_splits_cons.mpr ⟨cr, hcr, Or.inr rfl⟩, h1,
        (List.Perm.cons a h2).trans List.perm_middle.symm⟩

theorem eq_singleton_of_filter {i : ℕ} {d : List ℕ} (hn : d.Nodup) (hi : i ∈ d)
    (hf : d.filter (· != i) = []) : d = [i] := by
  have := Canon.filter_ne_append_perm hn hi
  rw [hf, List.nil_append] at this
  exact List.perm_singleton.mp this.symm

theorem mk'_eq_of_eqv {c : Cfg} {x : T} (w : WFT c x) {F : DF} {o : List ℕ} (hF : Eqv x.f F)
    (ho : o.Perm x.out) : T.mk' F o = x := by
  have h1 : Forest.canon F = x.f := by rw [← canon_congr hF w.wf, w.canon_f]
  have h2 : sortNat o = x.out := by rw [sortNat_perm_eq ho, w.sort_out]
  unfold T.mk'
  rw [h1, h2]

/-- a parent of a well-formed tree is well formed as soon as it is canonical, has no empty clone and
respects the outlier setting -/
theorem wft_of_child {c : Cfg} {p x : T} {i : ℕ} (hx : x ∈ children c p i) (w : WFT c x)
    (hc : T.mk' p.f p.out = p) (hne : AllNonempty p.f) (hout : c.op = 0 → p.out = []) : WFT c p := by
  obtain ⟨kt, hkt, _, rfl⟩ := mem_children.mp hx
  have hp := placement_perm p i kt hkt
  refine ⟨hc, hne, ?_, ?_, hout⟩
  · have := hp.nodup_iff.mp w.nodup
    exact (List.nodup_append.mp this).1
  · intro a ha
    exact w.big a (hp.mem_iff.mpr (List.mem_append_left _ ha))

theorem nodup_root_data {f : DF} (hn : f.all.Nodup) {A B : List (List ℕ × DF)} {d : List ℕ} {k : DF}
    (hr : f.roots = A ++ (d, k) :: B) : d.Nodup := by
  rw [all_eq_flatMap_roots, hr, List.flatMap_append, List.flatMap_cons] at hn
  have h1 := (List.nodup_append.mp hn).2.1
  have h2 := (List.nodup_append.mp h1).1
  exact (List.nodup_append.mp h2).2.1

theorem roots_mk'_perm {R R' : List (List ℕ × DF)} (h : R.Perm R') (o : List ℕ) :
    (T.mk' (ofRoots R) o).f.roots.Perm (R'.map cn) := by
  show (Forest.canon (ofRoots R)).roots.Perm _
  rw [canon_ofRoots, roots_ofRoots]
  exact (perm_sortRoots _).trans (h.map cn)

theorem wft_mk'_ofRoots {c : Cfg} {x : T} (w : WFT c x) {R : List (List ℕ × DF)}
    (hR : ∀ y ∈ R, y.1 ≠ [] ∧ AllNonempty y.2) {i : ℕ} (hch : x ∈ children c (T.mk' (ofRoots R) x.out) i) :
    WFT c (T.mk' (ofRoots R) x.out) := by
  refine wft_of_child hch w (mk'_idem _ _) (allNonempty_canon _ ((allNonempty_ofRoots _).mpr hR)) fun h0 => ?_
  show sortNat x.out = []
  rw [w.out h0]
  rfl

/-- **peeling**: see the file header -/
theorem peel {c : Cfg} {x : T} (w : WFT c x) {i : ℕ}
    (htop : i ∈ x.out ∨ ∃ r ∈ x.f.roots, i ∈ r.1) : ∃ p, WFT c p ∧ x ∈ children c p i := by
  have hroots := (allNonempty_iff_roots x.f).mp w.ne
  rcases htop with hio | ⟨⟨d, k⟩, hr, hid⟩
  · have hop : c.op ≠ 0 := fun h0 => by rw [w.out h0] at hio; exact absurd hio List.not_mem_nil
    have hno : x.out.Nodup := (List.nodup_append.mp w.nodup).2.1
    have hx : outT (T.mk' x.f (x.out.filter (· != i))) i = x := by
      show T.mk' (Forest.canon x.f) (sortNat (x.out.filter (· != i)) ++ [i]) = x
      apply mk'_eq_of_eqv w (canon_eqv _).symm
      exact ((sortNat_perm _).append_right _).trans (Canon.filter_ne_append_perm hno hio)
    have hch : x ∈ children c _ i := hx ▸ mem_children_cases.mpr (Or.inr (Or.inr ⟨hop, rfl⟩))
    exact ⟨_, wft_of_child hch w (mk'_idem _ _) (allNonempty_canon _ w.ne) (fun h0 => absurd h0 hop), hch⟩
  · obtain ⟨A, B, hAB⟩ := List.append_of_mem hr
    have hA : ∀ y ∈ A, y ∈ x.f.roots := fun y hy => hAB ▸ List.mem_append_left _ hy
    have hB : ∀ y ∈ B, y ∈ x.f.roots := fun y hy => hAB ▸ List.mem_append_right _ (List.mem_cons_of_mem _ hy)
    have hdn : d.Nodup := nodup_root_data (List.nodup_append.mp w.nodup).1 hAB
    have hmid : Eqv x.f (ofRoots ((d, k) :: (A ++ B))) := by
      rw [← ofRoots_roots x.f, hAB]
      exact eqv_ofRoots_perm List.perm_middle
    by_cases hd' : d.filter (· != i) = []
    · -- the clone held `i` only: it was created for `i`, above the clones `k.roots`
      obtain rfl : d = [i] := eq_singleton_of_filter hdn hid hd'
      have hR := roots_mk'_perm (R := A ++ k.roots ++ B) (R' := k.roots ++ (A ++ B))
        ((List.perm_append_comm.append_right B).trans (by rw [List.append_assoc])) x.out
      rw [List.map_append] at hR
      obtain ⟨cr, hcr, h1, h2⟩ := exists_split_of_perm _ _ _ hR
      have hx : newT (T.mk' (ofRoots (A ++ k.roots ++ B)) x.out) i cr = x := by
        show T.mk' (ofRoots (([i], ofRoots cr.1) :: cr.2)) (sortNat x.out) = x
        apply mk'_eq_of_eqv w _ (sortNat_perm _)
        refine hmid.trans (.cons (List.Perm.refl _) ?_ ?_)
        · have := (eqv_ofRoots_perm h1).trans (eqv_ofRoots_map_cn k.roots)
          rw [ofRoots_roots] at this
          exact this.symm
        · exact ((eqv_ofRoots_perm h2).trans (eqv_ofRoots_map_cn _)).symm
      have hch : x ∈ children c _ i := hx ▸ mem_children_cases.mpr (Or.inr (Or.inl ⟨cr, hcr, rfl⟩))
      refine ⟨_, wft_mk'_ofRoots w (fun y hy => ?_) hch, hch⟩
      rcases List.mem_append.mp hy with hy | hy
      · rcases List.mem_append.mp hy with hy | hy
        · exact hroots y (hA y hy)
        · exact (allNonempty_iff_roots k).mp (hroots _ hr).2 y hy
      · exact hroots y (hB y hy)
    · -- the clone holds other data: `i` joined the existing clone
      have hR := roots_mk'_perm (R := A ++ (d.filter (· != i), k) :: B) List.perm_middle x.out
      obtain ⟨j, hj, hperm⟩ := addAt_of_perm i hR
      have hx : exT (T.mk' (ofRoots (A ++ (d.filter (· != i), k) :: B)) x.out) i j = x := by
        show T.mk' (ofRoots (addAt i j _)) (sortNat x.out) = x
        apply mk'_eq_of_eqv w _ (sortNat_perm _)
        refine hmid.trans (Eqv.trans ?_ (eqv_ofRoots_perm hperm).symm)
        refine .cons ?_ (canon_eqv k).symm (eqv_ofRoots_map_cn _).symm
        exact (Canon.filter_ne_append_perm hdn hid).symm.trans ((sortNat_perm _).symm.append_right _)
      have hch : x ∈ children c _ i := hx ▸ mem_children_cases.mpr (Or.inl ⟨j, hj, rfl⟩)
      refine ⟨_, wft_mk'_ofRoots w (fun y hy => ?_) hch, hch⟩
      rcases List.mem_append.mp hy with hy | hy
      · exact hroots y (hA y hy)
      · rcases List.mem_cons.mp hy with rfl | hy
        · exact ⟨hd', (hroots _ hr).2⟩
        · exact hroots y (hB y hy)

end PhyModel.PG
