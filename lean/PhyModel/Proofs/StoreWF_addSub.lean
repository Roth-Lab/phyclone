import PhyModel.Proofs.StoreWF_Facts
/-! `Tree.add_subtree` (C07): grafting a well-formed subtree whose clone data are not yet in the tree
preserves the invariant `Inv0` (`Dense` is not preserved), appends the clone-side data of the subtree
to `_data` (the subtree's outliers are dropped, as in the code), leaves the outliers alone and keeps payload
lists equal to `_data` lists (`Aligned`).
`Full s` is needed: a clone of `s` without `_data` key would make the clash test of
`relabelGrafted` miss a clash.
`Tree._relabel_grafted_subtree_nodes` first: under the loop invariant "every key of `_data` is at
most `firstLabel`" each chosen name is new, so the four maps are extended by appends. -/
namespace PhyModel.Store
open Store.Store SF AL

/-! ### `relabelGrafted` -/

theorem listMaxInt_ge (l : List Int) (m : Int) :
    m ≤ listMaxInt l m ∧ ∀ a ∈ l, a ≤ listMaxInt l m := by
  induction l generalizing m with
  | nil => exact ⟨Int.le_refl m, fun _ h => nomatch h⟩
  | cons a l ih =>
    simp only [listMaxInt]
    have hx : m ≤ (if a > m then a else m) ∧ a ≤ (if a > m then a else m) := by
      split
      · exact ⟨Int.le_of_lt ‹_›, Int.le_refl _⟩
      · exact ⟨Int.le_refl _, Int.not_lt.1 ‹_›⟩
    generalize (if a > m then a else m) = x at hx ⊢
    obtain ⟨h1, h2⟩ := ih x
    refine ⟨Int.le_trans hx.1 h1, fun b hb => ?_⟩
    rcases List.mem_cons.1 hb with rfl | hb
    · exact Int.le_trans hx.2 h1
    · exact h2 b hb

/-- the four maps after relabelling the grafted payloads `L.map (·.1)` with the names `L.map (·.2)` -/
def relabelOut (sub : Store) (L : List (NodeRec × Int)) (data : List (Int × List Nat))
    (ni : List (Int × Nat)) (nir ren : List (Nat × Int)) :
    List (Int × List Nat) × List (Int × Nat) × List (Nat × Int) × List (Nat × Int) :=
  (data ++ L.map (fun p => (p.2, sub.dataOf p.1.name)), ni ++ L.map (fun p => (p.2, p.1.idx)),
    nir ++ L.map (fun p => (p.1.idx, p.2)), ren ++ L.map (fun p => (p.1.idx, p.2)))

theorem relabelGrafted_spec (sub : Store) (rs : List NodeRec) (fl : Int) (data : List (Int × List Nat))
    (ni : List (Int × Nat)) (nir ren : List (Nat × Int))
    (hfl : -1 ≤ fl) (ha : ∀ k ∈ keys data, k ≤ fl) (hb : ∀ n ∈ rs, 0 ≤ n.name ∧ n.name ≤ fl)
    (hc : ∀ k ∈ keys ni, k ∈ keys data) (hd : ∀ n ∈ rs, n.idx ∉ keys nir)
    (hnd : (rs.map (·.idx)).Nodup) :
    ∃ L : List (NodeRec × Int), L.map (·.1) = rs ∧
      relabelGrafted sub rs fl data ni nir ren = relabelOut sub L data ni nir ren ∧
      (L.map (·.2)).Nodup ∧ ∀ nm ∈ L.map (·.2), nm ∉ keys data ∧ 0 ≤ nm := by
  induction rs generalizing fl data ni nir ren with
  | nil =>
    exact ⟨[], rfl, by simp only [relabelGrafted, relabelOut, List.map_nil, List.append_nil], List.nodup_nil,
      fun _ h => nomatch h⟩
  | cons n rest ih =>
    simp only [List.map_cons, List.nodup_cons] at hnd
    obtain ⟨hb0, hb1⟩ := hb n List.mem_cons_self
    -- the chosen name and the next label
    obtain ⟨fl', nm, hstep, hfl', hnmk, hnm0, hnmfl⟩ :
        ∃ fl' nm, relabelGrafted sub (n :: rest) fl data ni nir ren =
            relabelGrafted sub rest fl' (alSet data nm (sub.dataOf n.name)) (alSet ni nm n.idx)
              (alSet nir n.idx nm) (ren ++ [(n.idx, nm)]) ∧
          fl ≤ fl' ∧ nm ∉ keys data ∧ 0 ≤ nm ∧ nm ≤ fl' := by
      cases hcl : alHas data n.name with
      | true =>
        refine ⟨fl + 1, fl + 1, by simp [relabelGrafted, hcl], by omega, fun hk => ?_, by omega, Int.le_refl _⟩
        exact absurd (ha _ hk) (Int.not_le.2 (Int.lt_succ fl))
      | false =>
        exact ⟨fl, n.name, by simp [relabelGrafted, hcl], Int.le_refl _, alHas_false_iff.1 hcl, hb0, hb1⟩
    have hnmni : nm ∉ keys ni := fun hk => hnmk (hc nm hk)
    have hnir : n.idx ∉ keys nir := hd n List.mem_cons_self
    obtain ⟨L, hL1, hL2, hL3, hL4⟩ := ih fl' (alSet data nm (sub.dataOf n.name)) (alSet ni nm n.idx)
      (alSet nir n.idx nm) (ren ++ [(n.idx, nm)]) (Int.le_trans hfl hfl')
      (fun k hk => by
        rcases (mem_keys_alSet _).1 hk with rfl | hk
        · exact hnmfl
        · exact Int.le_trans (ha k hk) hfl')
      (fun m hm => ⟨(hb m (List.mem_cons_of_mem _ hm)).1, Int.le_trans (hb m (List.mem_cons_of_mem _ hm)).2 hfl'⟩)
      (fun k hk => (mem_keys_alSet _).2 (((mem_keys_alSet _).1 hk).imp id (hc k)))
      (fun m hm hk => by
        rcases (mem_keys_alSet _).1 hk with hk | hk
        · exact hnd.1 (hk ▸ List.mem_map.2 ⟨m, hm, rfl⟩)
        · exact hd m (List.mem_cons_of_mem _ hm) hk)
      hnd.2
    refine ⟨(n, nm) :: L, by simp [hL1], ?_, List.nodup_cons.2 ⟨fun hm => (hL4 nm hm).1 ?_, hL3⟩, fun k hk => ?_⟩
    · rw [hstep, hL2, alSet_of_not_mem _ hnmk, alSet_of_not_mem _ hnmni, alSet_of_not_mem _ hnir]
      simp [relabelOut]
    · exact (mem_keys_alSet _).2 (Or.inl rfl)
    · rcases List.mem_cons.1 hk with rfl | hk
      · exact ⟨hnmk, hnm0⟩
      · exact ⟨fun hkd => (hL4 k hk).1 ((mem_keys_alSet _).2 (Or.inr hkd)), (hL4 k hk).2⟩

/-! ### the graft -/

/-- the store `add_subtree` hands to `_update_path_to_root`, as a function of the grafted forest -/
def graftMid (s sub : Store) (f1 : SF) : Store :=
  let r := relabelGrafted sub (reindex sub.forest s.fresh).1.recs (listMaxInt (f1.names ++ sub.nodes) (-1))
    s.data s.nodeIdx s.nodeIdxRev []
  { forest := f1.mapRecs fun n => match r.2.2.2.lookup n.idx with
      | some nm => { n with name := nm }
      | none => n,
    rootR := s.rootR, nodeIdx := r.2.1, nodeIdxRev := r.2.2.1, data := r.1, last := sub.last }

theorem addSubtree_some {dt : Data} {s sub s' : Store} {pn : Int}
    (h : s.addSubtree dt sub (some pn) = some s') :
    ∃ pi x f1 pr kk, s.nodeIdx.lookup pn = some pi ∧ s.forest.findSub pi = some x ∧
      f1 = SF.graftAt pi (reindex sub.forest s.fresh).1 s.forest ∧
      (graftMid s sub f1).forest.findSub pi = some (pr, kk) ∧
      updatePathToRoot dt (graftMid s sub f1) (some pr.name) = some s' := by
  unfold addSubtree at h
  obtain ⟨pi, hpi, h⟩ := Option.bind_eq_some_iff.1 h
  obtain ⟨x, hx, h⟩ := Option.bind_eq_some_iff.1 h
  obtain ⟨f1, hf1, h⟩ := Option.bind_eq_some_iff.1 h
  cases hf1
  obtain ⟨pi', hpi', h⟩ := Option.bind_eq_some_iff.1 h
  obtain ⟨pr, hpr, hup⟩ := Option.bind_eq_some_iff.1 h
  cases Option.some.inj (hpi'.symm.trans hpi)
  obtain ⟨kk, hfs⟩ := recAt_some hpr
  exact ⟨pi, x, _, pr, kk, hpi, hx, rfl, hfs, hup⟩

theorem addSubtree_mid {dt : Data} {s sub s' : Store} {parent : Option Int}
    (h : s.addSubtree dt sub parent = some s') :
    ∃ f1 src, (f1 = SF.append (reindex sub.forest s.fresh).1 s.forest ∨
        ∃ pi ∈ s.forest.idxs, f1 = SF.graftAt pi (reindex sub.forest s.fresh).1 s.forest) ∧
      updatePathToRoot dt (graftMid s sub f1) src = some s' := by
  cases parent with
  | none =>
    unfold addSubtree at h
    obtain ⟨f1, hf1, h⟩ := Option.bind_eq_some_iff.1 h
    cases hf1
    exact ⟨_, none, Or.inl rfl, h⟩
  | some pn =>
    obtain ⟨pi, x, f1, pr, _, _, hx, hf1, _, h⟩ := addSubtree_some h
    refine ⟨f1, some pr.name, Or.inr ⟨pi, ?_, hf1⟩, h⟩
    by_contra hc; rw [findSub_none_iff.2 hc] at hx; cases hx

/-- the grafted payloads under their new names -/
def renamed (L : List (NodeRec × Int)) : List NodeRec := L.map fun p => { p.1 with name := p.2 }

theorem graftMid_spec {s sub : Store} {f1 : SF} (hs : Inv0 s) (hsub : WF sub)
    (hperm : f1.recs.Perm ((reindex sub.forest s.fresh).1.recs ++ s.forest.recs)) :
    ∃ L : List (NodeRec × Int), L.map (·.1) = (reindex sub.forest s.fresh).1.recs ∧
      (L.map (·.2)).Nodup ∧ (∀ nm ∈ L.map (·.2), nm ∉ keys s.data ∧ 0 ≤ nm) ∧
      (graftMid s sub f1).data = s.data ++ L.map (fun p => (p.2, sub.dataOf p.1.name)) ∧
      (graftMid s sub f1).nodeIdx = s.nodeIdx ++ L.map (fun p => (p.2, p.1.idx)) ∧
      (graftMid s sub f1).nodeIdxRev = s.nodeIdxRev ++ L.map (fun p => (p.1.idx, p.2)) ∧
      (graftMid s sub f1).forest.recs.Perm (renamed L ++ s.forest.recs) ∧
      (∀ p ∈ L, dOf (graftMid s sub f1).data p.2 = sub.dataOf p.1.name ∧
        ∃ m ∈ sub.forest.recs, m.name = p.1.name ∧ m.dps = p.1.dps) ∧
      ∀ n ∈ s.forest.recs, dOf (graftMid s sub f1).data n.name = dOf s.data n.name := by
  obtain ⟨hw, hfull⟩ := hs
  have hmax := listMaxInt_ge (f1.names ++ sub.nodes) (-1)
  have hold : ∀ n ∈ s.forest.recs, n.idx < s.fresh := fun n hn => idx_lt_fresh hn
  have hnew : ∀ n ∈ (reindex sub.forest s.fresh).1.recs, s.fresh ≤ n.idx := fun n hn =>
    (reindex_idx_bounds hn).1
  obtain ⟨L, hL1, hL2, hL3, hL4⟩ := relabelGrafted_spec sub (reindex sub.forest s.fresh).1.recs
    (listMaxInt (f1.names ++ sub.nodes) (-1)) s.data s.nodeIdx s.nodeIdxRev [] hmax.1
    (fun k hk => by
      rcases hw.d.data_sub k hk with rfl | hk'
      · exact hmax.1
      · refine hmax.2 k (List.mem_append_left _ ?_)
        obtain ⟨n, hn, rfl⟩ := List.mem_map.1 hk'
        exact mem_names.2 ⟨n, hperm.symm.subset (List.mem_append_right _ hn), rfl⟩)
    (fun n hn => by
      have h1 : n.name ∈ sub.forest.names := by
        rw [← reindex_names sub.forest s.fresh]; exact List.mem_map_of_mem hn
      obtain ⟨m, hm, hmn⟩ := mem_names.1 h1
      exact ⟨hmn ▸ hsub.name_nonneg m hm, hmax.2 _ (List.mem_append_right _ h1)⟩)
    (fun k hk => by
      obtain ⟨e, he, rfl⟩ := List.mem_map.1 hk
      obtain ⟨n, hn, h1, _⟩ := (hw.nodeIdx_iff e.1 e.2).1 he
      exact h1 ▸ hfull n hn)
    (fun n hn hk => by
      obtain ⟨e, he, h1⟩ := List.mem_map.1 hk
      obtain ⟨m, hm, _, h2⟩ := (hw.nodeIdxRev_iff e.1 e.2).1 he
      exact absurd ((h2.trans h1) ▸ hold m hm) (Nat.not_lt.2 (hnew n hn)))
    (reindex_idxs_nodup _ _)
  have hd : (graftMid s sub f1).data = s.data ++ L.map (fun p => (p.2, sub.dataOf p.1.name)) := by
    simp only [graftMid, hL2, relabelOut]
  refine ⟨L, hL1, hL3, hL4, hd, ?_, ?_, ?_, fun p hp => ⟨?_, ?_⟩, fun n hn => ?_⟩
  · simp only [graftMid, hL2, relabelOut]
  · simp only [graftMid, hL2, relabelOut]
  · simp only [graftMid, hL2, relabelOut, recs_mapRecs, List.nil_append]
    refine (hperm.map _).trans ?_
    rw [List.map_append]
    have hkeys : keys (L.map fun p => (p.1.idx, p.2)) = (reindex sub.forest s.fresh).1.idxs := by
      rw [keys_map_pair, SF.idxs, ← hL1, List.map_map]; rfl
    have h1 : s.forest.recs.map (fun n => match (L.map fun p => (p.1.idx, p.2)).lookup n.idx with
        | some nm => { n with name := nm }
        | none => n) = s.forest.recs := by
      conv_rhs => rw [← List.map_id s.forest.recs]
      apply List.map_congr_left
      intro n hn
      have : (L.map fun p => (p.1.idx, p.2)).lookup n.idx = none := by
        rw [lookup_none_iff, hkeys]
        intro hc
        obtain ⟨m, hm, hmi⟩ := mem_idxs.1 hc
        exact absurd (hmi ▸ hnew m hm) (Nat.not_le.2 (hold n hn))
      simp [this]
    have h2 : (reindex sub.forest s.fresh).1.recs.map (fun n =>
        match (L.map fun p => (p.1.idx, p.2)).lookup n.idx with
        | some nm => { n with name := nm }
        | none => n) = renamed L := by
      rw [← hL1, List.map_map, renamed]
      apply List.map_congr_left
      intro p hp
      have : (L.map fun p => (p.1.idx, p.2)).lookup p.1.idx = some p.2 :=
        lookup_of_mem (hkeys ▸ reindex_idxs_nodup _ _) (List.mem_map_of_mem hp)
      simp [this]
    rw [h1, h2]
  · have hkn : (keys (L.map fun p => (p.2, sub.dataOf p.1.name))).Nodup := by rw [keys_map_pair]; exact hL3
    rw [hd, dOf, List.lookup_append, lookup_none_iff.2 (hL4 p.2 (List.mem_map_of_mem hp)).1, Option.none_or,
      lookup_of_mem hkn (List.mem_map_of_mem hp)]
    rfl
  · have := reindex_map (fun n => (n.name, n.dps)) (fun _ _ => rfl) sub.forest s.fresh
    obtain ⟨m, hm, he⟩ := List.mem_map.1 (this ▸ List.mem_map_of_mem (hL1 ▸ List.mem_map_of_mem hp))
    exact ⟨m, hm, (Prod.mk.inj he).1, (Prod.mk.inj he).2⟩
  · obtain ⟨v, hv⟩ := Option.isSome_iff_exists.1 (lookup_isSome_iff.2 (hfull n hn))
    rw [hd, dOf, dOf, List.lookup_append, hv, Option.some_or]

/-- the clone-side data of a store, as `Legal (.addSub ..)` lists them -/
def cloneData (sub : Store) : List Nat := sub.forest.recs.flatMap (fun n => sub.dataOf n.name)

theorem cloneData_eq (sub : Store) : cloneData sub = sub.forest.names.flatMap (dOf sub.data) := by
  simp only [cloneData, SF.names, List.flatMap_map]; rfl

theorem flatMap_relabelled {s sub : Store} {L : List (NodeRec × Int)}
    (hL : L.map (·.1) = (reindex sub.forest s.fresh).1.recs) :
    vals (L.map fun p => (p.2, sub.dataOf p.1.name)) = cloneData sub := by
  rw [cloneData_eq, ← reindex_names sub.forest s.fresh, SF.names, ← hL]
  simp only [vals, List.flatMap_map, List.map_map]; rfl

theorem graftMid_data {s sub : Store} {f1 : SF} (hs : Inv0 s) (hsub : WF sub)
    (hperm : f1.recs.Perm ((reindex sub.forest s.fresh).1.recs ++ s.forest.recs)) :
    vals (graftMid s sub f1).data = vals s.data ++ cloneData sub ∧
      (graftMid s sub f1).outliers = s.outliers := by
  obtain ⟨L, hL1, _, hL4, hd, _⟩ := graftMid_spec hs hsub hperm
  refine ⟨by rw [hd]; exact List.flatMap_append.trans (congrArg _ (flatMap_relabelled hL1)), ?_⟩
  show ((graftMid s sub f1).data.lookup outKey).getD [] = (s.data.lookup outKey).getD []
  have : (L.map fun p => (p.2, sub.dataOf p.1.name)).lookup outKey = none :=
    lookup_none_iff.2 fun hc => absurd (hL4 _ (keys_map_pair L _ _ ▸ hc)).2 (by decide)
  rw [hd, List.lookup_append, this, Option.or_none]

theorem graftMid_inv {s sub : Store} {f1 : SF} (hs : Inv0 s) (hsub : WF sub)
    (hperm : f1.recs.Perm ((reindex sub.forest s.fresh).1.recs ++ s.forest.recs))
    (hleg : ∀ d ∈ cloneData sub, d ∉ vals s.data) : Inv0 (graftMid s sub f1) := by
  obtain ⟨L, hL1, hL3, hL4, hd, hni, hnir, hf, hnew, hold'⟩ := graftMid_spec hs hsub hperm
  obtain ⟨hw, hfull⟩ := hs
  have hRn : (renamed L).map (·.name) = L.map (·.2) := List.map_map
  have hRi : (renamed L).map (·.idx) = (reindex sub.forest s.fresh).1.idxs := by
    rw [SF.idxs, ← hL1, List.map_map]; exact List.map_map
  have hkd : (L.map fun p => (p.2, sub.dataOf p.1.name)).map (·.1) = L.map (·.2) := List.map_map
  have hnewi : ∀ n ∈ renamed L, s.fresh ≤ n.idx := fun n hn => by
    have : n.idx ∈ (reindex sub.forest s.fresh).1.idxs := hRi ▸ List.mem_map.2 ⟨n, hn, rfl⟩
    obtain ⟨m, hm, hmi⟩ := mem_idxs.1 this
    exact hmi ▸ (reindex_idx_bounds hm).1
  have hG : WFG (renamed L ++ s.forest.recs) := by
    refine ⟨?_, ?_, fun n hn => ?_, fun n hn => ?_⟩
    · rw [List.map_append, hRn]
      refine List.nodup_append.2 ⟨hL3, hw.names_nodup, fun a ha b hb hab => ?_⟩
      obtain ⟨n, hn, rfl⟩ := List.mem_map.1 hb
      exact (hL4 a ha).1 (hab ▸ hfull n hn)
    · rw [List.map_append, hRi]
      refine List.nodup_append.2 ⟨reindex_idxs_nodup _ _, hw.idxs_nodup, fun a ha b hb hab => ?_⟩
      obtain ⟨n, hn, rfl⟩ := List.mem_map.1 hb
      obtain ⟨m, hm, rfl⟩ := mem_idxs.1 ha
      exact Nat.lt_irrefl _ (Nat.lt_of_lt_of_le (hab ▸ idx_lt_fresh hn) (reindex_idx_bounds hm).1)
    · rcases List.mem_append.1 hn with h | h
      · exact Nat.ne_of_gt (Nat.lt_of_lt_of_le (fresh_pos s) (hnewi n h))
      · exact hw.idx_pos n h
    · rcases List.mem_append.1 hn with h | h
      · exact (hL4 n.name (hRn ▸ List.mem_map.2 ⟨n, h, rfl⟩)).2
      · exact hw.name_nonneg n h
  have hM : WFM (renamed L ++ s.forest.recs) (graftMid s sub f1).nodeIdx (graftMid s sub f1).nodeIdxRev := by
    refine ⟨?_, ?_⟩
    · rw [hni, List.map_append, show (renamed L).map (fun n => (n.name, n.idx)) = _ from List.map_map]
      exact (hw.m.1.append_right _).trans List.perm_append_comm
    · rw [hnir, List.map_append, show (renamed L).map (fun n => (n.idx, n.name)) = _ from List.map_map]
      exact (hw.m.2.append_right _).trans List.perm_append_comm
  have hD : WFD (renamed L ++ s.forest.recs) (graftMid s sub f1).data := by
    refine ⟨?_, fun k hk => ?_, fun n hn => ?_, ?_⟩
    · rw [hd, keys, List.map_append]
      exact List.nodup_append.2 ⟨hw.data_keys, hkd ▸ hL3, fun a ha b hb hab => (hL4 b (hkd ▸ hb)).1 (hab ▸ ha)⟩
    · rw [hd, keys, List.map_append, List.mem_append] at hk
      rw [List.map_append, List.mem_append, hRn]
      rcases hk with hk | hk
      · exact (hw.d.data_sub k hk).imp id Or.inr
      · exact Or.inr (Or.inl (hkd ▸ hk))
    · rcases List.mem_append.1 hn with h | h
      · obtain ⟨p, hp, rfl⟩ := List.mem_map.1 h
        obtain ⟨m, hm, h1, h2⟩ := (hnew p hp).2
        show p.1.dps.Perm (dOf _ p.2)
        rw [(hnew p hp).1, ← h1, ← h2]; exact hsub.payload_data m hm
      · rw [hold' n h]; exact hw.payload_data n h
    · rw [(graftMid_data ⟨hw, hfull⟩ hsub hperm).1, cloneData_eq]
      exact List.nodup_append.2 ⟨hw.data_nodup, flatMap_dOf_nodup hsub.data_keys hsub.data_nodup hsub.names_nodup,
        fun a ha b hb hab => hleg b (cloneData_eq sub ▸ hb) (hab ▸ ha)⟩
  refine ⟨(wf_iff _).2 ⟨hG.perm hf, hM.perm hf, hD.perm hf⟩, fun n hn => ?_⟩
  rw [hd, List.map_append, List.mem_append]
  rcases List.mem_append.1 (hf.subset hn) with h | h
  · exact Or.inr (hkd ▸ hRn ▸ List.mem_map.2 ⟨n, h, rfl⟩)
  · exact Or.inl (hfull n h)

theorem graftMid_aligned {s sub : Store} {f1 : SF} (hs : Inv0 s) (hsub : WF sub)
    (hperm : f1.recs.Perm ((reindex sub.forest s.fresh).1.recs ++ s.forest.recs))
    (ha : Aligned s) (hb : Aligned sub) : Aligned (graftMid s sub f1) := by
  obtain ⟨L, _, _, _, _, _, _, hf, hnew, hold⟩ := graftMid_spec hs hsub hperm
  intro n hn
  rcases List.mem_append.1 (hf.subset hn) with h | h
  · obtain ⟨p, hp, rfl⟩ := List.mem_map.1 h
    obtain ⟨m, hm, h1, h2⟩ := (hnew p hp).2
    show p.1.dps = dOf _ p.2
    rw [(hnew p hp).1, ← h1, ← h2]; exact hb m hm
  · exact (ha n h).trans (hold n h).symm

/-- `add_subtree` = graft, relabel (`graftMid`), then refresh cached vectors -/
theorem addSubtree_mid' {dt : Data} {s sub s' : Store} {parent : Option Int}
    (h : s.addSubtree dt sub parent = some s') (hs : Inv0 s) :
    ∃ f1 src, f1.recs.Perm ((reindex sub.forest s.fresh).1.recs ++ s.forest.recs) ∧
      updatePathToRoot dt (graftMid s sub f1) src = some s' := by
  obtain ⟨f1, src, hf1, hu⟩ := addSubtree_mid h
  refine ⟨f1, src, ?_, hu⟩
  rcases hf1 with rfl | ⟨pi, hpi, rfl⟩
  · rw [recs_append]
  · exact graftAt_perm _ hs.1.idxs_nodup hpi

theorem addSubtree_inv {dt : Data} {s sub s' : Store} {parent : Option Int}
    (h : s.addSubtree dt sub parent = some s') (hs : Inv0 s) (hsub : WF sub)
    (hleg : ∀ d ∈ cloneData sub, d ∉ vals s.data) : Inv0 s' := by
  obtain ⟨f1, src, hperm, hu⟩ := addSubtree_mid' h hs
  obtain ⟨hw, hf⟩ := graftMid_inv hs hsub hperm hleg
  obtain ⟨h1, h2, _⟩ := updatePathToRoot_inv hu
  exact ⟨h1 hw, h2 hf⟩

/-- the outliers of the subtree are dropped, as in the code -/
theorem addSubtree_data_eq {dt : Data} {s sub s' : Store} {parent : Option Int}
    (h : s.addSubtree dt sub parent = some s') (hs : Inv0 s) (hsub : WF sub) :
    vals s'.data = vals s.data ++ cloneData sub := by
  obtain ⟨f1, src, hperm, hu⟩ := addSubtree_mid' h hs
  obtain ⟨_, _, _, hd, _⟩ := updatePathToRoot_spec hu
  rw [hd]; exact (graftMid_data hs hsub hperm).1

theorem addSubtree_outliers {dt : Data} {s sub s' : Store} {parent : Option Int}
    (h : s.addSubtree dt sub parent = some s') (hs : Inv0 s) (hsub : WF sub) :
    s'.outliers = s.outliers := by
  obtain ⟨f1, src, hperm, hu⟩ := addSubtree_mid' h hs
  obtain ⟨_, _, _, hd, _⟩ := updatePathToRoot_spec hu
  simp only [Store.outliers, Store.dataOf, hd]
  exact (graftMid_data hs hsub hperm).2

theorem addSubtree_aligned {dt : Data} {s sub s' : Store} {parent : Option Int}
    (h : s.addSubtree dt sub parent = some s') (hs : Inv0 s) (hsub : WF sub)
    (ha : Aligned s) (hb : Aligned sub) : Aligned s' := by
  obtain ⟨f1, src, hperm, hu⟩ := addSubtree_mid' h hs
  have hm := graftMid_aligned hs hsub hperm ha hb
  obtain ⟨hc, _, _, hd, _⟩ := updatePathToRoot_spec hu
  exact aligned_of_forest_data hm hc hd

end PhyModel.Store
