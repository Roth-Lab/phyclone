import PhyModel.Proofs.StoreCache_Rebuild
import PhyModel.Proofs.DFIso
/-! C06, vector arithmetic of the payload edits: `TreeNode.add_data_point(_list)` keeps a clone's own
`p`- and `r`-equation (both sides are multiplied by the data point's grid), `remove_data_point` keeps
the `p`-equation when the divided values are non-zero, a fresh `TreeNode` satisfies the `p`-equation. -/
namespace PhyModel.Store.C06

theorem getQ_pdiv (G : ℕ) (a b : Vec) (k : ℕ) (hk : k < G) :
    getQ (pdiv G a b) k = getQ a k / getQ b k := by
  unfold pdiv; rw [getQ_map_range G _ k hk]

theorem getQ_nodeP (dt : Data) (s : ℕ) (d : List ℕ) (k : ℕ) (hk : k < dt.G) :
    getQ (nodeP dt s d) k = dt.prior * prodL (d.map fun i => getQ (dt.L i s) k) := by
  unfold nodeP; rw [getQ_map_range _ _ k hk]

theorem prodL_append_singleton (l : List ℚ) (x : ℚ) : prodL (l ++ [x]) = prodL l * x := by
  rw [prodL_eq_prod, prodL_eq_prod, List.prod_append, List.prod_singleton]

theorem nodeP_nil (dt : Data) (s : ℕ) : nodeP dt s [] = priorVec dt := by
  unfold nodeP priorVec
  apply List.map_congr_left
  intro k _
  simp [prodL]

theorem pmul_nodeP (dt : Data) (s : ℕ) (d : List ℕ) (dp : ℕ) :
    pmul dt.G (nodeP dt s d) (dt.L dp s) = nodeP dt s (d ++ [dp]) := by
  unfold pmul
  conv_rhs => unfold nodeP
  apply List.map_congr_left
  intro k hk
  rw [getQ_nodeP dt s d k (List.mem_range.1 hk), List.map_append, List.map_singleton,
    prodL_append_singleton, mul_assoc]

theorem pdiv_nodeP (dt : Data) (hNZ : DataNZ dt) (s : ℕ) (hs : s < dt.S) (d : List ℕ) (dp : ℕ)
    (hdp : dp < dt.n) (hmem : dp ∈ d) :
    pdiv dt.G (nodeP dt s d) (dt.L dp s) = nodeP dt s (d.erase dp) := by
  unfold pdiv
  conv_rhs => unfold nodeP
  apply List.map_congr_left
  intro k hk
  have hk' := List.mem_range.1 hk
  have hne := hNZ dp s k hdp hs hk'
  rw [getQ_nodeP dt s d k hk',
    prodL_map_perm (fun i => getQ (dt.L i s) k) (List.perm_cons_erase hmem), List.map_cons,
    prodL_cons, mul_div_assoc, mul_div_cancel_left₀ _ hne]

theorem pmul_right_comm (G : ℕ) (a b c : Vec) :
    pmul G (pmul G a b) c = pmul G (pmul G a c) b := by
  unfold pmul
  apply List.map_congr_left
  intro k hk
  have hk' := List.mem_range.1 hk
  rw [getQ_map_range G _ k hk', getQ_map_range G _ k hk', mul_right_comm]

theorem mulData_getD (dt : Data) (v : List Vec) (dp s : ℕ) (hs : s < dt.S) :
    (mulData dt v dp).getD s [] = pmul dt.G (v.getD s []) (dt.L dp s) := by
  unfold mulData; rw [getD_map_range _ _ _ _ hs]

/-- multiplying a correct `p` by a data point's grid gives the correct `p` of the enlarged clone -/
theorem mulData_p (dt : Data) (d : List ℕ) (dp : ℕ) :
    mulData dt ((List.range dt.S).map fun sm => nodeP dt sm d) dp
      = (List.range dt.S).map fun sm => nodeP dt sm (d ++ [dp]) := by
  unfold mulData
  apply List.map_congr_left
  intro s hs
  rw [getD_map_range _ _ _ _ (List.mem_range.1 hs), pmul_nodeP]

/-- dividing a correct `p` by a data point's grid gives the correct `p` of the reduced clone -/
theorem divData_p (dt : Data) (hNZ : DataNZ dt) (d : List ℕ) (dp : ℕ) (hdp : dp < dt.n)
    (hmem : dp ∈ d) :
    divData dt ((List.range dt.S).map fun sm => nodeP dt sm d) dp
      = (List.range dt.S).map fun sm => nodeP dt sm (d.erase dp) := by
  unfold divData
  apply List.map_congr_left
  intro s hs
  have hs' := List.mem_range.1 hs
  rw [getD_map_range _ _ _ _ hs', pdiv_nodeP dt hNZ s hs' d dp hdp hmem]

/-- `r = p ⊙ S(kids)` survives multiplying both `p` and `r` by the same grid -/
theorem mulData_r (dt : Data) (n : NodeRec) (k : SF) (dp : ℕ) (d' : List ℕ)
    (h : n.r = recompR dt n k) :
    mulData dt n.r dp = recompR dt { n with dps := d', p := mulData dt n.p dp, r := mulData dt n.r dp } k := by
  rw [h]
  unfold mulData recompR
  apply List.map_congr_left
  intro s hs
  have hs' := List.mem_range.1 hs
  rw [getD_map_range _ _ _ _ hs', getD_map_range _ _ _ _ hs', pmul_right_comm]

/-! ### `recAdd`, `recRemove`, `freshRec` -/

/-- one step of `add_data_point_list` -/
def addOne (dt : Data) (n : NodeRec) (dp : ℕ) : Option NodeRec :=
  if n.dps.contains dp then none
  else some { n with dps := n.dps ++ [dp], p := mulData dt n.p dp, r := mulData dt n.r dp }

theorem recAdd_cons (dt : Data) (n : NodeRec) (dp : ℕ) (dps : List ℕ) :
    recAdd dt n (dp :: dps) = (addOne dt n dp).bind fun n1 => recAdd dt n1 dps := by
  simp only [recAdd, List.foldlM_cons, addOne]
  rfl

/-- what `add_data_point_list` keeps and establishes -/
theorem recAdd_spec (dt : Data) (dps : List ℕ) : ∀ (n n' : NodeRec), recAdd dt n dps = some n' →
    n'.idx = n.idx ∧ n'.name = n.name ∧ n'.dps = n.dps ++ dps ∧
    (n.p = (List.range dt.S).map (fun sm => nodeP dt sm n.dps) →
      n'.p = (List.range dt.S).map (fun sm => nodeP dt sm n'.dps)) ∧
    (∀ k, n.r = recompR dt n k → n'.r = recompR dt n' k) := by
  induction dps with
  | nil =>
    intro n n' h
    cases h
    exact ⟨rfl, rfl, (List.append_nil _).symm, id, fun _ => id⟩
  | cons dp dps ih =>
    intro n n' h
    rw [recAdd_cons] at h
    unfold addOne at h
    split at h
    · cases h
    · rw [Option.bind_some] at h
      obtain ⟨h1, h2, h3, h4, h5⟩ := ih _ n' h
      refine ⟨h1, h2, by rw [h3]; simp, fun hp => h4 ?_, fun k hk => h5 k ?_⟩
      · show mulData dt n.p dp = _
        rw [hp, mulData_p]
      · exact mulData_r dt n k dp _ hk

theorem freshRec_p (dt : Data) (i : ℕ) (nm : Int) :
    (freshRec dt i nm).p = (List.range dt.S).map (fun sm => nodeP dt sm (freshRec dt i nm).dps) := by
  show (List.range dt.S).map (fun _ => priorVec dt) = (List.range dt.S).map fun sm => nodeP dt sm []
  apply List.map_congr_left
  intro s _
  rw [nodeP_nil]

/-- what `remove_data_point` keeps and establishes -/
theorem recRemove_spec (dt : Data) (n n' : NodeRec) (dp : ℕ) (h : recRemove dt n dp = some n') :
    n'.idx = n.idx ∧ n'.name = n.name ∧ n'.dps = n.dps.erase dp ∧ n'.r = n.r ∧ dp ∈ n.dps ∧
    (DataNZ dt → dp < dt.n → n.p = (List.range dt.S).map (fun sm => nodeP dt sm n.dps) →
      n'.p = (List.range dt.S).map (fun sm => nodeP dt sm n'.dps)) := by
  unfold recRemove at h
  split at h
  · rename_i hc
    cases h
    have hmem : dp ∈ n.dps := by simpa using hc
    refine ⟨rfl, rfl, rfl, rfl, hmem, fun hNZ hdp hp => ?_⟩
    show divData dt n.p dp = _
    rw [hp, divData_p dt hNZ n.dps dp hdp hmem]
  · cases h

end PhyModel.Store.C06
