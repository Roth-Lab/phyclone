import PhyModel.Model.Trace
import Mathlib.Order.Defs.LinearOrder
import Mathlib.Data.List.Basic
/-! Lemmas behind C11 that do not involve the topology dictionary: a scanned record's `(chain, iter)`
leads back to its entry (`flat`, `lookup`); the MAP scan ends on a record of maximal score; `sortBy` is
a permutation and, for a Boolean order that compares a key downwards, sorts by that key; the archive's
rank filter is `take`. -/
namespace PhyModel.Trace

variable {κ σ : Type}

/-! ### positions -/

theorem mem_enumFrom {c : Nat} {es : List (κ × σ)} {i : Nat} {r : Rec κ σ} (h : r ∈ enumFrom c i es) :
    r.chain = c ∧ ∃ j, r.iter = i + j ∧ es[j]? = some (r.key, r.score) := by
  induction es generalizing i with
  | nil => cases h
  | cons e es ih =>
    obtain ⟨k, s⟩ := e
    rcases List.mem_cons.mp h with rfl | h
    · exact ⟨rfl, 0, rfl, rfl⟩
    · obtain ⟨h1, j, h2, h3⟩ := ih h
      exact ⟨h1, j + 1, h2.trans (Nat.add_right_comm i 1 j), h3⟩

theorem enumFrom_map (c i : Nat) (es : List (κ × σ)) :
    (enumFrom c i es).map (fun r => (r.key, r.score)) = es := by
  induction es generalizing i with
  | nil => rfl
  | cons e es ih =>
    obtain ⟨k, s⟩ := e
    simp [enumFrom, ih]

theorem flat_map (tr : Trace κ σ) : (flat tr).map (fun r => (r.key, r.score)) = entries tr := by
  induction tr with
  | nil => rfl
  | cons ch t ih =>
    obtain ⟨c, es⟩ := ch
    simp [flat, entries, enumFrom_map] at ih ⊢
    exact ih

theorem flat_length (tr : Trace κ σ) : (flat tr).length = (entries tr).length := by
  rw [← flat_map, List.length_map]

theorem mem_entries_iff {tr : Trace κ σ} {e : κ × σ} :
    e ∈ entries tr ↔ ∃ r ∈ flat tr, r.key = e.1 ∧ r.score = e.2 := by
  rw [← flat_map, List.mem_map]
  constructor
  · rintro ⟨r, hr, rfl⟩
    exact ⟨r, hr, rfl, rfl⟩
  · rintro ⟨r, hr, h1, h2⟩
    exact ⟨r, hr, by rw [h1, h2]⟩

theorem flat_chain_mem {tr : Trace κ σ} {r : Rec κ σ} (h : r ∈ flat tr) :
    r.chain ∈ tr.map (fun ch => ch.1) := by
  induction tr with
  | nil => cases h
  | cons ch t ih =>
    rcases List.mem_append.mp h with h | h
    · exact (mem_enumFrom h).1 ▸ List.mem_cons_self
    · exact List.mem_cons_of_mem _ (ih h)

/-- with distinct chain numbers, a scanned record's `(chain, iter)` leads back to its entry -/
theorem lookup_of_mem_flat {tr : Trace κ σ} (hwf : WF tr) {r : Rec κ σ} (h : r ∈ flat tr) :
    lookup tr r.chain r.iter = some (r.key, r.score) := by
  induction tr with
  | nil => cases h
  | cons ch t ih =>
    obtain ⟨hc, hwf⟩ := List.nodup_cons.mp hwf
    unfold lookup
    rw [List.find?_cons]
    rcases List.mem_append.mp h with h | h
    · obtain ⟨h1, j, h2, h3⟩ := mem_enumFrom h
      rw [h1, beq_self_eq_true, h2, Nat.zero_add]
      exact h3
    · have hne : (ch.1 == r.chain) = false := beq_false_of_ne fun e =>
        hc (e.symm ▸ flat_chain_mem h : ch.1 ∈ t.map fun ch => ch.1)
      rw [hne]
      exact ih hwf h

theorem lookup_mem {tr : Trace κ σ} {c i : Nat} {e : κ × σ} (h : lookup tr c i = some e) :
    e ∈ entries tr := by
  unfold lookup at h
  split at h
  · next ch hf =>
    have hm := List.mem_of_find?_eq_some hf
    simp only [entries, List.mem_flatMap]
    exact ⟨ch, hm, List.mem_of_getElem? h⟩
  · cases h

/-! ### the MAP scan -/

section scan
variable [LinearOrder σ]

theorem better_some (b r : Rec κ σ) :
    better (some b) r = if b.score < r.score then some r else some b := rfl

theorem foldl_better_some (l : List (Rec κ σ)) (s : Rec κ σ) :
    ∃ b, l.foldl better (some s) = some b ∧ b ∈ s :: l ∧ ∀ r ∈ s :: l, r.score ≤ b.score := by
  induction l generalizing s with
  | nil => exact ⟨s, rfl, List.mem_singleton_self s, fun r hr => (List.mem_singleton.mp hr ▸ le_refl _)⟩
  | cons a l ih =>
    rw [List.foldl_cons, better_some]
    split
    · next hlt =>
      obtain ⟨b, h1, h2, h3⟩ := ih a
      exact ⟨b, h1, List.mem_cons_of_mem _ h2,
        List.forall_mem_cons.mpr ⟨le_trans (le_of_lt hlt) (h3 a List.mem_cons_self), h3⟩⟩
    · next hlt =>
      obtain ⟨b, h1, h2, h3⟩ := ih s
      obtain ⟨hs, hl⟩ := List.forall_mem_cons.mp h3
      exact ⟨b, h1, List.mem_cons.mpr ((List.mem_cons.mp h2).imp_right (List.mem_cons_of_mem a)),
        List.forall_mem_cons.mpr ⟨hs, List.forall_mem_cons.mpr ⟨le_trans (not_lt.mp hlt) hs, hl⟩⟩⟩

/-- the scan of a non-empty list ends on one of its records, and that record is maximal -/
theorem mapScan_spec {l : List (Rec κ σ)} (hne : l ≠ []) :
    ∃ b, mapScan l = some b ∧ b ∈ l ∧ ∀ r ∈ l, r.score ≤ b.score := by
  cases l with
  | nil => exact absurd rfl hne
  | cons a l => exact foldl_better_some l a

theorem mapScan_nil : mapScan ([] : List (Rec κ σ)) = none := rfl

end scan

/-! ### the sort -/

section sort
variable {α : Type} (le : α → α → Bool)

theorem insertBy_perm (a : α) (l : List α) : (insertBy le a l).Perm (a :: l) := by
  induction l with
  | nil => exact List.Perm.refl _
  | cons b l ih =>
    simp only [insertBy]
    split
    · exact List.Perm.refl _
    · exact (List.Perm.cons b ih).trans (List.Perm.swap a b l)

theorem sortBy_perm (l : List α) : (sortBy le l).Perm l := by
  induction l with
  | nil => exact List.Perm.refl _
  | cons a l ih =>
    show (insertBy le a (sortBy le l)).Perm (a :: l)
    exact (insertBy_perm le a _).trans (List.Perm.cons a ih)

variable {le} {β : Type} [LinearOrder β] {f : α → β} (hle : ∀ a b, le a b = true ↔ f b ≤ f a)
include hle

/-! `le` compares a key `f` downwards: this is how both sorts of the table (by score, by count) are given. -/

theorem insertBy_desc (a : α) {l : List α} (h : l.Pairwise (fun x y => f y ≤ f x)) :
    (insertBy le a l).Pairwise (fun x y => f y ≤ f x) := by
  induction l with
  | nil => exact List.pairwise_singleton _ _
  | cons b l ih =>
    obtain ⟨hb, hl⟩ := List.pairwise_cons.mp h
    simp only [insertBy]
    split
    · next hab =>
      refine List.pairwise_cons.mpr ⟨fun x hx => ?_, h⟩
      rcases List.mem_cons.mp hx with rfl | hx
      · exact (hle _ _).mp hab
      · exact le_trans (hb x hx) ((hle _ _).mp hab)
    · next hab =>
      refine List.pairwise_cons.mpr ⟨fun x hx => ?_, ih hl⟩
      rcases List.mem_cons.mp ((insertBy_perm le a l).mem_iff.mp hx) with rfl | hx
      · exact le_of_lt (not_le.mp fun h => hab ((hle _ _).mpr h))
      · exact hb x hx

theorem sortBy_desc (l : List α) : (sortBy le l).Pairwise (fun x y => f y ≤ f x) := by
  induction l with
  | nil => exact List.Pairwise.nil
  | cons a l ih => exact insertBy_desc hle a ih

theorem sortBy_head_max {l rest : List α} {w : α} (h : sortBy le l = w :: rest) :
    w ∈ l ∧ ∀ v ∈ l, f v ≤ f w := by
  have hp := sortBy_perm le l
  have hs := sortBy_desc hle l
  rw [h] at hp hs
  refine ⟨hp.mem_iff.mp List.mem_cons_self, fun v hv => ?_⟩
  rcases List.mem_cons.mp (hp.mem_iff.mpr hv) with rfl | hv
  · exact le_refl _
  · exact (List.pairwise_cons.mp hs).1 v hv

end sort

/-! ### ranks and the archive -/

section arch
variable {α : Type}

theorem ranked_cons (i : Nat) (a : α) (l : List α) : ranked i (a :: l) = (i, a) :: ranked (i + 1) l := rfl

theorem mem_ranked {i : Nat} {l : List α} {p : Nat × α} (h : p ∈ ranked i l) : i ≤ p.1 := by
  induction l generalizing i with
  | nil => cases h
  | cons a l ih =>
    rcases List.mem_cons.mp h with rfl | h
    · exact Nat.le_refl _
    · exact Nat.le_of_succ_le (ih h)

theorem ranked_filter_lt (i k : Nat) (l : List α) :
    (ranked i l).filter (fun p => !decide (p.1 ≥ i + k)) = ranked i (l.take k) := by
  induction l generalizing i k with
  | nil =>
    rw [List.take_nil]
    rfl
  | cons a l ih =>
    cases k with
    | zero =>
      refine List.filter_eq_nil_iff.mpr fun p hp => ?_
      intro h
      rw [Bool.not_eq_true'] at h
      exact of_decide_eq_false h (mem_ranked hp)
    | succ k =>
      have h1 : decide (i ≥ i + (k + 1)) = false :=
        decide_eq_false (Nat.not_le.mpr (Nat.lt_add_of_pos_right (Nat.succ_pos k)))
      have h2 := ih (i + 1) k
      rw [Nat.add_right_comm] at h2
      rw [List.take_succ_cons, ranked_cons, ranked_cons, List.filter_cons, h1, Bool.not_false, if_pos rfl]
      exact congrArg _ h2
theorem ranked_map_snd (i : Nat) (l : List α) : (ranked i l).map Prod.snd = l := by
  induction l generalizing i with
  | nil => rfl
  | cons a l ih => simp [ranked, ih]

theorem ranked_map_fst (i : Nat) (l : List α) : (ranked i l).map Prod.fst = List.range' i l.length := by
  induction l generalizing i with
  | nil => rfl
  | cons a l ih => simp [ranked, ih, List.range'_succ]

end arch

end PhyModel.Trace
