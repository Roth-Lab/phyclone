import PhyModel.Proofs.ASMCExch
/-! # C01, stage 3 (abstract side): the conditional-SMC functional run forwards along the retained
path, and its invariance under permutations of the slots `1 … m`.

`ASMC.C` peels the sweep from the last step; the code (and `SMC.sweep`) runs it from the first.  `Fwd`
is the forward form, `C_eq_Fwd` the identification.  `Sym0` is the class of test functions that do not
depend on the order of the non-retained slots; it is preserved by every step (`stepC_sym`), which is
what allows the code to lay the resampled ancestors out in sorted order. -/

open Finset

namespace ASMC

variable {X : Type} [Fintype X] [DecidableEq X] {m : ℕ}
variable (sp : Spec (m := m) X) (u : ℚ)

/-- the sweep from step `t` on, `k` steps, along the retained path `path` -/
def Fwd (path : ℕ → X) : ℕ → ℕ → Sys X m → (Sys X m → ℚ) → ℚ
  | 0, _, S, f => f S
  | k+1, t, S, f => stepC sp u t (path (t+1)) S (fun S' => Fwd path k (t+1) S' f)

variable {sp} {u}

theorem Fwd_comp (path : ℕ → X) (f : Sys X m → ℚ) : ∀ (k j t : ℕ) (S : Sys X m),
    Fwd sp u path k t S (fun S' => Fwd sp u path j (t+k) S' f) = Fwd sp u path (k+j) t S f := by
  intro k
  induction k with
  | zero => intro j t S; simp [Fwd]
  | succ k ih =>
    intro j t S
    rw [Nat.succ_add]
    simp only [Fwd]
    congr 1
    funext S'
    have := ih j (t+1) S'
    rw [Nat.add_assoc, Nat.add_comm 1 k] at this
    exact this

/-- the backward functional `C` is the forward sweep from the initial system -/
theorem C_eq_Fwd (path : ℕ → X) : ∀ (T : ℕ), (∀ t, t < T → sp.parent (path (t+1)) = path t) →
    ∀ f : Sys X m → ℚ, C sp u T (path T) f = Fwd sp u path T 0 (S0 sp) f := by
  intro T
  induction T with
  | zero => intro _ f; rfl
  | succ T ih =>
    intro hp f
    simp only [C]
    rw [hp T (Nat.lt_succ_self T), ih (fun t ht => hp t (Nat.lt_succ_of_lt ht))]
    have := Fwd_comp (sp := sp) (u := u) path f T 1 0 (S0 sp)
    rw [← this]
    simp [Fwd]

/-! ### permutations of the non-retained slots -/

/-- the permutation of all slots that fixes slot 0 and acts as `ρ` on the others -/
def ext0 (ρ : Equiv.Perm (Fin m)) : Equiv.Perm (Fin (m+1)) where
  toFun := Fin.cons 0 (fun i => (ρ i).succ)
  invFun := Fin.cons 0 (fun i => (ρ.symm i).succ)
  left_inv := by
    intro j
    refine Fin.cases ?_ ?_ j
    · simp
    · intro i; simp
  right_inv := by
    intro j
    refine Fin.cases ?_ ?_ j
    · simp
    · intro i; simp

@[simp] theorem ext0_zero (ρ : Equiv.Perm (Fin m)) : ext0 ρ 0 = 0 := rfl
@[simp] theorem ext0_succ (ρ : Equiv.Perm (Fin m)) (i : Fin m) : ext0 ρ i.succ = (ρ i).succ := by
  simp [ext0]

/-- test functions that do not depend on the order of the slots `1 … m` -/
def Sym0 (g : Sys X m → ℚ) : Prop := ∀ (ρ : Equiv.Perm (Fin m)) (S : Sys X m), g (S ∘ ext0 ρ) = g S

theorem propC_sym (t : ℕ) (x' : X) (ρ : Equiv.Perm (Fin m)) (S : Sys X m) {g : Sys X m → ℚ}
    (hg : Sym0 g) : propC sp t x' (S ∘ ext0 ρ) g = propC sp t x' S g := by
  unfold propC
  refine (Fintype.sum_equiv (ρ.symm.arrowCongr (Equiv.refl X)) _ _ fun z => ?_).symm
  simp only [Equiv.arrowCongr_apply, Equiv.symm_symm, Equiv.coe_refl, Function.id_comp]
  have hprod : ∏ i : Fin m, sp.q t ((S ∘ ext0 ρ) i.succ).1 ((z ∘ ρ) i)
      = ∏ i : Fin m, sp.q t (S i.succ).1 (z i) := by
    simp only [Function.comp, ext0_succ]
    exact Equiv.prod_comp ρ (fun j => sp.q t (S j.succ).1 (z j))
  rw [hprod, ← hg ρ (fun i => ext sp t (S i) ((Fin.cons x' z : Fin (m+1) → X) i))]
  congr 2
  funext i
  refine Fin.cases ?_ ?_ i
  · simp [Function.comp]
  · intro j; simp [Function.comp]

/-- resampling from a system with permuted slots gives the same law (whatever the continuation) -/
theorem resC_perm0 (ρ : Equiv.Perm (Fin m)) (S : Sys X m) (F : Sys X m → ℚ) :
    resC u (S ∘ ext0 ρ) F = resC u S F := by
  unfold resC
  refine Fintype.sum_equiv ((Equiv.refl _).arrowCongr (ext0 ρ)) _ _ fun a => ?_
  simp only [wbar_perm, Function.comp, Equiv.arrowCongr_apply, Equiv.refl_symm, Equiv.coe_refl]
  congr 2
  funext j
  refine Fin.cases ?_ ?_ j
  · simp
  · intro i; simp

theorem Good.reset (hu : 0 < u) {t : ℕ} {x : X} {S : Sys X m} (hS : Good sp t x S) (a : Fin m → Fin (m+1)) :
    Good sp t x (fun j => ASMC.reset u (S ((Fin.cons 0 a : Fin (m+1) → Fin (m+1)) j))) :=
  ⟨hS.1, reset_good hu hS.2 _⟩

theorem Good.perm0 {t : ℕ} {x : X} {S : Sys X m} (hS : Good sp t x S) (ρ : Equiv.Perm (Fin m)) :
    Good sp t x (S ∘ ext0 ρ) :=
  ⟨hS.1, fun j => hS.2 _⟩

theorem stepC_of_good (hu : 0 < u) {t : ℕ} {x x' : X} {S : Sys X m} (hS : Good sp t x S)
    {K f : Sys X m → ℚ} (hK : ∀ S1, Good sp t x S1 → K S1 = propC sp t x' S1 f) :
    (if sp.rs t (wts S) then resC u S K else K S) = stepC sp u t x' S f := by
  unfold stepC
  split
  · exact Finset.sum_congr rfl fun a _ => congrArg _ (hK _ (hS.reset hu a))
  · exact hK S hS

theorem stepC_sym {T : ℕ} (hv : ValidTo sp T) (t : ℕ) (x' : X) {g : Sys X m → ℚ} (hg : Sym0 g) :
    Sym0 (fun S => stepC sp u t x' S g) := by
  intro ρ S
  show stepC sp u t x' (S ∘ ext0 ρ) g = stepC sp u t x' S g
  unfold stepC
  have hw : wts (S ∘ ext0 ρ) = wts S ∘ ext0 ρ := rfl
  rw [hw, hv.rssymm]
  split
  · exact resC_perm0 ρ S _
  · exact propC_sym t x' ρ S hg

theorem Fwd_sym {T : ℕ} (hv : ValidTo sp T) (path : ℕ → X) {f : Sys X m → ℚ} (hf : Sym0 f) :
    ∀ (k t : ℕ), Sym0 (fun S => Fwd sp u path k t S f) := by
  intro k
  induction k with
  | zero => intro t; exact hf
  | succ k ih =>
    intro t
    exact stepC_sym hv t _ (ih (t+1))

theorem sum_sel_mul (S : Sys X m) (h : X → ℚ) : ∑ y, sel S y * h y = ∑ k, wbar S k * h (S k).1 := by
  unfold sel
  simp only [Finset.sum_mul]
  rw [Finset.sum_comm]
  refine Finset.sum_congr rfl fun k _ => ?_
  simp only [mul_ite, mul_one, mul_zero, ite_mul, zero_mul]
  rw [Finset.sum_ite_eq, if_pos (mem_univ _)]

/-- the final selection does not depend on the order of the slots -/
theorem sel_sym (h : X → ℚ) : Sym0 (fun S : Sys X m => ∑ y, sel S y * h y) := by
  intro ρ S
  simp only [sum_sel_mul, wbar_perm, Function.comp]
  exact Equiv.sum_comp (ext0 ρ) (fun k => wbar S k * h (S k).1)

end ASMC
