import PhyModel.Proofs.DFIso
import Mathlib.Algebra.Order.BigOperators.Group.Finset
/-! Positivity of the likelihood recursion: with positive data likelihoods every entry of the
virtual root's vector is positive (its logarithm is finite). -/

namespace PhyModel

/-- every clone's own vector is positive on the grid -/
def Forest.Pos (G : ℕ) : Forest → Prop
  | .nil => True
  | .cons p k s => (∀ j, j < G → 0 < getQ p j) ∧ Forest.Pos G k ∧ Forest.Pos G s

theorem prefixSum_pos (G : ℕ) (a : Vec) (hnn : ∀ j, j < G → 0 ≤ getQ a j) (h0 : 0 < getQ a 0)
    (k : ℕ) (hk : k < G) : 0 < getQ (prefixSum G a) k := by
  rw [getQ_prefixSum G a k hk]
  exact Finset.sum_pos' (fun j hj => hnn j (lt_of_le_of_lt (Nat.lt_succ_iff.mp (Finset.mem_range.mp hj)) hk))
    ⟨0, Finset.mem_range.mpr (Nat.succ_pos k), h0⟩

/-- `D` has non-negative entries and a positive entry at index 0 -/
theorem D_nonneg_pos0 (G : ℕ) (hG : 0 < G) (f : Forest) (hf : Forest.Pos G f) :
    (∀ k, k < G → 0 ≤ getQ (D G f) k) ∧ 0 < getQ (D G f) 0 := by
  induction f with
  | nil =>
    rw [D]
    constructor
    · intro k hk
      rw [getQ_delta0 G k hk]
      split
      · exact zero_le_one
      · exact le_rfl
    · rw [getQ_delta0 G 0 hG, if_pos rfl]
      exact zero_lt_one
  | cons p k s ihk ihs =>
    obtain ⟨hp, hk, hs⟩ := hf
    obtain ⟨knn, k0⟩ := ihk hk
    obtain ⟨snn, s0⟩ := ihs hs
    have ha : ∀ j, j < G → 0 < getQ (pmul G p (prefixSum G (D G k))) j := by
      intro j hj
      rw [getQ_pmul G _ _ j hj]
      exact qmul_pos (hp j hj) (prefixSum_pos G _ knn k0 j hj)
    rw [D]
    constructor
    · intro t ht
      rw [getQ_conv G _ _ t ht]
      refine Finset.sum_nonneg fun j hj => ?_
      have hjt : j ≤ t := Nat.lt_succ_iff.mp (Finset.mem_range.mp hj)
      exact mul_nonneg (ha j (lt_of_le_of_lt hjt ht)).le (snn (t - j) (lt_of_le_of_lt (Nat.sub_le t j) ht))
    · rw [getQ_conv G _ _ 0 hG, Finset.sum_range_one]
      exact qmul_pos (ha 0 hG) s0

theorem getQ_map_mul (c : ℚ) (v : Vec) (k : ℕ) : getQ (v.map fun x => c * x) k = c * getQ v k := by
  rw [getQ, getQ, List.getD_eq_getElem?_getD, List.getD_eq_getElem?_getD, List.getElem?_map]
  cases v[k]? with
  | none => exact (mul_zero c).symm
  | some x => rfl

theorem prior_pos (dt : Data) (hG : 0 < dt.G) : 0 < dt.prior := by
  unfold Data.prior
  have : (0 : ℚ) < (dt.G : ℚ) := by exact_mod_cast hG
  exact qone_div_pos this

theorem prodL_map_pos {α} (l : List α) (F : α → ℚ) (h : ∀ a ∈ l, 0 < F a) : 0 < prodL (l.map F) := by
  apply prodL_pos
  intro x hx
  obtain ⟨a, ha, rfl⟩ := List.mem_map.mp hx
  exact h a ha

theorem nodeP_pos (dt : Data) (hG : 0 < dt.G) (s : ℕ) (d : List ℕ)
    (hL : ∀ i ∈ d, ∀ k, k < dt.G → 0 < getQ (dt.L i s) k) (k : ℕ) (hk : k < dt.G) :
    0 < getQ (nodeP dt s d) k := by
  unfold nodeP
  rw [getQ_map_range dt.G _ k hk]
  exact qmul_pos (prior_pos dt hG) (prodL_map_pos _ _ fun i hi => hL i hi k hk)

theorem toLik_pos (dt : Data) (hG : 0 < dt.G) (s : ℕ) (f : DF)
    (hL : ∀ i ∈ f.all, ∀ k, k < dt.G → 0 < getQ (dt.L i s) k) :
    Forest.Pos dt.G (toLik dt s f) := by
  induction f with
  | nil => trivial
  | cons d k sb ihk ihs =>
    simp only [Orders.Forest.all, List.mem_append] at hL
    refine ⟨nodeP_pos dt hG s d (fun i hi => hL i (Or.inl (Or.inr hi))), ?_, ?_⟩
    · exact ihk fun i hi => hL i (Or.inl (Or.inl hi))
    · exact ihs fun i hi => hL i (Or.inr hi)

/-- every entry of the virtual root's vector is positive -/
theorem rootR_pos' (dt : Data) (hG : 0 < dt.G) (s : ℕ) (f : DF)
    (hL : ∀ i ∈ f.all, ∀ k, k < dt.G → 0 < getQ (dt.L i s) k) (k : ℕ) (hk : k < dt.G) :
    0 < getQ (rootR dt s f) k := by
  unfold rootR
  rw [getQ_map_mul]
  obtain ⟨nn, p0⟩ := D_nonneg_pos0 dt.G hG _ (toLik_pos dt hG s f hL)
  exact qmul_pos (prior_pos dt hG) (prefixSum_pos dt.G _ nn p0 k hk)

theorem length_rootR (dt : Data) (s : ℕ) (f : DF) : (rootR dt s f).length = dt.G := by
  simp [rootR, prefixSum]

theorem vsum_eq_sum (v : Vec) : vsum v = v.sum := by
  unfold vsum; rw [List.sum_eq_foldl]

theorem vsum_rootR_pos (dt : Data) (hG : 0 < dt.G) (s : ℕ) (f : DF)
    (hL : ∀ i ∈ f.all, ∀ k, k < dt.G → 0 < getQ (dt.L i s) k) : 0 < vsum (rootR dt s f) := by
  rw [vsum_eq_sum]
  refine List.sum_pos _ ?_ (List.ne_nil_of_length_pos (by rw [length_rootR]; exact hG))
  intro x hx
  obtain ⟨i, hi, rfl⟩ := List.mem_iff_getElem.mp hx
  have h := rootR_pos' dt hG s f hL i (length_rootR dt s f ▸ hi)
  rwa [getQ, List.getD_eq_getElem?_getD, List.getElem?_eq_getElem hi, Option.getD_some] at h

end PhyModel
