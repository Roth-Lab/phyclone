import Mathlib.Data.List.ProdSigma
import PhyModel.Proofs.TableBasic
/-! C12 helper lemmas about records and rows: the mutation column of the records is a permutation
of the input mutations; rows are records × samples. -/
namespace PhyModel.Table
open List

/-- the mutations a run was given: data point names, or the cluster table's mutation column -/
def inputMuts (inp : Input) : List String :=
  match inp.clusters with
  | none => inp.names
  | some cl => cl.map Prod.fst

/-- what a recorded trace guarantees (C07 well-formedness, loader output) -/
structure WF (inp : Input) : Prop where
  /-- every data point sits in at most one place of the tree -/
  dpsNodup : (inp.forest.dps ++ inp.outs).Nodup
  /-- data point indices refer to the data list -/
  inRange : ∀ i ∈ inp.forest.dps ++ inp.outs, i < inp.names.length
  /-- mutation ids are distinct (one row per mutation in the cluster table) -/
  mutsNodup : (inputMuts inp).Nodup
  /-- with a cluster file, distinct data points carry distinct cluster ids -/
  cidsNodup : inp.clusters ≠ none → ((inp.forest.dps ++ inp.outs).map (cidOf inp.names)).Nodup

def key (r : Row) : String × String := (r.mid, r.sample)

theorem mkRow_mid (ccf samples r s) : (mkRow ccf samples r s).mid = r.mid := by
  unfold mkRow; split <;> rfl
theorem mkRow_clone (ccf samples r s) : (mkRow ccf samples r s).clone = r.clone := by
  unfold mkRow; split <;> rfl
theorem mkRow_cluster (ccf samples r s) : (mkRow ccf samples r s).cluster = r.cluster := by
  unfold mkRow; split <;> rfl
theorem mkRow_sample (ccf samples r s) : (mkRow ccf samples r s).sample = s := by
  unfold mkRow; split <;> rfl

theorem rows_keys (inp : Input) :
    (rowsOf inp).map key = ((recsOf inp).map (fun r => r.mid)) ×ˢ inp.samples := by
  unfold rowsOf
  rw [map_flatMap]
  show _ = List.product _ _
  unfold List.product
  rw [flatMap_map]
  congr 1
  funext r
  rw [map_map]
  apply map_congr_left
  intro s _
  simp [key, mkRow_mid, mkRow_sample]

theorem table_eq_some {inp : Input} {rows : List Row} :
    table inp = some rows ↔ valid inp = true ∧ rows = rowsOf inp := by
  unfold table
  split
  · next hv => exact ⟨fun h => ⟨hv, (Option.some.inj h).symm⟩, fun h => h.2 ▸ rfl⟩
  · next hv => exact ⟨fun h => (nomatch h), fun h => absurd h.1 hv⟩

theorem mem_rowsOf (inp : Input) (row : Row) :
    row ∈ rowsOf inp ↔ ∃ r ∈ recsOf inp, ∃ s ∈ inp.samples, row = mkRow inp.ccf inp.samples r s := by
  unfold rowsOf
  simp only [mem_flatMap, mem_map]
  constructor
  · rintro ⟨r, hr, s, hs, rfl⟩
    exact ⟨r, hr, s, hs, rfl⟩
  · rintro ⟨r, hr, s, hs, rfl⟩
    exact ⟨r, hr, s, hs, rfl⟩

/-! ### records without clusters -/

theorem nameOf_mem (names : List String) (i : Nat) (h : i < names.length) : nameOf names i ∈ names := by
  unfold nameOf
  rw [getD_eq_getElem?_getD, getElem?_eq_getElem h]
  exact getElem_mem h

theorem nameOf_inj (names : List String) (hn : names.Nodup) (i j : Nat) (hi : i < names.length)
    (hj : j < names.length) (h : nameOf names i = nameOf names j) : i = j := by
  unfold nameOf at h
  rw [getD_eq_getElem?_getD, getD_eq_getElem?_getD, getElem?_eq_getElem hi, getElem?_eq_getElem hj] at h
  exact (hn.getElem_inj_iff).mp h

theorem plainRecs_mids (names : List String) (lab : List (Nat × Int))
    (hn : names.Nodup) (hd : (lab.map Prod.fst).Nodup) (hr : ∀ i ∈ lab.map Prod.fst, i < names.length) :
    ((plainRecs names lab).map (fun r => r.mid)).Perm names := by
  have e : (plainRecs names lab).map (fun r => r.mid) =
      (lab.map Prod.fst).map (nameOf names) ++
        names.filter fun m => !((lab.map Prod.fst).map (nameOf names)).contains m := by
    unfold plainRecs
    simp only [map_append, map_map, Function.comp_def, map_id']
  rw [e]
  refine append_filter_not_mem_perm _ _ (hd.map_on fun x hx y hy hxy => ?_) hn fun a ha => ?_
  · exact nameOf_inj names hn x y (hr x hx) (hr y hy) hxy
  · obtain ⟨i, hi, rfl⟩ := mem_map.mp ha
    exact nameOf_mem names i (hr i hi)

/-! ### records with clusters -/

theorem clusRecs_mids (names : List String) (cl : List (String × Int)) (lab : List (Nat × Int))
    (hm : (cl.map Prod.fst).Nodup) (hc : ((lab.map Prod.fst).map (cidOf names)).Nodup) :
    ((clusRecs names cl lab).map (fun r => r.mid)).Perm (cl.map Prod.fst) := by
  -- the mutations of the clusters that are data points of the tree: no mutation twice, since a
  -- mutation has one cluster and distinct data points have distinct clusters
  have hseen : (lab.flatMap fun p => group cl (cidOf names p.1)).Nodup := by
    rw [nodup_flatMap]
    refine ⟨fun p _ => group_of_nodup cl _ hm ▸ hm.sublist (filter_sublist.map _), ?_⟩
    rw [map_map] at hc
    refine (pairwise_map.mp hc).imp fun {p q} hpq m h1 h2 => hpq ?_
    exact congrArg Prod.snd
      (inj_on_of_nodup_map hm ((mem_group cl _ m).mp h1) ((mem_group cl _ m).mp h2) rfl)
  have e : (clusRecs names cl lab).map (fun r => r.mid) =
      (lab.flatMap fun p => group cl (cidOf names p.1)) ++
        (cl.map Prod.fst).filter fun m => !(lab.flatMap fun p => group cl (cidOf names p.1)).contains m := by
    unfold clusRecs
    simp only [map_append, map_map, map_flatMap, filter_map, Function.comp_def, map_id']
  rw [e]
  refine append_filter_not_mem_perm _ _ hseen hm fun m hmem => ?_
  obtain ⟨p, _, hp⟩ := mem_flatMap.mp hmem
  exact mem_map.mpr ⟨_, (mem_group cl _ m).mp hp, rfl⟩
theorem recs_mids (inp : Input) (wf : WF inp) :
    ((recsOf inp).map (fun r => r.mid)).Perm (inputMuts inp) := by
  have hd : ((labelsOf inp.forest inp.outs).map Prod.fst).Nodup := by
    rw [labelsOf_map_fst]
    exact wf.dpsNodup
  have h1 := wf.mutsNodup
  have h2 := wf.cidsNodup
  unfold recsOf
  unfold inputMuts at h1 ⊢
  cases hcl : inp.clusters with
  | none =>
    rw [hcl] at h1
    simp only
    apply plainRecs_mids _ _ h1 hd
    rw [labelsOf_map_fst]
    exact wf.inRange
  | some cl =>
    rw [hcl] at h1
    simp only
    apply clusRecs_mids _ _ _ h1
    rw [labelsOf_map_fst]
    exact h2 (by simp [hcl])

/-! ### where a record comes from -/

theorem mem_plainRecs (names : List String) (lab : List (Nat × Int)) (r : Rec) :
    r ∈ plainRecs names lab →
      (∃ p ∈ lab, r = { mid := nameOf names p.1, clone := p.2, cluster := none }) ∨
      (r.clone = -1 ∧ r.cluster = none ∧ r.mid ∈ names ∧ ∀ p ∈ lab, nameOf names p.1 ≠ r.mid) := by
  unfold plainRecs
  simp only [mem_append, mem_map, mem_filter]
  rintro (⟨p, hp, rfl⟩ | ⟨m, ⟨hm1, hm2⟩, rfl⟩)
  · exact Or.inl ⟨p, hp, rfl⟩
  · refine Or.inr ⟨rfl, rfl, hm1, ?_⟩
    intro p hp heq
    rw [Bool.not_eq_true', ← Bool.not_eq_true, contains_iff_mem] at hm2
    exact hm2 (mem_map.mpr ⟨_, mem_map_of_mem hp, heq⟩)

theorem mem_clusRecs (names : List String) (cl : List (String × Int)) (lab : List (Nat × Int)) (r : Rec) :
    r ∈ clusRecs names cl lab →
      (∃ p ∈ lab, r.clone = p.2 ∧ r.cluster = some (cidOf names p.1) ∧ (r.mid, cidOf names p.1) ∈ cl) ∨
      (r.clone = -1 ∧ ∃ c, r.cluster = some c ∧ (r.mid, c) ∈ cl ∧
        ∀ p ∈ lab, (r.mid, cidOf names p.1) ∉ cl) := by
  unfold clusRecs
  simp only [mem_append, mem_map, mem_filter, mem_flatMap]
  rintro (⟨p, hp, m, hm, rfl⟩ | ⟨⟨m, c⟩, ⟨hm1, hm2⟩, rfl⟩)
  · exact Or.inl ⟨p, hp, rfl, rfl, (mem_group cl _ m).mp hm⟩
  · refine Or.inr ⟨rfl, c, rfl, hm1, ?_⟩
    intro p hp hmem
    rw [Bool.not_eq_true', ← Bool.not_eq_true, contains_iff_mem] at hm2
    exact hm2 (mem_map.mpr ⟨_, mem_flatMap.mpr ⟨p, hp, mem_map_of_mem ((mem_group cl _ m).mpr hmem)⟩, rfl⟩)

theorem recs_clone (inp : Input) : ∀ r ∈ recsOf inp, r.clone ∈ inp.forest.ids ∨ r.clone = -1 := by
  intro r hr
  unfold recsOf at hr
  cases hcl : inp.clusters with
  | none =>
    rw [hcl] at hr
    rcases mem_plainRecs _ _ r hr with ⟨p, hp, rfl⟩ | ⟨h, _⟩
    · exact labelsOf_snd _ _ p hp
    · exact Or.inr h
  | some cl =>
    rw [hcl] at hr
    rcases mem_clusRecs _ _ _ r hr with ⟨p, hp, h, _⟩ | ⟨h, _⟩
    · rw [h]
      exact labelsOf_snd _ _ p hp
    · exact Or.inr h

/-- lookups only succeed on keys of the dictionary -/
theorem lookupCcf_none_of_not_key (ccf : List (Int × List Rat × List Rat)) (c : Int)
    (h : c ∉ ccf.map Prod.fst) : lookupCcf ccf c = none := by
  induction ccf with
  | nil => rfl
  | cons e r ih =>
    obtain ⟨k, v⟩ := e
    simp only [map_cons, mem_cons, not_or] at h
    unfold lookupCcf
    rw [if_neg (fun hk => h.1 hk.symm)]
    exact ih h.2

end PhyModel.Table
