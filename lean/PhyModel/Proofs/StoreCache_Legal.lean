import PhyModel.Proofs.StoreCache_Dec
import PhyModel.Proofs.StoreWF_Step
/-! C06 joined with C07: along a history whose edits are `Legal` (`LegalRun`, `Proofs/StoreWF_Step`)
C07's invariant holds in every visited state (`inv0_step`), which discharges the well-formedness
hypothesis of `cacheOK_run`.  Also a Boolean check of `Legal` for the non-vacuity examples. -/
namespace PhyModel.Store.C06

theorem along_wf_of_legalRun (dt : Data) : ∀ (ops : List Op) (sys : Sys),
    (∀ s ∈ sys, WF s ∧ Full s) → LegalRun dt sys ops → Along dt (fun sy => ∀ s ∈ sy, WF s) sys ops
  | [], _, _, _ => trivial
  | _ :: ops, _, hall, hleg =>
    ⟨fun s hs => (hall s hs).1, fun sys' hs =>
      along_wf_of_legalRun dt ops sys' (inv0_step hall hleg.1 hs) (hleg.2 sys' hs)⟩

/-- **C06 for every legal history from any well-formed start.** -/
theorem cacheOK_run_legal (dt : Data) (hNZ : DataNZ dt) (ops : List Op) (sys sys' : Sys)
    (hall : ∀ s ∈ sys, WF s ∧ Full s) (hleg : LegalRun dt sys ops)
    (hin : ∀ op ∈ ops, InRange dt op) (hc : ∀ s ∈ sys, CacheOK dt s)
    (h : run dt sys ops = some sys') : ∀ s ∈ sys', CacheOK dt s :=
  cacheOK_run dt hNZ ops sys sys'
    (Along.mono (fun _ hsy s hs => (hsy s hs).toWFc) (along_wf_of_legalRun dt ops sys hall hleg))
    hin hc h

/-! ### a Boolean check of `Legal` -/

def denseB (s : Store) : Bool := s.forest.recs.all fun n => decide (n.name < (s.numNodes : Int))

theorem denseB_sound (s : Store) (h : denseB s = true) : Dense s := by
  intro n hn
  exact of_decide_eq_true (List.all_eq_true.1 h n hn)

def legalB (sys : Sys) : Op → Bool
  | .create h _ d => !d.isEmpty && (match sys[h]? with
      | some s => denseB s && d.all fun x => !(s.data.flatMap (·.2)).contains x
      | none => true)
  | .createAdd h _ _ => (match sys[h]? with
      | some s => denseB s
      | none => true)
  | .rmSub h hs => (match sys[h]?, sys[hs]? with
      | some s, some sb => Store.keyEq sb s || (match sb.roots with
          | [r] => (match s.nodeIdx.lookup r with
              | some i => (match s.forest.findSub i with
                  | some x => decide (sb.nodes.Perm (SF.cons x.1 x.2 .nil).names)
                  | none => false)
              | none => false)
          | _ => false)
      | _, _ => true)
  | .addSub h hs _ => (match sys[h]?, sys[hs]? with
      | some s, some sb =>
        (sb.forest.recs.flatMap fun n => sb.dataOf n.name).all fun d =>
          !(s.data.flatMap (·.2)).contains d
      | _, _ => true)
  | _ => true

theorem legalB_sound (sys : Sys) (op : Op) (h : legalB sys op = true) : Legal sys op := by
  cases op with
  | create hd ch d =>
    simp only [legalB, Bool.and_eq_true, Bool.not_eq_true'] at h
    refine ⟨fun e => by rw [e] at h; exact (nomatch h.1), fun s hs => ?_⟩
    rw [hs] at h
    simp only [Bool.and_eq_true, List.all_eq_true, Bool.not_eq_true'] at h
    exact ⟨denseB_sound s h.2.1, fun x hx hc => by
      have := h.2.2 x hx
      rw [List.contains_iff_mem.2 hc] at this
      cases this⟩
  | createAdd hd ch dp =>
    intro s hs
    simp only [legalB, hs] at h
    exact denseB_sound s h
  | rmSub hd hsb =>
    intro s sb hs hsb' hk
    simp only [legalB, hs, hsb', hk, Bool.false_or] at h
    split at h
    · rename_i r hr
      split at h
      · rename_i i hi
        split at h
        · rename_i x hx
          exact ⟨r, i, x, hr, hi, hx, of_decide_eq_true h⟩
        · cases h
      · cases h
    · cases h
  | addSub hd hsb par =>
    intro s sb hs hsb' d hd' hc
    simp only [legalB, hs, hsb', List.all_eq_true, Bool.not_eq_true'] at h
    have := h d hd'
    rw [List.contains_iff_mem.2 hc] at this
    cases this
  | _ => trivial

/-- checks `Legal` in every state an operation of `ops` is applied to -/
def legalRunB (dt : Data) : Sys → List Op → Bool
  | _, [] => true
  | sys, op :: ops => legalB sys op && (match step dt sys op with
      | some sys' => legalRunB dt sys' ops
      | none => true)

theorem legalRunB_sound (dt : Data) : ∀ (ops : List Op) (sys : Sys),
    legalRunB dt sys ops = true → LegalRun dt sys ops
  | [], _, _ => trivial
  | op :: ops, sys, h => by
    simp only [legalRunB, Bool.and_eq_true] at h
    refine ⟨legalB_sound sys op h.1, fun sys' hs => ?_⟩
    have h2 := h.2
    rw [hs] at h2
    exact legalRunB_sound dt ops sys' h2

end PhyModel.Store.C06
