import PhyModel.Proofs.StoreWF_getSub
import PhyModel.Proofs.StoreWF_rmSub
import PhyModel.Proofs.StoreWF_addSub
import PhyModel.Proofs.StoreWF_Upd
import PhyModel.Proofs.StoreWFB
/-! C07, conservation of data under the composed moves of the samplers: extracting a subtree,
removing it and grafting it back anywhere (`subtree_move_conserves`), and moving a data point from
one place to another (`dp_move_conserves`), give back the original multiset of data points
(`vals s.data = s.data.flatMap (·.2)`, up to `List.Perm`).  The branch of `remove_subtree` where the
subtree equals the whole tree (`keyEq`, the tree is re-initialised) is covered: equality of the clade
sets forces every data point of the tree to lie in the extracted subtree. -/
namespace PhyModel.Store
open AL

/-! ### clades -/

theorem mem_normSet {l : List Nat} {x : Nat} : x ∈ Store.normSet l ↔ x ∈ l := by
  unfold Store.normSet
  rw [(Orders.Forest.sortNat_perm _).mem_iff, List.mem_eraseDups]

theorem eq_nil_of_normSet_eq_nil {l : List Nat} (h : Store.normSet l = []) : l = [] := by
  cases l with
  | nil => rfl
  | cons a l =>
    have : a ∈ Store.normSet (a :: l) := mem_normSet.2 List.mem_cons_self
    rw [h] at this
    cases this

theorem mem_of_subsetB {a b : List (List Nat)} (h : Store.subsetB a b = true) :
    ∀ c ∈ a, c ∈ b := by
  intro c hc
  unfold Store.subsetB at h
  rw [List.all_eq_true] at h
  exact List.contains_iff_mem.1 (h c hc)

theorem below_eq (s : Store) (f : SF) : s.below f = f.names.flatMap s.dataOf := by
  induction f with
  | nil => rfl
  | cons n k sb ihk ihs => simp [Store.below, ihk, ihs]

/-- every element of a clade is listed in `_data` for a clone of the forest -/
theorem mem_clade (s : Store) : ∀ (f : SF) (c : List Nat), c ∈ s.cladeList f → ∀ d ∈ c,
    ∃ nm ∈ f.names, d ∈ s.dataOf nm
  | .nil, _, h => by simp [Store.cladeList] at h
  | .cons n k sb, c, h => by
    intro d hd
    simp only [Store.cladeList, List.mem_cons, List.mem_append] at h
    simp only [SF.names_cons, List.mem_cons, List.mem_append]
    rcases h with rfl | h | h
    · rw [mem_normSet, List.mem_append, below_eq, List.mem_flatMap] at hd
      rcases hd with hd | ⟨nm, hm, hd⟩
      · exact ⟨n.name, Or.inl rfl, hd⟩
      · exact ⟨nm, Or.inr (Or.inl hm), hd⟩
    · obtain ⟨nm, hm, hd⟩ := mem_clade s k c h d hd
      exact ⟨nm, Or.inr (Or.inl hm), hd⟩
    · obtain ⟨nm, hm, hd⟩ := mem_clade s sb c h d hd
      exact ⟨nm, Or.inr (Or.inr hm), hd⟩

/-- every clone's `_data` list lies in some clade -/
theorem clade_of_name (s : Store) : ∀ (f : SF) (nm : Int), nm ∈ f.names →
    ∃ c ∈ s.cladeList f, ∀ d ∈ s.dataOf nm, d ∈ c
  | .nil, _, h => by simp [SF.names, SF.recs] at h
  | .cons n k sb, nm, h => by
    simp only [SF.names_cons, List.mem_cons, List.mem_append] at h
    simp only [Store.cladeList, List.mem_cons, List.mem_append, exists_eq_or_imp]
    rcases h with rfl | h | h
    · exact Or.inl fun d hd => mem_normSet.2 (List.mem_append_left _ hd)
    · obtain ⟨c, hc, hd⟩ := clade_of_name s k nm h
      exact Or.inr ⟨c, Or.inl hc, hd⟩
    · obtain ⟨c, hc, hd⟩ := clade_of_name s sb nm h
      exact Or.inr ⟨c, Or.inr hc, hd⟩

/-- if the key of `sub` equals the key of `s` and `sub` has no outliers, every data point of `s`
is a clone-side data point of `sub` -/
theorem vals_subset_of_keyEq {s sub : Store} (hw : WF s) (hout : sub.outliers = [])
    (he : Store.keyEq sub s = true) :
    ∀ d ∈ vals s.data, ∃ nm ∈ sub.forest.names, d ∈ sub.dataOf nm := by
  unfold Store.keyEq at he
  simp only [Bool.and_eq_true, beq_iff_eq] at he
  obtain ⟨⟨_, h2⟩, h3⟩ := he
  have hso : s.outliers = [] := by
    apply eq_nil_of_normSet_eq_nil
    have : Store.normSet sub.outliers = Store.normSet s.outliers := h3
    rw [← this, hout]; rfl
  intro d hd
  rcases hw.mem_vals_iff.1 hd with ho | ⟨n, hn, hdn⟩
  · rw [hso] at ho; cases ho
  · obtain ⟨c, hc, hcd⟩ := clade_of_name s s.forest n.name (List.mem_map_of_mem hn)
    exact mem_clade sub sub.forest c (mem_of_subsetB h2 c hc) d (hcd d ((hw.payload_data n hn).subset hdn))

/-! ### the composed moves -/

/-- **C07, subtree move.**  Extract the subtree below any clone, remove it, graft it back below any
clone or at the top level: the tree holds the same data points as before (outliers included). -/
theorem subtree_move_conserves {dt : Data} {s sub s1 s2 : Store} {name : Int}
    {parent : Option Int} (hs : WF s ∧ Full s)
    (hg : s.getSubtree dt (some name) = some sub) (hr : s.removeSubtree dt sub = some s1)
    (ha : s1.addSubtree dt sub parent = some s2) : (vals s2.data).Perm (vals s.data) := by
  have hsub := getSubtree_wf hg hs.1
  have hleg := getSubtree_rmLegal hg hs.1
  obtain ⟨_, _, _, _, _, _, _, _, hdo, hout⟩ := getSubtree_shape hg hs.1
  -- the clone-side data of the extracted subtree are the `_data` lists of its clones in `s`
  have hcd : cloneData sub = sub.nodes.flatMap s.dataOf := by
    rw [cloneData_eq]
    apply List.flatMap_congr
    intro nm hnm
    exact (hdo nm).trans (if_pos hnm)
  have hs1 : Inv0 s1 := removeSubtree_inv hr hs hleg
  have h2 := List.Perm.of_eq (addSubtree_data_eq ha hs1 hsub.1)
  cases hk : Store.keyEq sub s with
  | false =>
    have h1 := removeSubtree_data hr hs hleg hk
    rw [hcd] at h2
    exact h2.trans (List.perm_append_comm.trans h1.symm)
  | true =>
    have : s1 = Store.init dt := removeSubtree_eq_init hr hk
    subst this
    have h2' : (vals s2.data).Perm (vals sub.data) := by
      rw [getSubtree_data hg hs.1, ← hcd]
      simpa [Store.init] using h2
    refine h2'.trans ((List.perm_ext_iff_of_nodup hsub.1.data_nodup hs.1.data_nodup).2 fun d => ?_)
    constructor
    · intro hd
      have hd' : d ∈ sub.nodes.flatMap s.dataOf := getSubtree_data hg hs.1 ▸ hd
      obtain ⟨nm, _, hd⟩ := List.mem_flatMap.1 hd'
      exact mem_vals_of_mem_dOf hd
    · intro hd
      obtain ⟨nm, _, hd'⟩ := vals_subset_of_keyEq hs.1 hout hk d hd
      exact mem_vals_of_mem_dOf hd'

/-- **C07, data-point move.**  Remove a data point from a clone or the outliers and add it to any
clone or the outliers: the tree holds the same data points as before. -/
theorem dp_move_conserves {dt : Data} {s s1 s2 : Store} {dp : Nat} {a b : Int} (hs : WF s ∧ Full s)
    (hr : s.removeDataPointFromNode dt dp a = some s1)
    (ha : s1.addDataPointToNode dt dp b = some s2) : (vals s2.data).Perm (vals s.data) :=
  (addDp_data ha (rmDp_inv hr hs).1).trans (rmDp_data hr hs.1).symm

/-- the same through `remove_data_point_from_outliers` -/
theorem outlier_move_conserves {dt : Data} {s s1 s2 : Store} {dp : Nat} {b : Int} (hs : WF s ∧ Full s)
    (hr : s.removeDataPointFromOutliers dp = some s1)
    (ha : s1.addDataPointToNode dt dp b = some s2) : (vals s2.data).Perm (vals s.data) :=
  (addDp_data ha (rmOut_inv hr hs).1).trans (rmOut_data hr hs.1).symm

end PhyModel.Store
