import PhyModel.Proofs.GraphClosure
/-! `get_subtree` on the graph model (`gGetSubtree`, `Model/Graph.lean`): a closed form of the result
(`gGetSubtree_spec`), the operation succeeds when the indices handed out are usable
(`gGetSubtree_isSome`), and the result of `get_subtree` on a forest is a forest
(`forest_getSubtree`). -/
namespace PhyModel.Graph

/-- **closed form of `get_subtree`**: with `D` the nodes reachable from `r`, the new graph has the
root 0 plus the renamed live nodes of `D`, the renamed edges inside `D`, and one edge from the root
to the image of `r`; the indices handed out do not collide. -/
theorem gGetSubtree_spec {g g' : DG} {r : Nat} {ρ₁ ρ₂ : Nat → Nat} (h : gGetSubtree g r ρ₁ ρ₂ = some g') :
    ∃ D : List Nat, r ∈ g.nodes ∧ (∀ v, v ∈ D ↔ Reach g r v) ∧
      g'.nodes = 0 :: ((g.nodes.filter D.contains).map ρ₁).map ρ₂ ∧
      g'.edges = ((g.edges.filter fun e => D.contains e.1 && D.contains e.2).map
                    fun e => (ρ₂ (ρ₁ e.1), ρ₂ (ρ₁ e.2))) ++ [(0, ρ₂ (ρ₁ r))] ∧
      ((g.nodes.filter D.contains).map ρ₁).Nodup ∧ (((g.nodes.filter D.contains).map ρ₁).map ρ₂).Nodup ∧
      0 ∉ ((g.nodes.filter D.contains).map ρ₁).map ρ₂ := by
  obtain ⟨d, hd, h⟩ := Option.bind_eq_some_iff.1 h
  obtain ⟨sg, hsg, hc⟩ := Option.bind_eq_some_iff.1 h
  obtain ⟨hn1, rfl⟩ := subgraph_eq_some.1 hsg
  obtain ⟨hfresh, hn2, -, -, rfl⟩ := compose_single_eq_some.1 hc
  refine ⟨r :: d, (descendants_spec hd).1, mem_cons_descendants hd, rfl, ?_, hn1, hn2, fun h0 => ?_⟩
  · simp only [gInit, List.nil_append, List.map_map]
    rfl
  · obtain ⟨v, hv, hv0⟩ := List.mem_map.1 h0
    exact hfresh v hv (hv0 ▸ List.mem_singleton_self 0)

/-- a path from `r` only uses edges between nodes reachable from `r` -/
theorem Reach.restrict {g : DG} {r : Nat} {D : List Nat} (hD : ∀ v, v ∈ D ↔ Reach g r v) {x : Nat}
    (h : Reach g r x) :
    Reach { nodes := g.nodes, edges := g.edges.filter fun e => D.contains e.1 && D.contains e.2 } r x := by
  induction h with
  | refl => exact .refl _
  | step hb he ih =>
    refine .step ih (List.mem_filter.2 ⟨he, ?_⟩)
    simp only [List.contains_iff_mem, Bool.and_eq_true, hD]
    exact ⟨hb, .step hb he⟩

/-- the subtree below `r`, renamed by `ρ` (collision-free, never 0) and hung under a fresh root 0, is a
forest -/
theorem IsForest.subtree {g : DG} (hf : IsForest g) {r : Nat} (hr : r ∈ g.nodes) {D : List Nat}
    (hD : ∀ v, v ∈ D ↔ Reach g r v) (ρ : Nat → Nat)
    (hnd : ((g.nodes.filter D.contains).map ρ).Nodup) (h0 : 0 ∉ (g.nodes.filter D.contains).map ρ) :
    IsForest { nodes := 0 :: (g.nodes.filter D.contains).map ρ,
               edges := ((g.edges.filter fun e => D.contains e.1 && D.contains e.2).map
                          fun e => (ρ e.1, ρ e.2)) ++ [(0, ρ r)] } := by
  have memL : ∀ x, x ∈ g.nodes.filter D.contains ↔ x ∈ g.nodes ∧ Reach g r x := fun x => by
    rw [List.mem_filter, List.contains_iff_mem, hD]
  have memE : ∀ e, e ∈ (g.edges.filter fun e => D.contains e.1 && D.contains e.2) ↔
      e ∈ g.edges ∧ Reach g r e.1 ∧ Reach g r e.2 := fun e => by
    rw [List.mem_filter, Bool.and_eq_true, List.contains_iff_mem, List.contains_iff_mem, hD, hD]
  have hnodE : ((g.edges.filter fun e => D.contains e.1 && D.contains e.2).map (·.2)).Nodup :=
    List.Nodup.sublist (List.Sublist.map _ List.filter_sublist) hf.targets_nodup
  have hperm : ((g.edges.filter fun e => D.contains e.1 && D.contains e.2).map (·.2) ++ [r]).Perm
      (g.nodes.filter D.contains) := by
    rw [List.perm_ext_iff_of_nodup ?_ (hf.nodes_nodup.filter _)]
    · intro x
      rw [memL, List.mem_append, List.mem_map, List.mem_singleton]
      constructor
      · rintro (⟨e, he, rfl⟩ | rfl)
        · exact ⟨(hf.edges_live e ((memE e).1 he).1).2, ((memE e).1 he).2.2⟩
        · exact ⟨hr, .refl _⟩
      · rintro ⟨-, hx⟩
        rcases hx.tail_cases with rfl | ⟨b, hb, hbx⟩
        · exact .inr rfl
        · exact .inl ⟨(b, x), (memE _).2 ⟨hbx, hb, hx⟩, rfl⟩
    · rw [List.nodup_append]
      refine ⟨hnodE, List.nodup_singleton r, ?_⟩
      intro a ha b hb
      rw [List.mem_singleton] at hb
      subst hb
      rintro rfl
      obtain ⟨e, he, rfl⟩ := List.mem_map.1 ha
      obtain ⟨he1, he2, -⟩ := (memE e).1 he
      exact hf.not_reach_parent (p := e.1) (c := e.2) he1 he2
  refine IsForest.of_targets_perm ?_ ?_ ?_ ?_ ?_
  · exact List.nodup_cons.2 ⟨h0, hnd⟩
  · exact List.mem_cons_self
  · intro e he
    rcases List.mem_append.1 he with he | he
    · obtain ⟨e', he', rfl⟩ := List.mem_map.1 he
      obtain ⟨h1, h2, -⟩ := (memE e').1 he'
      exact List.mem_cons_of_mem _ (List.mem_map.2 ⟨e'.1, (memL _).2 ⟨(hf.edges_live _ h1).1, h2⟩, rfl⟩)
    · rw [List.mem_singleton] at he
      subst he
      exact List.mem_cons_self
  · have := hperm.map ρ
    simpa [DG.targets, List.map_map, Function.comp_def] using this
  · intro v hv
    rcases List.mem_cons.1 hv with rfl | hv
    · exact .refl _
    · obtain ⟨x, hx, rfl⟩ := List.mem_map.1 hv
      have h1 := Reach.restrict hD ((memL x).1 hx).2
      refine Reach.head (b := ρ r) (List.mem_append_right _ (List.mem_singleton.2 rfl)) ?_
      refine Reach.map ρ (fun e he => ?_) h1
      exact List.mem_append_left _ (List.mem_map.2 ⟨e, he, rfl⟩)

/-- **`get_subtree` of a forest is a forest** -/
theorem forest_getSubtree {g g' : DG} {r : Nat} {ρ₁ ρ₂ : Nat → Nat} (hf : IsForest g)
    (h : gGetSubtree g r ρ₁ ρ₂ = some g') : IsForest g' := by
  obtain ⟨D, hr, hD, hn, he, -, hnd, h0⟩ := gGetSubtree_spec h
  rw [List.map_map] at hn hnd h0
  obtain ⟨nodes, edges⟩ := g'
  subst hn he
  exact hf.subtree hr hD (ρ₂ ∘ ρ₁) hnd h0

/-- **`get_subtree` does not fail** on a live node when the indices handed out for the copies are
collision-free on the subtree and never the root index 0 -/
theorem gGetSubtree_isSome {g : DG} {r : Nat} {ρ₁ ρ₂ : Nat → Nat} (hr : r ∈ g.nodes)
    (hinj : ∀ a ∈ g.nodes, ∀ b ∈ g.nodes, Reach g r a → Reach g r b → ρ₂ (ρ₁ a) = ρ₂ (ρ₁ b) → a = b)
    (h0 : ∀ a ∈ g.nodes, Reach g r a → ρ₂ (ρ₁ a) ≠ 0) (hn : g.nodes.Nodup) :
    (gGetSubtree g r ρ₁ ρ₂).isSome = true := by
  obtain ⟨d, hd⟩ := Option.isSome_iff_exists.1 (descendants_isSome hr)
  have memL : ∀ x, x ∈ g.nodes.filter (r :: d).contains ↔ x ∈ g.nodes ∧ Reach g r x := by
    intro x
    simp only [List.mem_filter, List.contains_iff_mem, mem_cons_descendants hd]
  have hn1 : ((g.nodes.filter (r :: d).contains).map ρ₁).Nodup :=
    List.Nodup.map_on (fun a ha b hb hab =>
      hinj a ((memL a).1 ha).1 b ((memL b).1 hb).1 ((memL a).1 ha).2 ((memL b).1 hb).2 (congrArg ρ₂ hab))
      (hn.filter _)
  have hn2 : (((g.nodes.filter (r :: d).contains).map ρ₁).map ρ₂).Nodup := by
    rw [List.map_map]
    exact List.Nodup.map_on (fun a ha b hb hab =>
      hinj a ((memL a).1 ha).1 b ((memL b).1 hb).1 ((memL a).1 ha).2 ((memL b).1 hb).2 hab) (hn.filter _)
  have hfresh : ∀ v ∈ (g.nodes.filter (r :: d).contains).map ρ₁, ρ₂ v ∉ gInit.nodes := by
    intro y hy hm
    obtain ⟨x, hx, rfl⟩ := List.mem_map.1 hy
    exact h0 x ((memL x).1 hx).1 ((memL x).1 hx).2 (List.mem_singleton.1 hm)
  have hlr : ρ₁ r ∈ (g.nodes.filter (r :: d).contains).map ρ₁ :=
    List.mem_map.2 ⟨r, (memL r).2 ⟨hr, .refl _⟩, rfl⟩
  unfold gGetSubtree
  simp only [hd, Option.bind_eq_bind, Option.bind_some, subgraph_eq_some.2 ⟨hn1, rfl⟩]
  rw [(compose_single_eq_some (sub := ⟨_, _⟩)).2 ⟨hfresh, hn2, List.mem_singleton_self 0, hlr, rfl⟩]
  rfl

/-! ### non-vacuity: a forest with a two-node subtree, and what `get_subtree` returns for it -/

private def g4 : DG := { nodes := [0, 1, 2, 3, 4], edges := [(2, 1), (0, 4), (4, 3), (4, 2)] }

example : IsForest g4 ∧
    gGetSubtree g4 2 (fun i => i - 1) (fun i => i + 1) = some { nodes := [0, 1, 2], edges := [(2, 1), (0, 2)] } ∧
    gGetSubtree g4 4 (fun i => i - 1) (fun i => i + 1) =
      some { nodes := [0, 1, 2, 3, 4], edges := [(2, 1), (4, 3), (4, 2), (0, 4)] } := by
  decide +kernel

/-- the hypotheses of `gGetSubtree_isSome` and `forest_getSubtree` hold together on the example, and
a colliding numbering is rejected -/
example : (gGetSubtree g4 2 (fun i => i - 1) (fun i => i + 1)).isSome = true ∧
    (∀ g', gGetSubtree g4 2 (fun i => i - 1) (fun i => i + 1) = some g' → IsForest g') ∧
    gGetSubtree g4 2 (fun _ => 1) (fun i => i + 1) = none ∧
    gGetSubtree g4 2 (fun i => i - 1) (fun i => i) = none ∧
    gGetSubtree g4 5 (fun i => i - 1) (fun i => i + 1) = none :=
  ⟨by decide +kernel, fun _ h => forest_getSubtree (by decide +kernel) h, by decide +kernel,
    by decide +kernel, by decide +kernel⟩

end PhyModel.Graph
