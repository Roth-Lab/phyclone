import Mathlib.Data.List.Forall2
/-! `do` blocks and `List.mapM` in the `Except` monad, read off by cases: when a bind or a map
returns a value, when it raises, and what a successful `mapM` says entry by entry.  The models of
the loader (C17) and of the consensus command (C16) raise Python's exceptions this way. -/

namespace PhyModel
open List

variable {ε α β : Type}

theorem bind_eq_ok {x : Except ε α} {f : α → Except ε β} {b : β} :
    (x >>= f) = .ok b ↔ ∃ a, x = .ok a ∧ f a = .ok b := by
  cases x with
  | error e => exact ⟨fun h => (nomatch h), fun ⟨_, h, _⟩ => (nomatch h)⟩
  | ok a => exact ⟨fun h => ⟨a, rfl, h⟩, fun ⟨_, h, hf⟩ => Except.ok.inj h ▸ hf⟩

theorem bind_eq_error {x : Except ε α} {f : α → Except ε β} {e : ε} :
    (x >>= f) = .error e ↔ x = .error e ∨ ∃ a, x = .ok a ∧ f a = .error e := by
  cases x with
  | error e' =>
    exact ⟨fun h => .inl (Except.error.inj h ▸ rfl),
      fun h => h.elim (fun h => Except.error.inj h ▸ rfl) fun ⟨_, h, _⟩ => (nomatch h)⟩
  | ok a => exact ⟨fun h => .inr ⟨a, rfl, h⟩, fun h => h.elim (nomatch ·) fun ⟨_, h, hf⟩ => Except.ok.inj h ▸ hf⟩

theorem map_eq_ok {x : Except ε α} {f : α → β} {b : β} :
    x.map f = .ok b ↔ ∃ a, x = .ok a ∧ f a = b := by
  cases x with
  | error e => exact ⟨fun h => (nomatch h), fun ⟨_, h, _⟩ => (nomatch h)⟩
  | ok a => exact ⟨fun h => ⟨a, rfl, Except.ok.inj h⟩, fun ⟨_, h, hf⟩ => Except.ok.inj h ▸ congrArg _ hf⟩

theorem map_eq_error {x : Except ε α} {f : α → β} {e : ε} : x.map f = .error e ↔ x = .error e := by
  cases x with
  | error e' => exact ⟨fun h => Except.error.inj h ▸ rfl, fun h => Except.error.inj h ▸ rfl⟩
  | ok a => exact ⟨fun h => (nomatch h), fun h => (nomatch h)⟩

theorem forall₂_mem_left {R : α → β → Prop} {l : List α} {r : List β} (h : Forall₂ R l r)
    {a : α} (ha : a ∈ l) : ∃ b ∈ r, R a b := by
  induction h with
  | nil => cases ha
  | cons hxy _ ih =>
    rcases mem_cons.mp ha with rfl | ha
    · exact ⟨_, mem_cons_self, hxy⟩
    · obtain ⟨b, hb, hab⟩ := ih ha
      exact ⟨b, mem_cons_of_mem _ hb, hab⟩

theorem forall₂_mem_right {R : α → β → Prop} {l : List α} {r : List β} (h : Forall₂ R l r)
    {b : β} (hb : b ∈ r) : ∃ a ∈ l, R a b :=
  forall₂_mem_left h.flip hb

theorem forall₂_map_eq {f : β → α} {P : α → β → Prop} {l : List α} {r : List β}
    (h : Forall₂ (fun a b => f b = a ∧ P a b) l r) : r.map f = l := by
  induction h with
  | nil => rfl
  | cons hd _ ih => exact congrArg₂ cons hd.1 ih

theorem mapM_ok {f : α → Except ε β} {l : List α} {r : List β} (h : l.mapM f = .ok r) :
    Forall₂ (fun a b => f a = .ok b) l r := by
  induction l generalizing r with
  | nil =>
    cases h
    exact .nil
  | cons a t ih =>
    rw [mapM_cons] at h
    obtain ⟨b, hb, h⟩ := bind_eq_ok.mp h
    obtain ⟨bs, hbs, h⟩ := bind_eq_ok.mp h
    cases h
    exact .cons hb (ih hbs)

theorem mapM_error {f : α → Except ε β} {l : List α} {e : ε} (h : l.mapM f = .error e) :
    ∃ a ∈ l, f a = .error e := by
  induction l with
  | nil => cases h
  | cons a t ih =>
    rw [mapM_cons] at h
    rcases bind_eq_error.mp h with hfa | ⟨b, _, h⟩
    · exact ⟨a, mem_cons_self, hfa⟩
    · rcases bind_eq_error.mp h with ht | ⟨bs, _, h⟩
      · obtain ⟨a', ha', hf'⟩ := ih ht
        exact ⟨a', mem_cons_of_mem _ ha', hf'⟩
      · cases h

theorem mapM_ok_of {f : α → Except ε β} {l : List α} (h : ∀ a ∈ l, ∃ b, f a = .ok b) :
    ∃ r, l.mapM f = .ok r := by
  induction l with
  | nil => exact ⟨[], rfl⟩
  | cons a t ih =>
    obtain ⟨b, hb⟩ := h a mem_cons_self
    obtain ⟨bs, hbs⟩ := ih fun x hx => h x (mem_cons_of_mem _ hx)
    refine ⟨b :: bs, ?_⟩
    rw [mapM_cons, hb, hbs]
    rfl

end PhyModel
