import PhyModel.Proofs.GraphClosure
import Mathlib.Data.List.Range
import Mathlib.Data.List.Perm.Lattice
/-! `Tree.from_dict` on the graph model (`Model/Graph.lean`, `gFromDict`): `extend_from_edge_list` on the
one-node graph creates the indices `0 … max endpoint` and appends the edges in order
(`extendFromEdgeList_init`); when the dictionary describes a forest (`live` = the keys of
`node_idx_rev`, `edges` = the `graph` entry), the `remove_nodes_from` that follows leaves exactly the
live indices and every edge (`gFromDict_spec`), hence a forest again (`forest_fromDict`,
`forest_dictRT`). -/
namespace PhyModel.Graph

/-- the number of indices in use after `extend_from_edge_list(edges)` on a graph with `n` nodes
`0 … n-1`: one more than the largest endpoint, or `n` when that is larger -/
def extBound (edges : List (Nat × Nat)) (n : Nat) : Nat :=
  edges.foldl (fun n e => max n (max e.1 e.2 + 1)) n

theorem extBound_nil (n : Nat) : extBound [] n = n := rfl

theorem extBound_cons (e : Nat × Nat) (es : List (Nat × Nat)) (n : Nat) :
    extBound (e :: es) n = extBound es (max n (max e.1 e.2 + 1)) := rfl

theorem le_extBound (es : List (Nat × Nat)) : ∀ n, n ≤ extBound es n := by
  induction es with
  | nil => exact fun n => Nat.le_refl n
  | cons e es ih =>
    intro n
    rw [extBound_cons]
    exact Nat.le_trans (Nat.le_max_left _ _) (ih _)

/-- every endpoint is below the bound -/
theorem endpoint_lt_extBound (es : List (Nat × Nat)) :
    ∀ n, ∀ e ∈ es, e.1 < extBound es n ∧ e.2 < extBound es n := by
  induction es with
  | nil => intro n e he; cases he
  | cons a es ih =>
    intro n e he
    rw [extBound_cons]
    rcases List.mem_cons.1 he with rfl | he
    · have hm := Nat.le_trans (Nat.le_max_right n _) (le_extBound es (max n (max e.1 e.2 + 1)))
      exact ⟨Nat.lt_of_lt_of_le (Nat.lt_succ_of_le (Nat.le_max_left ..)) hm,
        Nat.lt_of_lt_of_le (Nat.lt_succ_of_le (Nat.le_max_right ..)) hm⟩
    · exact ih _ e he

/-- the bound is tight: it is the start value or one more than some endpoint -/
theorem extBound_tight (es : List (Nat × Nat)) :
    ∀ n, extBound es n = n ∨ ∃ e ∈ es, extBound es n = max e.1 e.2 + 1 := by
  induction es with
  | nil => exact fun n => .inl rfl
  | cons a es ih =>
    intro n
    rw [extBound_cons]
    rcases ih (max n (max a.1 a.2 + 1)) with h | ⟨e, he, h⟩
    · rcases Nat.le_total n (max a.1 a.2 + 1) with hle | hle
      · exact .inr ⟨a, List.mem_cons_self, h.trans (Nat.max_eq_right hle)⟩
      · exact .inl (h.trans (Nat.max_eq_left hle))
    · exact .inr ⟨e, List.mem_cons_of_mem _ he, h⟩

/-- one step of `extend_from_edge_list` on a graph without holes -/
private theorem range_step (n m : Nat) :
    (if m < n then List.range n else List.range n ++ List.range' n (m + 1 - n)) =
      List.range (max n (m + 1)) := by
  split
  · next h => rw [Nat.max_eq_left h]
  · next h =>
    have hle : n ≤ m + 1 := Nat.le_succ_of_le (Nat.le_of_not_lt h)
    rw [Nat.max_eq_right hle, List.range'_eq_map_range, ← List.range_add, Nat.add_sub_cancel' hle]

/-- `extend_from_edge_list` on a graph with the nodes `0 … n-1` -/
theorem extendFromEdgeList_range (es : List (Nat × Nat)) :
    ∀ (g : DG) (n : Nat), g.nodes = List.range n →
      (g.extendFromEdgeList es).edges = g.edges ++ es ∧
      (g.extendFromEdgeList es).nodes = List.range (extBound es n) := by
  induction es with
  | nil => exact fun g n h => ⟨(List.append_nil _).symm, h⟩
  | cons e es ih =>
    intro g n h
    obtain ⟨h1, h2⟩ := ih
      { nodes := if max e.1 e.2 < g.nodes.length then g.nodes
                 else g.nodes ++ List.range' g.nodes.length (max e.1 e.2 + 1 - g.nodes.length),
        edges := g.edges ++ [e] } (max n (max e.1 e.2 + 1))
      (by rw [h, List.length_range]; exact range_step n _)
    exact ⟨h1.trans (List.append_assoc ..), h2⟩

/-- **`extend_from_edge_list` on the one-node graph**: the edges in order, the nodes `0 … N-1` where
`N = extBound edges 1` is at least 1, above every endpoint, and 1 or one more than an endpoint -/
theorem extendFromEdgeList_init (edges : List (Nat × Nat)) :
    (gInit.extendFromEdgeList edges).edges = edges ∧
    (gInit.extendFromEdgeList edges).nodes = List.range (extBound edges 1) := by
  have := extendFromEdgeList_range edges gInit 1 (by simp [gInit, List.range_succ])
  simpa [gInit] using this

/-- the same with the bound spelled out as a maximum -/
theorem extBound_eq_foldl_max (es : List (Nat × Nat)) :
    ∀ n, extBound es (n + 1) = 1 + (es.map fun e => max e.1 e.2).foldl max n := by
  induction es with
  | nil => exact fun n => Nat.add_comm n 1
  | cons e es ih =>
    intro n
    rw [extBound_cons, List.map_cons, List.foldl_cons, ← ih, Nat.succ_max_succ]

theorem extendFromEdgeList_init' (edges : List (Nat × Nat)) :
    (gInit.extendFromEdgeList edges).edges = edges ∧
    (gInit.extendFromEdgeList edges).nodes =
      List.range (1 + (edges.map fun e => max e.1 e.2).foldl max 0) := by
  rw [← extBound_eq_foldl_max]
  exact extendFromEdgeList_init edges

/-! ### the round trip -/

/-- a forest without edges is the one-node graph -/
theorem IsForest.nodes_of_edges_nil {g : DG} (hf : IsForest g) (he : g.edges = []) :
    g.nodes.Perm [0] := by
  refine (List.perm_ext_iff_of_nodup hf.nodes_nodup (by simp)).2 fun v => ?_
  constructor
  · intro hv
    rcases (hf.reach v hv).tail_cases with rfl | ⟨b, _, hb⟩
    · simp
    · rw [he] at hb; cases hb
  · intro hv
    have : v = 0 := by simpa using hv
    exact this ▸ hf.root_live

/-- a listed index is not among the indices `from_dict` removes -/
theorem not_removed {l live : List Nat} {v : Nat} (hv : v ∈ live) :
    (l.filter fun v => !live.contains v).contains v = false := by
  rw [Bool.eq_false_iff]
  intro h
  have := (List.mem_filter.1 (List.contains_iff_mem.1 h)).2
  simp [hv] at this

/-- the nodes `from_dict` keeps, for any `live`: the listed indices that exist after the extension -/
theorem mem_removeNodesFrom_filter {g : DG} {live : List Nat} {v : Nat} :
    v ∈ (g.removeNodesFrom (g.nodes.filter fun v => !live.contains v)).nodes ↔ v ∈ g.nodes ∧ v ∈ live := by
  simp only [mem_removeNodesFrom_nodes, List.mem_filter, Bool.not_eq_true', List.contains_eq_mem,
    decide_eq_false_iff_not, not_and, Classical.not_not]
  exact ⟨fun h => ⟨h.1, h.2 h.1⟩, fun h => ⟨h.1, fun _ => h.2⟩⟩

/-- **`from_dict` of the dictionary of a forest**: the same live set, the same edge list -/
theorem gFromDict_spec {edges : List (Nat × Nat)} {live : List Nat}
    (hf : IsForest { nodes := live, edges := edges }) :
    (gFromDict edges live).nodes.Perm live ∧ (gFromDict edges live).edges = edges := by
  unfold gFromDict
  split
  · next he =>
    have he : edges = [] := List.isEmpty_iff.1 he
    exact ⟨(hf.nodes_of_edges_nil he).symm, he.symm⟩
  · obtain ⟨hE, hN⟩ := extendFromEdgeList_init edges
    have hlt : ∀ v ∈ live, v < extBound edges 1 := by
      intro v hv
      by_cases h0 : v = 0
      · exact h0 ▸ le_extBound edges 1
      · obtain ⟨p, hp⟩ := hf.exists_parent hv h0
        exact (endpoint_lt_extBound edges 1 _ hp).2
    constructor
    · refine (List.perm_ext_iff_of_nodup ?_ hf.nodes_nodup).2 fun v => ?_
      · simp only [DG.removeNodesFrom, hN]
        exact List.nodup_range.filter _
      · rw [mem_removeNodesFrom_filter, hN, List.mem_range]
        exact ⟨fun h => h.2, fun h => ⟨hlt v h, h⟩⟩
    · simp only [DG.removeNodesFrom, hE]
      refine List.filter_eq_self.2 fun e he => ?_
      have := hf.edges_live e he
      rw [not_removed this.1, not_removed this.2]; rfl

/-- **`from_dict` preserves the shape invariant** -/
theorem forest_fromDict {edges : List (Nat × Nat)} {live : List Nat}
    (hf : IsForest { nodes := live, edges := edges }) : IsForest (gFromDict edges live) := by
  obtain ⟨hn, he⟩ := gFromDict_spec hf
  exact hf.of_perm hn.symm (by rw [he])

/-- `to_dict` then `from_dict` of a forest is a forest on the same live set with the same edge list -/
theorem forest_dictRT {g : DG} (hf : IsForest g) : IsForest (gFromDict g.edges g.nodes) :=
  forest_fromDict (edges := g.edges) (live := g.nodes) hf

theorem dictRT_spec {g : DG} (hf : IsForest g) :
    (gFromDict g.edges g.nodes).nodes.Perm g.nodes ∧ (gFromDict g.edges g.nodes).edges = g.edges :=
  gFromDict_spec (edges := g.edges) (live := g.nodes) hf

/-- non-vacuity: a forest whose indices have holes (1, 3, 5, 6 are created and removed again) -/
example : IsForest { nodes := [0, 4, 7, 2], edges := [(0, 4), (4, 7), (4, 2)] } ∧
    gFromDict [(0, 4), (4, 7), (4, 2)] [0, 4, 7, 2] =
      { nodes := [0, 2, 4, 7], edges := [(0, 4), (4, 7), (4, 2)] } := by decide +kernel

end PhyModel.Graph
