import PhyModel.Model.Proposal
import PhyModel.Proofs.OrdersCount
/-! The incremental weights telescope along a path. -/

namespace PhyModel
open Proposal

/-- the permutation density (or the constant 1 without a permutation distribution) is positive -/
theorem pdfOf_pos (c : Cfg) (t : T) : 0 < pdfOf c t := by
  unfold pdfOf
  split
  · exact div_pos one_pos (Orders.countCode_pos _ _)
  · exact one_pos

namespace Proposal

/-- product along a path of (incremental weight × proposal probability); `first` = the current step
has no parent particle, the last step carries the fixed-root correction -/
def pathProd (dt : Data) (c : Cfg) : Bool → T → List (T × ℚ) → ℚ
  | _, _, [] => 1
  | first, p, (t, q) :: rest =>
    incrWeight dt c first rest.isEmpty p t q * q * pathProd dt c false t rest

/-- the state at the end of a path -/
def lastTree : T → List (T × ℚ) → T
  | p, [] => p
  | _, (t, _) :: rest => lastTree t rest

end Proposal

/-- one step of the telescope: the weight, times its proposal probability, replaces the parent's
contribution by the child's -/
theorem incrWeight_mul (dt : Data) (c : Cfg) (first last : Bool) (p t : T) (q : ℚ) (hq : q ≠ 0)
    (hp : first = false → pMargT dt c p ≠ 0) (ht : pMargT dt c t ≠ 0) :
    incrWeight dt c first last p t q * q * (if first then 1 else pMargT dt c p * pdfOf c p)
      = (if last then pOneT dt c t else pMargT dt c t) * pdfOf c t := by
  have hP := (pdfOf_pos c p).ne'
  have hw : ∀ N : ℚ, N / (if first then q else pMargT dt c p * pdfOf c p * q) * q
      * (if first then 1 else pMargT dt c p * pdfOf c p) = N := by
    intro N
    cases first with
    | true => rw [if_pos rfl, if_pos rfl, div_mul_cancel₀ N hq, mul_one]
    | false =>
      rw [if_neg Bool.false_ne_true, if_neg Bool.false_ne_true, mul_assoc, mul_comm q, div_mul_cancel₀]
      exact mul_ne_zero (mul_ne_zero (hp rfl) hP) hq
  simp only [incrWeight]
  have h := hw (pMargT dt c t * pdfOf c t)
  generalize pMargT dt c t * pdfOf c t / _ = w at h ⊢
  generalize (if first = true then (1 : ℚ) else _) = D at h ⊢
  cases last with
  | false => rw [if_neg Bool.false_ne_true, if_neg Bool.false_ne_true]; exact h
  | true =>
    rw [if_pos rfl, if_pos rfl]
    rw [show w / pMargT dt c t * pOneT dt c t * q * D = w * q * D / pMargT dt c t * pOneT dt c t by ring,
      h, mul_div_cancel_left₀ _ ht, mul_comm]

theorem pathProd_general (dt : Data) (c : Cfg) :
    ∀ (steps : List (T × ℚ)) (first : Bool) (p : T), steps ≠ [] →
      (∀ tq ∈ steps, tq.2 ≠ 0) → (∀ tq ∈ steps, pMargT dt c tq.1 ≠ 0) →
      (first = false → pMargT dt c p ≠ 0) →
      pathProd dt c first p steps * (if first then 1 else pMargT dt c p * pdfOf c p)
        = pOneT dt c (lastTree p steps) * pdfOf c (lastTree p steps) := by
  intro steps
  induction steps with
  | nil => intro _ _ h; exact absurd rfl h
  | cons tq rest ih =>
    intro first p _ hq hM hp
    obtain ⟨t, q⟩ := tq
    have hq0 : q ≠ 0 := hq (t, q) List.mem_cons_self
    have hM0 : pMargT dt c t ≠ 0 := hM (t, q) List.mem_cons_self
    have hstep := incrWeight_mul dt c first rest.isEmpty p t q hq0 hp hM0
    rw [pathProd, mul_right_comm, hstep]
    cases rest with
    | nil => simp only [pathProd, lastTree, List.isEmpty_nil, if_true, mul_one]
    | cons x rest' =>
      have hrest := ih false t (List.cons_ne_nil _ _) (fun tq h => hq tq (List.mem_cons_of_mem _ h))
        (fun tq h => hM tq (List.mem_cons_of_mem _ h)) (fun _ => hM0)
      simp only [Bool.false_eq_true, if_false] at hrest
      simp only [List.isEmpty_cons, Bool.false_eq_true, if_false, lastTree]
      rw [mul_comm, hrest, lastTree]

end PhyModel
