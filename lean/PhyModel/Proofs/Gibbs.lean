import Mathlib.Algebra.BigOperators.Group.Finset.Basic
import Mathlib.Algebra.BigOperators.Ring.Finset
import Mathlib.Algebra.Order.Field.Rat
import Mathlib.Data.Fintype.BigOperators
import Mathlib.Algebra.BigOperators.Field
import Mathlib.Algebra.Order.BigOperators.Group.Finset
import Mathlib.Tactic.Ring
/-! The two abstract invariance arguments on a finite state type (C01 stage 2, C04): mixing over an auxiliary
variable (`aux_mixture_invariant`: the order drawn before the sweep), and block Gibbs (`gibbs_block_invariant`:
choose a block by a rule that is constant on blocks, redraw inside it in proportion to the target).  The
namespace is the root `Moves`, not the model's `PhyModel.Moves`; the list-level kernels that the move proofs
use are in `Proofs/MovesKernel.lean` (namespace `PhyModel.Gibbs`). -/

open Finset

namespace Moves

variable {X Sg Cc : Type} [Fintype X] [Fintype Sg] [Fintype Cc] [DecidableEq X]

/-- Auxiliary-variable mixture: draw σ | x ~ u x ·, then apply a kernel that leaves
x ↦ π x * u x σ invariant.  The mixture leaves π invariant. -/
theorem aux_mixture_invariant (π : X → ℚ) (u : X → Sg → ℚ) (P : Sg → X → X → ℚ)
    (hu : ∀ x, π x ≠ 0 → ∑ s, u x s = 1)
    (hP : ∀ s y, ∑ x, (π x * u x s) * P s x y = π y * u y s) (y : X) :
    ∑ x, π x * (∑ s, u x s * P s x y) = π y :=
  calc ∑ x, π x * (∑ s, u x s * P s x y)
      = ∑ x, ∑ s, π x * u x s * P s x y :=
        sum_congr rfl fun x _ => (mul_sum _ _ _).trans (sum_congr rfl fun s _ => (mul_assoc _ _ _).symm)
    _ = ∑ s, π y * u y s := sum_comm.trans (sum_congr rfl fun s _ => hP s y)
    _ = π y := by
      rw [← mul_sum]
      by_cases hy : π y = 0
      · rw [hy, zero_mul]
      · rw [hu y hy, mul_one]

/-- A move that picks a choice `c` with probability `r x c`, then redraws the state within the
block `{z | rel c x z}` proportionally to π.  If each `rel c` is an equivalence relation and the
choice probability is constant on blocks, π is invariant. -/
theorem gibbs_block_invariant (π : X → ℚ) (hπ : ∀ x, 0 ≤ π x)
    (r : X → Cc → ℚ) (hr : ∀ x, π x ≠ 0 → ∑ c, r x c = 1)
    (rel : Cc → X → X → Prop) [∀ c x z, Decidable (rel c x z)]
    (hrefl : ∀ c x, rel c x x) (hsymm : ∀ c x z, rel c x z → rel c z x)
    (htrans : ∀ c x z w, rel c x z → rel c z w → rel c x w)
    (hconst : ∀ c x z, rel c x z → r x c = r z c) (y : X) :
    ∑ x, π x * (∑ c, r x c * (if rel c x y then π y / (∑ z, if rel c x z then π z else 0) else 0))
      = π y := by
  by_cases hy : π y = 0
  · simp only [hy, zero_div, ite_self, mul_zero, sum_const_zero]
  let Z : Cc → X → ℚ := fun c x => ∑ z, if rel c x z then π z else 0
  have hZ : ∀ c, Z c y ≠ 0 := fun c => ne_of_gt <|
    calc 0 < π y := lt_of_le_of_ne (hπ y) (Ne.symm hy)
      _ = if rel c y y then π y else 0 := (if_pos (hrefl c y)).symm
      _ ≤ Z c y := single_le_sum (f := fun z => if rel c y z then π z else 0)
          (fun z _ => by split_ifs; exacts [hπ z, le_rfl]) (mem_univ y)
  -- each term seen from `y`: by symmetry and transitivity `x` and `y` have the same block
  have hterm : ∀ x c, π x * (r x c * (if rel c x y then π y / Z c x else 0))
      = r y c * (π y / Z c y) * (if rel c y x then π x else 0) := by
    intro x c
    by_cases h : rel c x y
    · have e : Z c x = Z c y := sum_congr rfl fun z _ =>
        if_congr ⟨htrans c y x z (hsymm c x y h), htrans c x y z h⟩ rfl rfl
      rw [if_pos h, if_pos (hsymm c x y h), e, hconst c x y h]; ring
    · rw [if_neg h, if_neg fun h' => h (hsymm c y x h'), mul_zero, mul_zero, mul_zero]
  calc ∑ x, π x * (∑ c, r x c * (if rel c x y then π y / Z c x else 0))
      = ∑ x, ∑ c, r y c * (π y / Z c y) * (if rel c y x then π x else 0) :=
        sum_congr rfl fun x _ => (mul_sum _ _ _).trans (sum_congr rfl fun c _ => hterm x c)
    _ = ∑ c, r y c * (π y / Z c y) * Z c y :=
        sum_comm.trans (sum_congr rfl fun c _ => (mul_sum _ _ _).symm)
    _ = ∑ c, r y c * π y := sum_congr rfl fun c _ => by rw [mul_assoc, div_mul_cancel₀ _ (hZ c)]
    _ = π y := by rw [← sum_mul, hr y hy, one_mul]

#print axioms aux_mixture_invariant
#print axioms gibbs_block_invariant
end Moves
