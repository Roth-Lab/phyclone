import PhyModel.Proofs.HoldsProposal
import PhyModel.Proofs.MovesDpBlocks
import PhyModel.Proofs.MovesPrBlocks
/-! # The data-point move and the prune-regraft move keep the tree complete and well formed

Every candidate of `Moves.dpStep` (the tree with `i` removed, then `i` added to any clone or to the
outliers) and of `Moves.pruneRegraft` (a clone with its subtree cut off, then grafted under any clone of
the rest or at the top level) is a well-formed tree on the same data points; hence so is every tree
listed by `Moves.dataPointMove` and `Moves.pruneRegraft`. -/

namespace PhyModel.RunOK
open Orders PG Moves

/-- the two notions of well-formed tree (`PG.WFT` of C01, `Canon.WFT` of C04) agree up to the clause
about outliers -/
theorem toCanon {c : Proposal.Cfg} {x : T} (w : WFT c x) : Canon.WFT x :=
  ⟨w.canon_f, w.sort_out, w.nodup, (ne_iff _).mp w.ne, w.big⟩

theorem ofCanon {c : Proposal.Cfg} {x : T} (w : Canon.WFT x) (ho : c.op = 0 → x.out = []) : WFT c x := by
  refine ⟨?_, (ne_iff _).mpr w.ne, w.nodup, w.small, ho⟩
  obtain ⟨f, o⟩ := x
  simp only [T.mk']
  rw [w.canonF, w.sortedOut]

/-- a canonicalised well-formed forest with an outlier list, holding `D` -/
theorem holds_mk' {c : Proposal.Cfg} {D : List ℕ} {F : DF} {o : List ℕ} (w : Canon.WF F) (hp : (F.all ++ o).Perm D)
    (hD : D.Nodup) (hbig : ∀ a ∈ D, a < Forest.big) (ho : c.op = 0 → o = []) : Holds c D (T.mk' F o) := by
  have hperm : ((T.mk' F o).f.all ++ (T.mk' F o).out).Perm D :=
    (mk'_perm F o).trans hp
  refine ⟨⟨mk'_idem _ _, allNonempty_canon _ ((ne_iff _).mpr w.ne), hperm.nodup_iff.mpr hD,
    fun a ha => hbig a (hperm.subset ha), ?_⟩, hperm⟩
  intro h0
  simp only [T.mk', ho h0]
  rfl

theorem perm_swap_right {α : Type} (a b c : List α) : (a ++ b ++ c).Perm (a ++ c ++ b) := by
  rw [List.append_assoc, List.append_assoc]
  exact List.Perm.append_left _ List.perm_append_comm

/-! ### data-point move -/

theorem mem_addDpAt_self {key i : ℕ} {f : DF} (h : key ∈ f.all) : i ∈ (addDpAt key i f).all := by
  obtain ⟨nd, hnd, hk⟩ := Canon.mem_all_iff.mp h
  rw [Canon.mem_all_iff, Canon.nodesOf_addDpAt]
  refine ⟨_, List.mem_map_of_mem hnd, ?_⟩
  rw [if_pos (List.contains_iff_mem.mpr hk)]
  exact List.mem_append_right _ (List.mem_singleton_self i)

theorem addDpAt_all_perm {key i : ℕ} {f : DF} (hn : f.all.Nodup) (hi : i ∉ f.all) (hk : key ∈ f.all) :
    (addDpAt key i f).all.Perm (f.all ++ [i]) := by
  have h1 := Canon.filter_ne_append_perm (Canon.addDpAt_nodup key hn hi) (mem_addDpAt_self (i := i) hk)
  rw [← Canon.removeDp_all, Canon.removeDp_addDpAt key hi] at h1
  exact h1.symm

/-- every candidate of the data-point step for a movable data point holds the same data -/
theorem dpCands_hold {c : Proposal.Cfg} {D : List ℕ} {x : T} (outl : Bool) (hx : Holds c D x)
    (ho : outl = true → c.op ≠ 0) {i : ℕ} (hm : dpMovable x i = true) :
    ∀ y ∈ dpCands outl x i, Holds c D y := by
  have w := toCanon hx.wft
  have b := Canon.base_of_movable w hm
  -- `i` is one of the data points of `x`
  have himem : i ∈ x.f.all ++ x.out := by
    by_cases hio : i ∈ x.out
    · exact List.mem_append_right _ hio
    · obtain ⟨nd, hnd, hi, _⟩ := Canon.holder_of_movable hm hio
      exact List.mem_append_left _ (Canon.mem_all_iff.mpr ⟨nd, hnd, hi⟩)
  have hrest : ((removeDp i x.f).all ++ x.out.filter (· != i) ++ [i]).Perm D := by
    rw [Canon.removeDp_all, ← List.filter_append]
    exact (Canon.filter_ne_append_perm w.nodup himem).trans hx.perm
  have hout0 : c.op = 0 → x.out.filter (· != i) = [] := fun h0 => by rw [hx.wft.out h0, List.filter_nil]
  intro y hy
  rw [Canon.dpCands_eq] at hy
  rcases (Canon.mem_dpCore b).mp hy with ⟨a, ha, rfl⟩ | ⟨ho', rfl⟩
  · refine holds_mk' (Canon.addDpAt_wf a b.wf b.inf b.ibig) ?_ hx.nodupD hx.bigD hout0
    exact ((addDpAt_all_perm b.wf.nodup b.inf ha).append_right _).trans ((perm_swap_right _ _ _).trans hrest)
  · refine holds_mk' b.wf ?_ hx.nodupD hx.bigD (fun h0 => absurd h0 (ho ho'))
    rw [← List.append_assoc]
    exact hrest

theorem allD_gibbsK {X : Type} {P : X → Prop} {w : X → ℚ} {cs : List X} (h : ∀ t ∈ cs, P t) :
    AllD P (Gibbs.gibbsK w cs) :=
  allD_categorical (List.forall_mem_map.2 h)

theorem dpStep_holds (mc : Moves.Cfg) {c : Proposal.Cfg} {D : List ℕ} {x : T} (hx : Holds c D x)
    (ho : mc.outliers = true → c.op ≠ 0) (i : ℕ) : AllD (Holds c D) (dpStep mc x i) := by
  rw [dpStep_eq]
  exact allD_ite (fun hm => allD_gibbsK (dpCands_hold mc.outliers hx ho hm)) fun _ => allD_pure hx

theorem dpFold_holds (mc : Moves.Cfg) {c : Proposal.Cfg} {D : List ℕ} (ho : mc.outliers = true → c.op ≠ 0) :
    ∀ (σ : List ℕ) (d : Dist T), AllD (Holds c D) d → AllD (Holds c D) (dpFold mc σ d)
  | [], _, hd => hd
  | i :: rest, _, hd =>
    dpFold_holds mc ho rest _ (allD_norm (allD_bind hd fun _ hx => dpStep_holds mc hx ho i))

/-- **data-point move**: every tree listed by `Moves.dataPointMove` for a well-formed tree holding `D`
is a well-formed tree holding `D` (the outlier set is used only when outlier modelling is on) -/
theorem dataPointMove_holds (mc : Moves.Cfg) {c : Proposal.Cfg} {D : List ℕ} {x : T} (hx : Holds c D x)
    (ho : mc.outliers = true → c.op ≠ 0) : AllD (Holds c D) (dataPointMove mc x) :=
  allD_norm (allD_bind_any fun σ => dpFold_holds mc ho σ _ (allD_pure hx))

/-! ### prune and regraft -/

/-- every re-attachment of a clone of `x` (with its subtree) holds the same data -/
theorem prCands_hold {c : Proposal.Cfg} {D : List ℕ} {x : T} (hx : Holds c D x) {sub : List ℕ × DF}
    (hsub : sub ∈ nodesOf x.f) : ∀ y ∈ prCands x sub, Holds c D y := by
  obtain ⟨sd, sk⟩ := sub
  have b := Canon.pbase_of_node (toCanon hx.wft) hsub
  have hall := (Canon.removeSub_all_perm (toCanon hx.wft).wf hsub b.key_mem).symm
  intro y hy
  rw [Canon.prCands_eq] at hy
  rcases (Canon.mem_prCore b).mp hy with ⟨a, ha, rfl⟩ | rfl
  · refine holds_mk' (b.attach_wf ha) ?_ hx.nodupD hx.bigD hx.wft.out
    exact (((Canon.attachUnder_all_perm sd sk b.wfP.nodup ha).trans hall).append_right _).trans hx.perm
  · exact holds_mk' b.root_wf ((hall.append_right _).trans hx.perm) hx.nodupD hx.bigD hx.wft.out

/-- **prune-regraft move**: every tree listed by `Moves.pruneRegraft` for a well-formed tree holding
`D` is a well-formed tree holding `D` -/
theorem pruneRegraft_holds (mc : Moves.Cfg) {c : Proposal.Cfg} {D : List ℕ} {x : T} (hx : Holds c D x) :
    AllD (Holds c D) (pruneRegraft mc x) := by
  rw [pruneRegraft_eq]
  refine allD_ite (fun _ => allD_pure hx) fun _ =>
    allD_norm (allD_bind (allD_uniform (P := (· ∈ nodesOf x.f)) fun _ h => h) fun sub hsub => ?_)
  exact allD_ite (fun _ => allD_pure hx) fun _ => allD_gibbsK (prCands_hold hx hsub)

end PhyModel.RunOK
