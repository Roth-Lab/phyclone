import PhyModel.Proofs.StoreWF_AL
import PhyModel.Proofs.StoreWF_SF2
/-! Shared layer of the C07 proofs: the invariant `Inv0`, `WF` split into three list-level parts
(`WFG` graph payloads, `WFM` the two maps, `WFD` the `_data` map) so that each operation only has to
say what it does to the payload list and to each map; transfer along `Perm` / payload rewriting. -/
namespace PhyModel.Store
open Store.Store SF AL

/-- the invariant of C07: the four views agree and every clone has its `_data` entry -/
def Inv0 (s : Store) : Prop := WF s ∧ Full s

/-- payload part -/
structure WFG (rs : List NodeRec) : Prop where
  names_nodup : (rs.map (·.name)).Nodup
  idxs_nodup : (rs.map (·.idx)).Nodup
  idx_pos : ∀ n ∈ rs, n.idx ≠ 0
  name_nonneg : ∀ n ∈ rs, 0 ≤ n.name

/-- the maps name → index and index → name are exactly the payload pairs -/
def WFM (rs : List NodeRec) (ni : List (Int × Nat)) (nir : List (Nat × Int)) : Prop :=
  ni.Perm (rs.map fun n => (n.name, n.idx)) ∧ nir.Perm (rs.map fun n => (n.idx, n.name))

/-- `_data` part -/
structure WFD (rs : List NodeRec) (data : List (Int × List Nat)) : Prop where
  data_keys : (keys data).Nodup
  data_sub : ∀ k ∈ keys data, k = outKey ∨ k ∈ rs.map (·.name)
  payload_data : ∀ n ∈ rs, n.dps.Perm (dOf data n.name)
  data_nodup : (vals data).Nodup

theorem dataOf_eq (s : Store) (nm : Int) : s.dataOf nm = dOf s.data nm := rfl

theorem WFM.keys_ni {rs : List NodeRec} {ni nir} (h : WFM rs ni nir) : (keys ni).Perm (rs.map (·.name)) := by
  have := h.1.map Prod.fst
  rwa [List.map_map] at this

theorem WFM.keys_nir {rs : List NodeRec} {ni nir} (h : WFM rs ni nir) : (keys nir).Perm (rs.map (·.idx)) := by
  have := h.2.map Prod.fst
  rwa [List.map_map] at this

theorem wf_iff (s : Store) :
    WF s ↔ WFG s.forest.recs ∧ WFM s.forest.recs s.nodeIdx s.nodeIdxRev ∧ WFD s.forest.recs s.data := by
  constructor
  · intro h
    refine ⟨⟨h.names_nodup, h.idxs_nodup, h.idx_pos, h.name_nonneg⟩, ⟨?_, ?_⟩,
      ⟨h.data_keys, ?_, h.payload_data, h.data_nodup⟩⟩
    · refine (List.perm_ext_iff_of_nodup (List.Nodup.of_map _ h.nodeIdx_keys)
        (nodup_map_pair h.names_nodup _)).2 fun a => ?_
      obtain ⟨nm, i⟩ := a
      rw [h.nodeIdx_iff]; simp only [List.mem_map, Prod.mk.injEq]
    · refine (List.perm_ext_iff_of_nodup (List.Nodup.of_map _ h.nodeIdxRev_keys)
        (nodup_map_pair h.idxs_nodup _)).2 fun a => ?_
      obtain ⟨i, nm⟩ := a
      rw [h.nodeIdxRev_iff]; simp only [List.mem_map, Prod.mk.injEq]
      constructor <;> rintro ⟨n, hn, h1, h2⟩ <;> exact ⟨n, hn, h2, h1⟩
    · intro k hk
      obtain ⟨e, he, rfl⟩ := List.mem_map.1 hk
      exact h.data_sub e he
  · rintro ⟨hg, ⟨hm1, hm2⟩, hd⟩
    refine ⟨hg.names_nodup, hg.idxs_nodup, hg.idx_pos, hg.name_nonneg, ?_, ?_, ?_, ?_, hd.data_keys, ?_,
      hd.payload_data, hd.data_nodup⟩
    · exact (WFM.keys_ni ⟨hm1, hm2⟩).nodup_iff.2 hg.names_nodup
    · exact (WFM.keys_nir ⟨hm1, hm2⟩).nodup_iff.2 hg.idxs_nodup
    · intro nm i; rw [hm1.mem_iff]; simp only [List.mem_map, Prod.mk.injEq]
    · intro i nm; rw [hm2.mem_iff]; simp only [List.mem_map, Prod.mk.injEq]
      constructor <;> rintro ⟨n, hn, h1, h2⟩ <;> exact ⟨n, hn, h2, h1⟩
    · intro e he; exact hd.data_sub e.1 (List.mem_map_of_mem he)

theorem WF.g {s : Store} (h : WF s) : WFG s.forest.recs := ((wf_iff s).1 h).1
theorem WF.m {s : Store} (h : WF s) : WFM s.forest.recs s.nodeIdx s.nodeIdxRev := ((wf_iff s).1 h).2.1
theorem WF.d {s : Store} (h : WF s) : WFD s.forest.recs s.data := ((wf_iff s).1 h).2.2

theorem dense_of_names {s s' : Store} (h : s'.forest.names = s.forest.names) (hd : Dense s) : Dense s' := by
  intro n hn
  obtain ⟨m, hm, hmn⟩ := mem_names.1 (h ▸ mem_names.2 ⟨n, hn, rfl⟩)
  rw [Store.numNodes, numNodes_eq_names, h, ← numNodes_eq_names, ← hmn]; exact hd m hm

/-! ### transfer -/

theorem WFG.perm {rs rs' : List NodeRec} (hp : rs'.Perm rs) (h : WFG rs) : WFG rs' :=
  ⟨(hp.map _).nodup_iff.2 h.names_nodup, (hp.map _).nodup_iff.2 h.idxs_nodup,
    fun n hn => h.idx_pos n (hp.subset hn), fun n hn => h.name_nonneg n (hp.subset hn)⟩

theorem WFM.perm {rs rs' : List NodeRec} {ni nir} (hp : rs'.Perm rs) (h : WFM rs ni nir) : WFM rs' ni nir :=
  ⟨h.1.trans (hp.map _).symm, h.2.trans (hp.map _).symm⟩

theorem WFD.perm {rs rs' : List NodeRec} {data} (hp : rs'.Perm rs) (h : WFD rs data) : WFD rs' data :=
  ⟨h.data_keys, fun k hk => (h.data_sub k hk).imp id fun hm => (hp.map _).symm.subset hm,
    fun n hn => h.payload_data n (hp.subset hn), h.data_nodup⟩

/-- payload lists that agree on `(idx, name)` pointwise and on data-point sets up to order -/
def SameCore (rs' rs : List NodeRec) : Prop :=
  List.Forall₂ (fun a b : NodeRec => a.idx = b.idx ∧ a.name = b.name ∧ a.dps.Perm b.dps) rs' rs

theorem SameCore.map_eq {rs' rs : List NodeRec} (h : SameCore rs' rs) {β} (f : NodeRec → β)
    (hf : ∀ a b : NodeRec, a.idx = b.idx → a.name = b.name → f a = f b) : rs'.map f = rs.map f :=
  List.forall₂_eq_eq_eq ▸ List.rel_map (fun a b hab => hf a b hab.1 hab.2.1) h

theorem SameCore.mem {rs' rs : List NodeRec} (h : SameCore rs' rs) {a : NodeRec} (ha : a ∈ rs') :
    ∃ b ∈ rs, a.idx = b.idx ∧ a.name = b.name ∧ a.dps.Perm b.dps := by
  induction h with
  | nil => simp at ha
  | cons hab _ ih =>
    rcases List.mem_cons.1 ha with rfl | ha
    · exact ⟨_, by simp, hab⟩
    · obtain ⟨b, hb, h⟩ := ih ha; exact ⟨b, by simp [hb], h⟩

theorem sameCore_of_cores {rs' rs : List NodeRec} (h : rs'.map core = rs.map core) : SameCore rs' rs :=
  (List.forall₂_map_right_iff.1 (List.forall₂_map_left_iff.1 (List.forall₂_eq_eq_eq ▸ h))).imp fun _ _ e =>
    ⟨congrArg (·.1) e, congrArg (·.2.1) e, .of_eq (congrArg (·.2.2) e)⟩

theorem mem_of_cores_eq {rs' rs : List NodeRec} (h : rs'.map core = rs.map core) {n' : NodeRec} (hn : n' ∈ rs') :
    ∃ m ∈ rs, n'.idx = m.idx ∧ n'.name = m.name ∧ n'.dps = m.dps := by
  obtain ⟨m, hm, hc⟩ := List.mem_map.1 (h ▸ List.mem_map.2 ⟨n', hn, rfl⟩)
  exact ⟨m, hm, (Prod.mk.inj hc.symm).1, (Prod.mk.inj (Prod.mk.inj hc.symm).2)⟩

theorem WFG.of_pairs {rs rs' : List NodeRec}
    (hp : rs'.map (fun n => (n.name, n.idx)) = rs.map fun n => (n.name, n.idx)) (h : WFG rs) : WFG rs' := by
  have hn : rs'.map (·.name) = rs.map (·.name) := by
    have := congrArg (List.map Prod.fst) hp; rwa [List.map_map, List.map_map] at this
  have hi : rs'.map (·.idx) = rs.map (·.idx) := by
    have := congrArg (List.map Prod.snd) hp; rwa [List.map_map, List.map_map] at this
  have hm : ∀ n ∈ rs', ∃ m ∈ rs, (m.name, m.idx) = (n.name, n.idx) := fun n hn' =>
    List.mem_map.1 (hp ▸ List.mem_map.2 ⟨n, hn', rfl⟩)
  refine ⟨hn ▸ h.names_nodup, hi ▸ h.idxs_nodup, fun n hn' => ?_, fun n hn' => ?_⟩
  · obtain ⟨m, hm, he⟩ := hm n hn'
    exact (Prod.mk.inj he).2 ▸ h.idx_pos m hm
  · obtain ⟨m, hm, he⟩ := hm n hn'
    exact (Prod.mk.inj he).1 ▸ h.name_nonneg m hm

theorem WFM.of_pairs {rs rs' : List NodeRec} {ni nir}
    (hp : rs'.map (fun n => (n.name, n.idx)) = rs.map fun n => (n.name, n.idx)) (h : WFM rs ni nir) :
    WFM rs' ni nir := by
  have hq : rs'.map (fun n => (n.idx, n.name)) = rs.map fun n => (n.idx, n.name) := by
    have := congrArg (List.map Prod.swap) hp; rwa [List.map_map, List.map_map] at this
  exact ⟨hp ▸ h.1, hq ▸ h.2⟩

theorem SameCore.pairs {rs' rs : List NodeRec} (h : SameCore rs' rs) :
    rs'.map (fun n => (n.name, n.idx)) = rs.map fun n => (n.name, n.idx) :=
  h.map_eq _ fun _ _ h h' => Prod.ext h' h

theorem WFG.same {rs rs' : List NodeRec} (hs : SameCore rs' rs) (h : WFG rs) : WFG rs' := h.of_pairs hs.pairs

theorem WFM.same {rs rs' : List NodeRec} {ni nir} (hs : SameCore rs' rs) (h : WFM rs ni nir) :
    WFM rs' ni nir := h.of_pairs hs.pairs

theorem WFD.same {rs rs' : List NodeRec} {data} (hs : SameCore rs' rs) (h : WFD rs data) : WFD rs' data := by
  have hn := hs.map_eq (·.name) (fun _ _ _ h => h)
  refine ⟨h.data_keys, fun k hk => hn ▸ h.data_sub k hk, fun n hn' => ?_, h.data_nodup⟩
  obtain ⟨b, hb, _, h2, h3⟩ := hs.mem hn'
  rw [h2]; exact h3.trans (h.payload_data b hb)

theorem SameCore.append {a' a b' b : List NodeRec} (h1 : SameCore a' a) (h2 : SameCore b' b) :
    SameCore (a' ++ b') (a ++ b) := List.rel_append h1 h2

theorem inv_of_sameCore {s s' : Store} (hs : SameCore s'.forest.recs s.forest.recs)
    (h1 : s'.nodeIdx = s.nodeIdx) (h2 : s'.nodeIdxRev = s.nodeIdxRev) (h3 : s'.data = s.data) :
    (WF s → WF s') ∧ (Full s → Full s') ∧ (Dense s → Dense s') := by
  refine ⟨fun h => ?_, fun h n hn' => ?_, dense_of_names (hs.map_eq _ fun _ _ _ h => h)⟩
  · rw [wf_iff, h1, h2, h3]; exact ⟨h.g.same hs, h.m.same hs, h.d.same hs⟩
  · obtain ⟨b, hb, _, h2', _⟩ := hs.mem hn'
    rw [h3, h2']; exact h b hb

theorem inv_of_cores_eq {s s' : Store} (hc : s'.forest.cores = s.forest.cores)
    (h1 : s'.nodeIdx = s.nodeIdx) (h2 : s'.nodeIdxRev = s.nodeIdxRev) (h3 : s'.data = s.data) :
    (WF s → WF s') ∧ (Full s → Full s') ∧ (Dense s → Dense s') :=
  inv_of_sameCore (sameCore_of_cores hc) h1 h2 h3

theorem aligned_of_forest_data {s s' : Store} (ha : Aligned s) (hf : s'.forest.recs.map core = s.forest.recs.map core)
    (hd : s'.data = s.data) : Aligned s' := by
  intro n' hn'
  obtain ⟨m, hm, _, h1, h2⟩ := mem_of_cores_eq hf hn'
  rw [dataOf_eq, hd, h1, h2]; exact ha m hm

/-! ### `updatePathToRoot`, `update`, `init` -/

theorem updatePathToRoot_spec {dt : Data} {s s' : Store} {src : Option Int}
    (h : updatePathToRoot dt s src = some s') :
    s'.forest.cores = s.forest.cores ∧ s'.nodeIdx = s.nodeIdx ∧ s'.nodeIdxRev = s.nodeIdxRev ∧
      s'.data = s.data ∧ s'.last = s.last := by
  cases src with
  | none => cases h; exact ⟨rfl, rfl, rfl, rfl, rfl⟩
  | some name =>
    obtain ⟨i, _, h⟩ := Option.bind_eq_some_iff.1 h
    by_cases h1 : (!(updPath dt i s.forest).2) = true
    · rw [if_pos h1] at h; cases h
    rw [if_neg h1] at h
    by_cases h2 : (s.nodeIdxRev.lookup i != some name) = true
    · rw [if_pos h2] at h; cases h
    rw [if_neg h2] at h
    cases h
    exact ⟨updPath_cores dt i s.forest, rfl, rfl, rfl, rfl⟩

theorem updatePathToRoot_inv {dt : Data} {s s' : Store} {src : Option Int}
    (h : updatePathToRoot dt s src = some s') :
    (WF s → WF s') ∧ (Full s → Full s') ∧ (Dense s → Dense s') := by
  obtain ⟨hc, h1, h2, h3, _⟩ := updatePathToRoot_spec h
  exact inv_of_cores_eq hc h1 h2 h3

theorem update_inv (dt : Data) (s : Store) :
    (WF s → WF (s.update dt)) ∧ (Full s → Full (s.update dt)) ∧ (Dense s → Dense (s.update dt)) :=
  inv_of_cores_eq (updAll_cores dt s.forest) rfl rfl rfl

theorem wf_init' (dt : Data) : WF (Store.init dt) := by
  have nil : ∀ {α} {P : α → Prop}, ∀ a ∈ ([] : List α), P a := fun _ h => absurd h List.not_mem_nil
  rw [wf_iff]
  exact ⟨⟨List.nodup_nil, List.nodup_nil, nil, nil⟩, ⟨.refl _, .refl _⟩, ⟨List.nodup_nil, nil, nil, List.nodup_nil⟩⟩

theorem inv_init (dt : Data) : Inv0 (Store.init dt) := ⟨wf_init' dt, by simp [Full, Store.init]⟩

theorem dense_init (dt : Data) : Dense (Store.init dt) := by simp [Dense, Store.init]

end PhyModel.Store
