import PhyModel.Proofs.PGPropagate
import PhyModel.Proofs.ASMCInvariance
/-! # C01, stage 3: the executable conditional SMC `SMC.csmc` against the abstract sweep.

On good particle systems the rest of the executable sweep is the abstract forward sweep `ASMC.Fwd`
(`contE_eq_Fwd`, by induction on the number of remaining steps, with `resample_E` and `update_E` for the
two halves of a step).  Hence `SMC.csmc` has the law of the abstract particle system under the code's
schedule `ASMC.CX`, for every final functional that is symmetric in the slots `1 … m` (`csmc_E_CX`); with
the final draw `SMC.select` this is the kernel `ASMC.kernelX` (`csmc_E`). -/

namespace PhyModel.PG
open Proposal PGSpec

variable {dt : Data} {c : Cfg} {σ : List ℕ} {L : List T}

/-- **the executable continuation is the abstract forward sweep** on good systems.  `contE` recurses on the
`fuel` of `SMC.sweep` and stops at `t = σ.length`, `Fwd` recurses on the number `k` of remaining steps: any
`fuel ≥ k` does.  `t ≠ 0` because step 0 (`initSwarm`, nothing resampled before it) is not a step of `sweep`;
`csmc_E_CX` treats it by `init_E` and `stepC_zero`. -/
theorem contE_eq_Fwd (h : Hyp dt c σ) (hL : ∀ x ∈ states c σ, x ∈ L) (θ : ℚ) (m : ℕ)
    {x : T} {path : ℕ → St L} (hp : PathOK c σ x path) (G : SMC.Swarm → ℚ)
    (hG : ASMC.Sym0 (fun S : ASMC.Sys (St L) m => G (swOf S))) :
    ∀ (k t : ℕ), t ≠ 0 → t + k = σ.length → ∀ (fuel : ℕ), k ≤ fuel → ∀ S : ASMC.Sys (St L) m,
      ASMC.Good (spec dt c σ (uN m) L hL θ m) t (path t) S →
      contE (runOf dt c m θ) x σ fuel t (swOf S) G
        = ASMC.Fwd (spec dt c σ (uN m) L hL θ m) (uN m) path k t S (fun S' => G (swOf S')) := by
  have hv := spec_valid h (uN_pos m) hL θ m
  let sp := spec dt c σ (uN m) L hL θ m
  intro k
  induction k with
  | zero =>
    intro t _ htk fuel _ S _
    have : t ≥ σ.length := htk.ge
    cases fuel with
    | zero => rfl
    | succ fuel => simp only [contE, this, if_true, ASMC.Fwd]
  | succ k ih =>
    intro t ht0 htk fuel hfuel S hS
    have htlt : t < σ.length := htk ▸ Nat.lt_add_of_pos_right (Nat.succ_pos k)
    obtain ⟨fuel', rfl⟩ := Nat.exists_eq_succ_of_ne_zero (Nat.ne_of_gt (Nat.lt_of_lt_of_le (Nat.succ_pos k) hfuel))
    have hnot : ¬ t ≥ σ.length := Nat.not_le.mpr htlt
    simp only [contE, hnot, if_false, ASMC.Fwd]
    -- the abstract continuation after this step, symmetric in the slots
    let F : ASMC.Sys (St L) m → ℚ :=
      fun S' => ASMC.Fwd sp (uN m) path k (t+1) S' (fun S'' => G (swOf S''))
    have hFsym : ASMC.Sym0 F := ASMC.Fwd_sym hv path hG k (t+1)
    have hx' := gT_pos h (uN_pos m) (hp.lvl (t+1) htlt)
    -- the executable propagation followed by the rest, on good systems
    have hK1 : ∀ S1 : ASMC.Sys (St L) m, ASMC.Good sp t (path t) S1 →
        Dist.E (SMC.update (runOf dt c m θ) x σ t (swOf S1))
            (fun sw' => contE (runOf dt c m θ) x σ fuel' (t+1) sw' G)
          = ASMC.propC sp t (path (t+1)) S1 F := by
      intro S1 hS1
      rw [update_E h (inj_of_hyp h) hL θ m hp ht0 htlt S1 hS1]
      apply ASMC.propC_congr hv htlt hS1.2 hx' ((hp.parent h hL θ m htlt).trans hS1.1.symm)
      intro T hT
      exact ih (t+1) (Nat.succ_ne_zero t) ((Nat.succ_add_eq_add_succ t k).trans htk) fuel'
        (Nat.le_of_succ_le_succ hfuel) T hT
    rw [E_bind, resample_E (runOf dt c m θ) rfl S t ht0]
    · exact ASMC.stepC_of_good (uN_pos m) hS hK1
    · intro a ρ
      have hg1 := hS.reset (uN_pos m) a
      rw [hK1 _ (hg1.perm0 ρ), hK1 _ hg1]
      exact ASMC.propC_sym t _ ρ _ hFsym

theorem select_sym {m : ℕ} (hh : T → ℚ) :
    ASMC.Sym0 (fun S : ASMC.Sys (St L) m => Dist.E (SMC.select (swOf S)) hh) := by
  simp only [select_E]
  exact ASMC.sel_sym (fun y : St L => hh y.1)

/-- no resampling before the first data point -/
theorem stepC_zero (hL : ∀ x ∈ states c σ, x ∈ L) (κ θ : ℚ) (m : ℕ) (u : ℚ) (x' : St L)
    (S : ASMC.Sys (St L) m) (f : ASMC.Sys (St L) m → ℚ) :
    ASMC.stepC (spec dt c σ κ L hL θ m) u 0 x' S f = ASMC.propC (spec dt c σ κ L hL θ m) 0 x' S f :=
  rfl

/-- **conditional SMC given the order, any final functional `G` of the swarm that does not depend on the
order of the slots `1 … m`**: the executable sweep has the law of the abstract particle system under the
code's schedule.  The particle-Gibbs update uses `G = E[hh(select ·)]`, the random-subtree move
`G = E[φ(draw from the corrected weights)]`. -/
theorem csmc_E_CX (h : Hyp dt c σ) (hL : ∀ x ∈ states c σ, x ∈ L) (θ : ℚ) (m : ℕ)
    {x : T} {path : ℕ → St L} (hp : PathOK c σ x path) (hne : σ ≠ [])
    (G : SMC.Swarm → ℚ) (hG : ASMC.Sym0 (fun S : ASMC.Sys (St L) m => G (swOf S))) :
    Dist.E (SMC.csmc (runOf dt c m θ) x σ) G
      = ASMC.CX (spec dt c σ (uN m) L hL θ m) (uN m) σ.length (path σ.length) (fun S => G (swOf S)) := by
  unfold ASMC.CX SMC.csmc
  by_cases hlen1 : σ.length = 1
  · -- a single data point: the swarm of the first (= last) step is resampled, if the rule fires, before `G`
    simp only [if_pos hlen1]
    rw [Dist.E_norm, E_bind, Dist.E_norm, init_E h hL θ m hp hne, hlen1]
    show _ = ASMC.propC _ 0 (path 1) _ _
    congr 1
    funext S
    rw [resample_E (runOf dt c m θ) rfl S 1 one_ne_zero G fun a ρ => hG ρ _]
    rfl
  · -- at least two data points: no resampling after the last step
    simp only [if_neg hlen1]
    have hv := spec_valid h (uN_pos m) hL θ m
    have hlen : 0 < σ.length := List.length_pos_of_ne_nil hne
    have hS0 := good_S0 h hL θ m hp
    rw [ASMC.C_eq_Fwd path σ.length fun t ht => hp.parent h hL θ m ht, sweep_E, Dist.E_norm, init_E h hL θ m hp hne]
    obtain ⟨k, hk⟩ := Nat.exists_eq_succ_of_ne_zero (Nat.ne_of_gt hlen)
    rw [hk, ASMC.Fwd, stepC_zero]
    refine ASMC.propC_congr hv hlen hS0.2 (gT_pos h (uN_pos m) (hp.lvl 1 hlen))
      ((hp.parent h hL θ m hlen).trans hS0.1.symm) fun T hT => ?_
    rw [← hk]
    exact contE_eq_Fwd h hL θ m hp G hG k 1 one_ne_zero ((Nat.add_comm 1 k).trans hk.symm) σ.length
      ((Nat.le_succ k).trans hk.ge) T hT

/-- **conditional SMC given the order**: `SMC.csmc` followed by the final draw has the expectations of
the abstract kernel with the code's schedule (`ASMC.kernelX`) -/
theorem csmc_E (h : Hyp dt c σ) (hL : ∀ x ∈ states c σ, x ∈ L) (θ : ℚ) (m : ℕ)
    {x : T} {path : ℕ → St L} (hp : PathOK c σ x path) (hne : σ ≠ []) (hh : T → ℚ) :
    Dist.E (Dist.bind (SMC.csmc (runOf dt c m θ) x σ) SMC.select) hh
      = ∑ y : St L, ASMC.kernelX (spec dt c σ (uN m) L hL θ m) (uN m) σ.length (path σ.length) y * hh y.1 := by
  rw [E_bind, csmc_E_CX h hL θ m hp hne (fun sw => Dist.E (SMC.select sw) hh) (select_sym hh)]
  simp only [select_E, ASMC.kernelX_eq_CX]
  exact ((ASMC.CX_lin _ _).sum_mul (fun S y => ASMC.sel S y) fun y : St L => hh y.1).symm

end PhyModel.PG
