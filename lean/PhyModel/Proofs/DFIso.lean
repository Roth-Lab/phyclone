import PhyModel.Proofs.LikIso
import PhyModel.Proofs.CanonEqv
import PhyModel.Model.Density
import Mathlib.Data.List.Perm.Basic
import Mathlib.Algebra.BigOperators.Group.List.Basic
/-! Tree identity on data forests: `DFIso` (sibling order at any depth) and `DFIsoP` (additionally
the order of each clone's own data list).  They preserve the structural quantities of a forest, its
likelihood tree up to `Iso`, and with them every factor of the FS-CRP joint density (which is also
invariant under permutations of the outlier list). -/

namespace PhyModel
open Orders.Forest

/-- data forests equal up to the order of siblings at any depth (data lists fixed) -/
inductive DFIso : DF → DF → Prop
  | refl (f : DF) : DFIso f f
  | swap (d : List ℕ) (k : DF) (d' : List ℕ) (k' : DF) (s : DF) :
      DFIso (.cons d k (.cons d' k' s)) (.cons d' k' (.cons d k s))
  | cons (d : List ℕ) {k k' s s' : DF} : DFIso k k' → DFIso s s' → DFIso (.cons d k s) (.cons d k' s')
  | symm {f g : DF} : DFIso f g → DFIso g f
  | trans {f g h : DF} : DFIso f g → DFIso g h → DFIso f h

/-- data forests equal up to sibling order at any depth **and** the order inside each clone's
own data list: the identity of the real tree, `(set of clades, ·)` -/
inductive DFIsoP : DF → DF → Prop
  | refl (f : DF) : DFIsoP f f
  | swap (d : List ℕ) (k : DF) (d' : List ℕ) (k' : DF) (s : DF) :
      DFIsoP (.cons d k (.cons d' k' s)) (.cons d' k' (.cons d k s))
  | cons {d d' : List ℕ} {k k' s s' : DF} :
      d.Perm d' → DFIsoP k k' → DFIsoP s s' → DFIsoP (.cons d k s) (.cons d' k' s')
  | symm {f g : DF} : DFIsoP f g → DFIsoP g f
  | trans {f g h : DF} : DFIsoP f g → DFIsoP g h → DFIsoP f h

theorem DFIso.toP {f g : DF} (h : DFIso f g) : DFIsoP f g := by
  induction h with
  | refl f => exact .refl f
  | swap d k d' k' s => exact .swap d k d' k' s
  | cons d _ _ ihk ihs => exact .cons (List.Perm.refl d) ihk ihs
  | symm _ ih => exact ih.symm
  | trans _ _ ih1 ih2 => exact ih1.trans ih2

theorem Canon.eqv_iff_isoP {f g : DF} : Canon.Eqv f g ↔ DFIsoP f g := by
  constructor
  · intro h
    induction h with
    | nil => exact .refl _
    | cons hd _ _ ihk ihs => exact .cons hd ihk ihs
    | swap d k d' k' s => exact .swap d k d' k' s
    | trans _ _ ih1 ih2 => exact ih1.trans ih2
  · intro h
    induction h with
    | refl f => exact Canon.Eqv.refl f
    | swap d k d' k' s => exact .swap d k d' k' s
    | cons hd _ _ ihk ihs => exact .cons hd ihk ihs
    | symm _ ih => exact ih.symm
    | trans _ _ ih1 ih2 => exact ih1.trans ih2

/-! ### products of rational lists -/

theorem prodL_eq_prod (l : List ℚ) : prodL l = l.prod := by
  unfold prodL; rw [List.prod_eq_foldl]

theorem prodL_perm {l l' : List ℚ} (h : l.Perm l') : prodL l = prodL l' := by
  rw [prodL_eq_prod, prodL_eq_prod]; exact h.prod_eq

theorem prodL_map_perm {l l' : List ℕ} (F : ℕ → ℚ) (h : l.Perm l') :
    prodL (l.map F) = prodL (l'.map F) := prodL_perm (h.map F)

theorem prodL_nil : prodL [] = 1 := rfl

theorem prodL_cons (a : ℚ) (l : List ℚ) : prodL (a :: l) = a * prodL l := by
  rw [prodL_eq_prod, prodL_eq_prod, List.prod_cons]

theorem prodL_pos {l : List ℚ} (h : ∀ x ∈ l, 0 < x) : 0 < prodL l := by
  induction l with
  | nil => rw [prodL_nil]; exact zero_lt_one
  | cons a l ih =>
    rw [prodL_cons]
    exact mul_pos (h a List.mem_cons_self) (ih fun x hx => h x (List.mem_cons_of_mem a hx))

/-! ### the clone's own vector and the bridge to `Iso` -/

theorem nodeP_perm (dt : Data) (s : ℕ) {d d' : List ℕ} (h : d.Perm d') :
    nodeP dt s d = nodeP dt s d' := by
  unfold nodeP
  apply List.map_congr_left
  intro k _
  rw [prodL_map_perm _ h]

theorem toLik_isoP (dt : Data) (s : ℕ) {f g : DF} (h : DFIsoP f g) :
    Iso (toLik dt s f) (toLik dt s g) := by
  induction h with
  | refl f => exact .refl _
  | swap d k d' k' sb => exact .swap _ _ _ _ _
  | cons hd _ _ ihk ihs =>
    simp only [toLik]; rw [nodeP_perm dt s hd]; exact .cons _ ihk ihs
  | symm _ ih => exact ih.symm
  | trans _ _ ih1 ih2 => exact ih1.trans ih2

theorem toLik_iso (dt : Data) (s : ℕ) {f g : DF} (h : DFIso f g) :
    Iso (toLik dt s f) (toLik dt s g) := toLik_isoP dt s h.toP

theorem rootR_isoP (dt : Data) (s : ℕ) {f g : DF} (h : DFIsoP f g) :
    rootR dt s f = rootR dt s g := by
  unfold rootR; rw [D_iso dt.G (toLik_isoP dt s h)]

/-! ### structural quantities -/

theorem nodes_isoP {f g : DF} (h : DFIsoP f g) : f.nodes = g.nodes :=
  (Canon.eqv_iff_isoP.mpr h).nodes

theorem numRoots_isoP {f g : DF} (h : DFIsoP f g) : f.numRoots = g.numRoots := by
  induction h with
  | refl f => rfl
  | swap d k d' k' s => simp only [numRoots]
  | cons _ _ _ _ ihs => simp only [numRoots, ihs]
  | symm _ ih => exact ih.symm
  | trans _ _ ih1 ih2 => exact ih1.trans ih2

theorem all_isoP {f g : DF} (h : DFIsoP f g) : f.all.Perm g.all :=
  (Canon.eqv_iff_isoP.mpr h).all_perm

theorem sizeTerm_isoP {f g : DF} (h : DFIsoP f g) : Density.sizeTerm f = Density.sizeTerm g := by
  induction h with
  | refl f => rfl
  | swap d k d' k' s => exact mul_left_comm _ _ _
  | cons hd _ _ ihk ihs => simp only [Density.sizeTerm, ihk, ihs, hd.length_eq]
  | symm _ ih => exact ih.symm
  | trans _ _ ih1 ih2 => exact ih1.trans ih2

theorem subtreeTerm_isoP {f g : DF} (h : DFIsoP f g) :
    Density.subtreeTerm f = Density.subtreeTerm g := by
  induction h with
  | refl f => rfl
  | swap d k d' k' s => exact mul_left_comm _ _ _
  | cons _ hk _ _ ihs => simp only [Density.subtreeTerm, ihs, nodes_isoP hk]
  | symm _ ih => exact ih.symm
  | trans _ _ ih1 ih2 => exact ih1.trans ih2

theorem multNodes_isoP {f g : DF} (h : DFIsoP f g) : Density.multNodes f = Density.multNodes g := by
  induction h with
  | refl f => rfl
  | swap d k d' k' s => exact mul_left_comm _ _ _
  | cons _ hk _ ihk ihs => simp only [Density.multNodes, ihk, ihs, numRoots_isoP hk]
  | symm _ ih => exact ih.symm
  | trans _ _ ih1 ih2 => exact ih1.trans ih2

/-! ### the factors of the FS-CRP joint density -/

namespace Density

theorem crp_isoP (α : ℚ) {f g : DF} (h : DFIsoP f g) : crp α f = crp α g := by
  unfold crp; rw [nodes_isoP h, sizeTerm_isoP h]

theorem topoMarg_isoP {f g : DF} (h : DFIsoP f g) : topoMarg f = topoMarg g := by
  unfold topoMarg; rw [nodes_isoP h]

theorem topoOne_isoP {f g : DF} (h : DFIsoP f g) : topoOne f = topoOne g := by
  unfold topoOne; rw [numRoots_isoP h, subtreeTerm_isoP h]

theorem mult_isoP {f g : DF} (h : DFIsoP f g) : mult f = mult g := by
  unfold mult; rw [numRoots_isoP h, multNodes_isoP h]

theorem outlierPriorIn_perm (dt : Data) {l l' : List ℕ} (h : l.Perm l') :
    outlierPriorIn dt l = outlierPriorIn dt l' := prodL_map_perm _ h

theorem outlierPriorOut_perm (dt : Data) {l l' : List ℕ} (h : l.Perm l') :
    outlierPriorOut dt l = outlierPriorOut dt l' := prodL_map_perm _ h

theorem outlierMarg_perm (dt : Data) {l l' : List ℕ} (h : l.Perm l') :
    outlierMarg dt l = outlierMarg dt l' := prodL_map_perm _ h

theorem dataMarg_isoP (dt : Data) {f g : DF} (h : DFIsoP f g) : dataMarg dt f = dataMarg dt g := by
  unfold dataMarg; rw [numRoots_isoP h]
  simp only [rootR_isoP dt _ h]

theorem dataOne_isoP (dt : Data) {f g : DF} (h : DFIsoP f g) : dataOne dt f = dataOne dt g := by
  unfold dataOne; rw [numRoots_isoP h]
  simp only [rootR_isoP dt _ h]

theorem common_isoP (dt : Data) (α : ℚ) {f g : DF} {out out' : List ℕ}
    (h : DFIsoP f g) (ho : out.Perm out') : common dt α f out = common dt α g out' := by
  unfold common
  rw [crp_isoP α h, mult_isoP h, outlierPriorIn_perm dt (all_isoP h),
    outlierPriorOut_perm dt ho, outlierMarg_perm dt ho]

theorem pOne_isoP (dt : Data) (α : ℚ) {f g : DF} {out out' : List ℕ}
    (h : DFIsoP f g) (ho : out.Perm out') : pOne dt α f out = pOne dt α g out' := by
  unfold pOne; rw [common_isoP dt α h ho, topoOne_isoP h, dataOne_isoP dt h]

theorem pMarg_isoP (dt : Data) (α : ℚ) {f g : DF} {out out' : List ℕ}
    (h : DFIsoP f g) (ho : out.Perm out') : pMarg dt α f out = pMarg dt α g out' := by
  unfold pMarg; rw [common_isoP dt α h ho, topoMarg_isoP h, dataMarg_isoP dt h]

end Density
end PhyModel
