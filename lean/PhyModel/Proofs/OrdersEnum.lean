import PhyModel.Proofs.OrdersLists
/-! The enumeration `orders` / `allOrders` against the independent specification `Compat` /
`CompatAll`: it lists only compatible orders, every compatible order of a forest with distinct data,
and none twice.  Completeness cuts an order by filtering into the part of the first tree and the
part of its siblings, and the first part into the kids' data followed by the clone's own; the same
filters read the parts off an enumerated order, which is why none is listed twice. -/

namespace PhyModel.Orders

/-- independent specification of a compatible order: a permutation of the forest's data in which
every data point of a descendant clone comes before every data point of its ancestor -/
def Compat (f : Forest) (σ : List ℕ) : Prop :=
  σ.Perm f.all ∧ ∀ ab ∈ prec f, [ab.1, ab.2].Sublist σ

def CompatAll (f : Forest) (out : List ℕ) (σ : List ℕ) : Prop :=
  σ.Perm (f.all ++ out) ∧ ∀ ab ∈ prec f, [ab.1, ab.2].Sublist σ

theorem mem_prec_iff {d : List ℕ} {k s : Forest} {ab : ℕ × ℕ} :
    ab ∈ prec (.cons d k s) ↔
      ((∃ a ∈ k.all, ∃ b ∈ d, (a, b) = ab) ∨ ab ∈ prec k) ∨ ab ∈ prec s := by
  simp only [prec, List.mem_append, List.mem_flatMap, List.mem_map]

theorem mem_orders_cons {d : List ℕ} {k s : Forest} {o : List ℕ} :
    o ∈ orders (.cons d k s) ↔
      ∃ ok ∈ orders k, ∃ pd ∈ perms d, ∃ os ∈ orders s, o ∈ inter (ok ++ pd) os := by
  simp only [orders, List.mem_flatMap]

theorem mem_allOrders {f : Forest} {out σ : List ℕ} :
    σ ∈ allOrders f out ↔ ∃ o ∈ orders f, ∃ po ∈ perms out, σ ∈ inter o po := by
  simp only [allOrders, List.mem_flatMap]

theorem orders_cons (d : List ℕ) (k s : Forest) : orders (.cons d k s) =
    ((orders k).flatMap fun ok => (perms d).map (ok ++ ·)).flatMap fun a =>
      (orders s).flatMap fun os => inter a os := by
  rw [orders, List.flatMap_assoc]
  simp only [List.flatMap_map]

theorem prec_mem : ∀ (f : Forest) (ab : ℕ × ℕ), ab ∈ prec f → ab.1 ∈ f.all ∧ ab.2 ∈ f.all := by
  intro f
  induction f with
  | nil => intro ab h; exact absurd h List.not_mem_nil
  | cons d k s ihk ihs =>
    intro ab h
    simp only [Forest.all, List.mem_append]
    rcases mem_prec_iff.mp h with (⟨a, ha, b, hb, rfl⟩ | h) | h
    · exact ⟨Or.inl (Or.inl ha), Or.inl (Or.inr hb)⟩
    · exact ⟨Or.inl (Or.inl (ihk ab h).1), Or.inl (Or.inl (ihk ab h).2)⟩
    · exact ⟨Or.inr (ihs ab h).1, Or.inr (ihs ab h).2⟩

theorem orders_sound : ∀ (f : Forest) (o : List ℕ), o ∈ orders f → Compat f o := by
  intro f
  induction f with
  | nil =>
    intro o h
    rw [orders, List.mem_singleton] at h
    rw [h]
    exact ⟨.refl _, fun ab hab => absurd hab List.not_mem_nil⟩
  | cons d k s ihk ihs =>
    intro o h
    obtain ⟨ok, hok, pd, hpd, os, hos, ho⟩ := mem_orders_cons.mp h
    obtain ⟨hk1, hk2⟩ := ihk ok hok
    obtain ⟨hs1, hs2⟩ := ihs os hos
    have hpd' := perm_of_mem_perms d pd hpd
    obtain ⟨hsub1, hsub2, hperm⟩ := inter_spec _ _ _ ho
    refine ⟨hperm.trans ((hk1.append hpd').append hs1), fun ab hab => ?_⟩
    rcases mem_prec_iff.mp hab with (⟨a, ha, b, hb, rfl⟩ | hab) | hab
    · -- `a` is in the kids' part `ok`, `b` in the own part `pd`, which follows it
      exact ((List.singleton_sublist.mpr (hk1.symm.subset ha)).append
        (List.singleton_sublist.mpr (hpd'.symm.subset hb))).trans hsub1
    · exact ((hk2 ab hab).trans (List.sublist_append_left ok pd)).trans hsub1
    · exact (hs2 ab hab).trans hsub2

theorem allOrders_sound (f : Forest) (out σ : List ℕ) (h : σ ∈ allOrders f out) :
    CompatAll f out σ := by
  obtain ⟨o, ho, po, hpo, hσ⟩ := mem_allOrders.mp h
  obtain ⟨h1, h2⟩ := orders_sound f o ho
  obtain ⟨s1, _, s3⟩ := inter_spec _ _ _ hσ
  exact ⟨s3.trans (h1.append (perm_of_mem_perms out po hpo)), fun ab hab => (h2 ab hab).trans s1⟩

theorem length_of_mem_orders (f : Forest) (o : List ℕ) (h : o ∈ orders f) : o.length = f.size :=
  (orders_sound f o h).1.length_eq

/-! ### completeness -/

/-- block lemma: if (in a duplicate-free list) every `q`-element precedes every non-`q`-element,
the list is its `q`-part followed by its non-`q`-part -/
theorem block_split (q : ℕ → Bool) : ∀ (l : List ℕ), l.Nodup →
    (∀ a b, a ∈ l → b ∈ l → q a = true → q b = false → [a, b].Sublist l) →
    l = l.filter q ++ l.filter (fun x => !q x) := by
  intro l
  induction l with
  | nil => intro _ _; rfl
  | cons x l ih =>
    intro hnd h
    obtain ⟨hx, hnd'⟩ := List.nodup_cons.mp hnd
    have hin : ∀ a b, a ∈ l → [a, b].Sublist (x :: l) → [a, b].Sublist l := by
      intro a b ha hab
      rcases List.sublist_cons_iff.mp hab with h1 | ⟨r, hr, _⟩
      · exact h1
      · exact absurd ((List.cons.inj hr).1 ▸ ha) hx
    cases hqx : q x with
    | true =>
      rw [List.filter_cons_of_pos hqx, List.filter_cons_of_neg (by simp [hqx]), List.cons_append,
        ← ih hnd' fun a b ha hb hqa hqb =>
          hin a b ha (h a b (List.mem_cons_of_mem x ha) (List.mem_cons_of_mem x hb) hqa hqb)]
    | false =>
      -- a `q`-element of `l` would have to precede `x`
      have hnone : ∀ a ∈ l, q a = false := by
        intro a ha
        by_contra hqa
        have := hin a x ha (h a x (List.mem_cons_of_mem x ha) List.mem_cons_self
          (Bool.not_eq_false _ ▸ hqa) hqx)
        exact hx (this.subset (List.mem_cons_of_mem a List.mem_cons_self))
      rw [List.filter_cons_of_neg (by simp [hqx]), List.filter_cons_of_pos (by simp [hqx]),
        (filter_of_none hnone).1, (filter_of_none hnone).2, List.nil_append]

theorem filter_perm_left (A B σ : List ℕ) (hnd : (A ++ B).Nodup) (h : σ.Perm (A ++ B)) :
    (σ.filter fun x => decide (x ∈ A)).Perm A ∧ (σ.filter fun x => !decide (x ∈ A)).Perm B := by
  obtain ⟨e1, e2⟩ := filter_append_sep (p := fun x => decide (x ∈ A)) (A := A) (B := B)
    (fun a ha => decide_eq_true ha)
    (fun b hb => decide_eq_false fun ha => List.disjoint_of_nodup_append hnd ha hb)
  have h1 := h.filter fun x => decide (x ∈ A)
  have h2 := h.filter fun x => !decide (x ∈ A)
  rw [e1] at h1
  rw [e2] at h2
  exact ⟨h1, h2⟩

theorem sublist_pair_filter (p : ℕ → Bool) (σ : List ℕ) (a b : ℕ) (h : [a, b].Sublist σ)
    (ha : p a = true) (hb : p b = true) : [a, b].Sublist (σ.filter p) := by
  have := h.filter p
  rwa [List.filter_cons_of_pos ha, List.filter_cons_of_pos hb] at this

theorem prec_filter (g : Forest) (p : ℕ → Bool) (σ : List ℕ) (hp : ∀ a ∈ g.all, p a = true)
    (h : ∀ ab ∈ prec g, [ab.1, ab.2].Sublist σ) :
    ∀ ab ∈ prec g, [ab.1, ab.2].Sublist (σ.filter p) := fun ab hab =>
  sublist_pair_filter p σ _ _ (h ab hab) (hp _ (prec_mem g ab hab).1) (hp _ (prec_mem g ab hab).2)

theorem orders_complete : ∀ (f : Forest) (σ : List ℕ), f.all.Nodup → Compat f σ → σ ∈ orders f := by
  intro f
  induction f with
  | nil =>
    intro σ _ h
    rw [List.Perm.eq_nil h.1, orders]
    exact List.mem_singleton.mpr rfl
  | cons d k s ihk ihs =>
    intro σ hnd ⟨hperm, hprec⟩
    rw [Forest.all] at hnd hperm
    have hAnd : (k.all ++ d).Nodup := (List.nodup_append.mp hnd).1
    obtain ⟨h1perm, h2perm⟩ := filter_perm_left (k.all ++ d) s.all σ hnd hperm
    obtain ⟨hkperm, hdperm⟩ := filter_perm_left k.all d _ hAnd h1perm
    -- within the first tree's part, the kids' data come before the clone's own
    have hsplit := block_split (fun x => decide (x ∈ k.all)) _
      ((hperm.nodup_iff.mpr hnd).filter fun x => decide (x ∈ k.all ++ d)) (by
        intro a b ha hb hqa hqb
        have hak : a ∈ k.all := of_decide_eq_true hqa
        have hbA : b ∈ k.all ++ d := h1perm.subset hb
        have hbd : b ∈ d := (List.mem_append.mp hbA).resolve_left (of_decide_eq_false hqb)
        exact sublist_pair_filter _ σ a b
          (hprec (a, b) (mem_prec_iff.mpr (Or.inl (Or.inl ⟨a, hak, b, hbd, rfl⟩))))
          (decide_eq_true (List.mem_append_left d hak)) (decide_eq_true hbA))
    refine mem_orders_cons.mpr ⟨_, ihk _ (List.nodup_append.mp hAnd).1 ⟨hkperm, ?_⟩, _,
      mem_perms_of_perm d _ hdperm, _, ihs _ (List.nodup_append.mp hnd).2.1 ⟨h2perm, ?_⟩, ?_⟩
    · exact prec_filter k _ _ (fun a ha => decide_eq_true ha)
        (prec_filter k _ σ (fun a ha => decide_eq_true (List.mem_append_left d ha))
          fun ab hab => hprec ab (mem_prec_iff.mpr (Or.inl (Or.inr hab))))
    · exact prec_filter s _ σ
        (fun a ha => by
          rw [Bool.not_eq_true', decide_eq_false_iff_not]
          exact fun hA => List.disjoint_of_nodup_append hnd hA ha)
        fun ab hab => hprec ab (mem_prec_iff.mpr (Or.inr hab))
    · rw [← hsplit]
      exact mem_inter_filter _ σ

#print axioms orders_sound
#print axioms orders_complete

/-! ### no order is listed twice -/

theorem orders_nodup : ∀ (f : Forest), f.all.Nodup → (orders f).Nodup := by
  intro f
  induction f with
  | nil => intro _; exact List.nodup_singleton _
  | cons d k s ihk ihs =>
    intro hnd
    rw [Forest.all] at hnd
    obtain ⟨hAnd, hsnd, -⟩ := List.nodup_append.mp hnd
    obtain ⟨hknd, hdnd, -⟩ := List.nodup_append.mp hAnd
    rw [orders_cons]
    refine nodup_inter_stage _ _ (k.all ++ d)
      (nodup_append_stage _ _ k.all (ihk hknd) (perms_nodup d hdnd)
        (fun ok hok x hx => (orders_sound k ok hok).1.subset hx)
        fun pd hpd x hx hk =>
          List.disjoint_of_nodup_append hAnd hk ((perm_of_mem_perms d pd hpd).subset hx))
      (ihs hsnd) (fun a ha x hx => ?_)
      fun os hos x hx hA => List.disjoint_of_nodup_append hnd hA ((orders_sound s os hos).1.subset hx)
    obtain ⟨ok, hok, ha⟩ := List.mem_flatMap.mp ha
    obtain ⟨pd, hpd, rfl⟩ := List.mem_map.mp ha
    exact ((orders_sound k ok hok).1.append (perm_of_mem_perms d pd hpd)).subset hx

/-! ### the whole tree, with its outliers -/

theorem allOrders_complete (f : Forest) (out σ : List ℕ) (hnd : (f.all ++ out).Nodup)
    (h : CompatAll f out σ) : σ ∈ allOrders f out := by
  obtain ⟨hperm, hprec⟩ := h
  obtain ⟨p1, p2⟩ := filter_perm_left f.all out σ hnd hperm
  exact mem_allOrders.mpr ⟨_, orders_complete f _ (List.nodup_append.mp hnd).1
      ⟨p1, prec_filter f _ σ (fun a ha => decide_eq_true ha) hprec⟩,
    _, mem_perms_of_perm out _ p2, mem_inter_filter (fun x => decide (x ∈ f.all)) σ⟩

theorem allOrders_nodup (f : Forest) (out : List ℕ) (hnd : (f.all ++ out).Nodup) :
    (allOrders f out).Nodup := by
  obtain ⟨hfnd, hond, -⟩ := List.nodup_append.mp hnd
  exact nodup_inter_stage _ _ f.all (orders_nodup f hfnd) (perms_nodup out hond)
    (fun o h x hx => (orders_sound f o h).1.subset hx)
    fun po h x hx hA => List.disjoint_of_nodup_append hnd hA ((perm_of_mem_perms out po h).subset hx)

end PhyModel.Orders
