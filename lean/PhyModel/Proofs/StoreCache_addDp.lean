import PhyModel.Proofs.StoreCache_Path
import PhyModel.Proofs.StoreWF_Upd
/-! C06, the data-point edits.  `Tree.add_data_point_to_node`: the clone's own `p` and `r` are
multiplied in place (its own equation stays true because both sides are multiplied), its ancestors
are recomputed from the parent up.  `Tree.remove_data_point_from_node`: the clone's `p` is divided by
the data point's grid (non-zero values: `DataNZ`, index inside the data set), then every `r` from the
clone up to the top is recomputed.  The outliers carry no cached vector. -/
namespace PhyModel.Store.C06

/-- the forest after the in-place multiplication at node `i` -/
theorem addDp_forest (dt : Data) (f : SF) (i : Nat) (n : NodeRec) (k : SF) (n' : NodeRec)
    (dps : List Nat) (hnd : f.idxs.Nodup) (hc : CacheOKsf dt f) (hf : f.findSub i = some (n, k))
    (hn' : recAdd dt n dps = some n') :
    (Store.setRec i (fun _ => n') f).idxs.Nodup ∧ POK dt (Store.setRec i (fun _ => n') f) ∧
    ROKs dt i (Store.setRec i (fun _ => n') f) ∧
    (∀ p ∈ (Store.setRec i (fun _ => n') f).recs, ∃ m ∈ f.recs, m.name = p.name ∧ m.idx = p.idx) := by
  obtain ⟨hp, hr⟩ := (cacheOKsf_iff dt f).1 hc
  obtain ⟨hni, hnr⟩ := findSub_spec i f n k hf
  obtain ⟨h1, h2, _, h4, h5⟩ := recAdd_spec dt dps n n' hn'
  have hi' : n'.idx = i := h1.trans hni
  have hloc := cacheOKsf_findSub dt i f n k hc hf
  refine ⟨by rw [idxs_setRec_const i n' hi']; exact hnd,
    POK_setRec_const dt i n' (h4 hloc.1) f hp,
    ROKs_setRec_const dt i n' hi' f n k hnd hr hf (h5 k hloc.2.1),
    recs_setRec_const i n n' f hnr h1 h2⟩

/-- C06 for `Tree.add_data_point_to_node`: after `addDp_forest` only the proper ancestors of the clone can be
out of order, and `updatePath` from its parent (from the virtual root for a top-level clone) recomputes those -/
theorem cacheOK_addDp (dt : Data) (s s' : Store) (dp : Nat) (node : Int) (hw : WFc s)
    (hc : CacheOK dt s) (h : s.addDataPointToNode dt dp node = some s') : CacheOK dt s' := by
  rcases (addDp_unf h).2 with ⟨_, rfl⟩ | ⟨i, n, k, n', q, _, hf, hn', hq, hup⟩
  · exact hc
  · obtain ⟨hnd2, hp2, hs2, hrecs⟩ :=
      addDp_forest dt s.forest i n k n' [dp] hw.idxs_nodup hc.1 hf hn'
    rcases ROKs_parent dt i _ none q hnd2 hs2 hq with ⟨rfl, hrok⟩ | ⟨p, rfl, hpm, hpx⟩
    · exact cacheOK_updatePath_none dt _ s' ((cacheOKsf_iff dt _).2 ⟨hp2, hrok⟩) hup
    · refine cacheOK_updatePath_some dt _ s' p.name hnd2 hp2 ?_ hup
      intro j hj
      obtain ⟨m, hm, hm1, hm2⟩ := hrecs p hpm
      have : j = m.idx := hw.lookup_idx m hm j (by rw [hm1]; exact hj)
      rw [this, hm2]
      exact hpx

/-- C06 for `Tree.remove_data_point_from_node`: dividing the grid out restores the clone's `p` (`recRemove_spec`,
which needs `DataNZ` and `dp < dt.n`), and `updatePath` from the clone itself recomputes its `r` and its ancestors' -/
theorem cacheOK_rmDp (dt : Data) (hNZ : DataNZ dt) (s s' : Store) (dp : Nat) (node : Int)
    (hdp : dp < dt.n) (hnd : s.forest.idxs.Nodup) (hc : CacheOK dt s)
    (h : s.removeDataPointFromNode dt dp node = some s') : CacheOK dt s' := by
  rcases (rmDp_unf h).2 with ⟨_, rfl⟩ | ⟨i, n, k, n', hi, hf, hn', hup⟩
  · exact hc
  · obtain ⟨hp, hr⟩ := (cacheOKsf_iff dt _).1 hc.1
    obtain ⟨hni, _⟩ := findSub_spec i _ n k hf
    obtain ⟨h1, _, _, _, _, h6⟩ := recRemove_spec dt n n' dp hn'
    have hi' : n'.idx = i := h1.trans hni
    have hloc := cacheOKsf_findSub dt i _ n k hc.1 hf
    refine cacheOK_updatePath_some dt _ s' node ?_ ?_ ?_ hup
    · show (Store.setRec i (fun _ => n') s.forest).idxs.Nodup
      rw [idxs_setRec_const i n' hi']; exact hnd
    · exact POK_setRec_const dt i n' (h6 hNZ hdp hloc.1) _ hp
    · intro j hj
      have : j = i := Option.some.inj (hj.symm.trans hi)
      rw [this]
      exact ROKx_setRec_const dt i n' hi' _ hr

/-- **C06, `remove_data_point_from_outliers`**: no cached vector depends on the outliers -/
theorem cacheOK_rmOut (dt : Data) (s s' : Store) (dp : Nat) (hc : CacheOK dt s)
    (h : s.removeDataPointFromOutliers dp = some s') : CacheOK dt s' :=
  (rmOut_unf h).1 ▸ hc

end PhyModel.Store.C06
