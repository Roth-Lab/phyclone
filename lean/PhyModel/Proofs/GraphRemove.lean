import PhyModel.Proofs.GraphClosure
/-! `remove_subtree` at graph level (`gRemoveSubtree`: `remove_nodes_from(descendants(r) + [r])`): the
removed set is exactly what is reachable from `r`, and what is left is a rooted forest. -/
namespace PhyModel.Graph

/-- **closed form of `remove_subtree`**: the nodes reachable from `r` go, with every edge touching them -/
theorem gRemoveSubtree_spec {g g' : DG} {r : Nat} (h : gRemoveSubtree g r = some g') :
    r ∈ g.nodes ∧ ∃ D : List Nat, (∀ v, v ∈ D ↔ Reach g r v) ∧ g' = g.removeNodesFrom D := by
  obtain ⟨d, hd, h⟩ := Option.bind_eq_some_iff.1 h
  refine ⟨(descendants_spec hd).1, d ++ [r], fun v => ?_, (Option.some.inj h).symm⟩
  rw [List.mem_append, List.mem_singleton, or_comm, ← List.mem_cons]
  exact mem_cons_descendants hd v

theorem gRemoveSubtree_isSome {g : DG} {r : Nat} (hr : r ∈ g.nodes) : (gRemoveSubtree g r).isSome = true := by
  obtain ⟨d, hd⟩ := Option.isSome_iff_exists.1 (descendants_isSome hr)
  rw [gRemoveSubtree, hd]
  rfl

/-- removing a set that is closed under the edges and does not contain the root keeps a forest a forest -/
theorem forest_removeClosed {g : DG} {D : List Nat} (hf : IsForest g) (h0 : 0 ∉ D)
    (hc : ∀ e ∈ g.edges, e.1 ∈ D → e.2 ∈ D) : IsForest (g.removeNodesFrom D) := by
  have hedges : (g.removeNodesFrom D).edges = g.edges.filter fun e => !D.contains e.2 := by
    simp only [DG.removeNodesFrom]
    refine List.filter_congr fun e he => ?_
    by_cases h2 : e.2 ∈ D
    · simp [h2]
    · have h1 : e.1 ∉ D := fun h1 => h2 (hc e he h1)
      simp [h1, h2]
  refine IsForest.of_targets_perm ?_ ?_ ?_ ?_ ?_
  · exact hf.nodes_nodup.filter _
  · exact mem_removeNodesFrom_nodes.2 ⟨hf.root_live, h0⟩
  · intro e he
    have he := mem_removeNodesFrom_edges.1 he
    exact mem_removeNodesFrom_nodes.2 ⟨(hf.edges_live e he.1).1, he.2.1⟩
  · show ((g.removeNodesFrom D).edges.map (·.2)).Perm _
    rw [hedges]
    have h1 : (g.edges.filter fun e => !D.contains e.2).map (·.2) = g.targets.filter fun v => !D.contains v := by
      simp only [DG.targets, List.filter_map]; rfl
    rw [h1]
    have h2 : (g.removeNodesFrom D).nodes.erase 0 = (g.nodes.erase 0).filter fun v => !D.contains v := by
      simp only [DG.removeNodesFrom]
      rw [(hf.nodes_nodup.filter _).erase_eq_filter, hf.nodes_nodup.erase_eq_filter, List.filter_filter,
        List.filter_filter]
      exact List.filter_congr fun v _ => by simp [Bool.and_comm]
    rw [h2]
    exact hf.targets_perm.filter _
  · have key : ∀ v, Reach g 0 v → v ∉ D → Reach (g.removeNodesFrom D) 0 v := by
      intro v hv
      induction hv with
      | refl => exact fun _ => .refl 0
      | @step b c _ he ih =>
        intro hcD
        have hbD : b ∉ D := fun hb => hcD (hc _ he hb)
        exact .step (ih hbD) (mem_removeNodesFrom_edges.2 ⟨he, hbD, hcD⟩)
    intro v hv
    have hv := mem_removeNodesFrom_nodes.1 hv
    exact key v (hf.reach v hv.1) hv.2

/-- **`remove_subtree` keeps the graph a rooted forest** (the subtree root is a clone) -/
theorem forest_removeSubtree {g g' : DG} {r : Nat} (hf : IsForest g) (hr0 : r ≠ 0)
    (h : gRemoveSubtree g r = some g') : IsForest g' := by
  obtain ⟨_, D, hD, rfl⟩ := gRemoveSubtree_spec h
  refine forest_removeClosed hf (fun h0 => hr0 (hf.reach_root ((hD 0).1 h0))) fun e he h1 => ?_
  exact (hD _).2 (.step ((hD _).1 h1) he)

end PhyModel.Graph
