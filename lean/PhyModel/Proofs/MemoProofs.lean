import PhyModel.Model.Memo
import PhyModel.Proofs.LikIso
import PhyModel.Proofs.CacheProofs
/-! Helper lemmas for C14: the children recursion of
`compute_log_D` does not depend on the order of the children, equal content keys mean
equal-up-to-order arguments. -/

namespace PhyModel

namespace Memo

/-! ### a generic order-insensitive reduction -/
section Red
variable {α : Type} (f : α → α → α)

/-- `c₀ :: cs ↦ f cₙ (… (f c₁ c₀))`, nothing for the empty list -/
def red : List α → Option α
  | [] => none
  | c :: cs => some (cs.foldl (fun acc x => f x acc) c)

theorem red_perm (hc : ∀ a b, f a b = f b a) (hlc : ∀ a b c, f a (f b c) = f b (f a c))
    {l1 l2 : List α} (h : l1.Perm l2) : red f l1 = red f l2 := by
  have hr : ∀ (l : List α), ∀ x ∈ l, ∀ y ∈ l, ∀ z,
      (fun acc x => f x acc) ((fun acc x => f x acc) z x) y
        = (fun acc x => f x acc) ((fun acc x => f x acc) z y) x := by
    intro l x _ y _ z
    exact hlc y x z
  induction h with
  | nil => rfl
  | cons x p _ =>
    simp only [red]
    exact congrArg some (List.Perm.foldl_eq' p (hr _) x)
  | swap x y l =>
    simp only [red, List.foldl_cons]
    rw [hc x y]
  | trans _ _ ih1 ih2 => exact ih1.trans ih2

end Red

/-! ### the matrix convolution inherits both laws -/

theorem convM_comm (G : ℕ) (a b : Mat) : convM G a b = convM G b a :=
  List.zipWith_comm_of_comm (conv_comm G)

theorem zipWith_left_comm {α : Type} {f : α → α → α} (hlc : ∀ a b c, f a (f b c) = f b (f a c))
    (a b c : List α) :
    List.zipWith f a (List.zipWith f b c) = List.zipWith f b (List.zipWith f a c) := by
  induction a generalizing b c with
  | nil => rw [List.zipWith_nil_left, List.zipWith_nil_left, List.zipWith_nil_right]
  | cons x a ih =>
    cases b with
    | nil => rw [List.zipWith_nil_left, List.zipWith_nil_left, List.zipWith_nil_right]
    | cons y b =>
      cases c with
      | nil => rw [List.zipWith_nil_right, List.zipWith_nil_right, List.zipWith_nil_right]
      | cons z c => rw [List.zipWith_cons_cons, List.zipWith_cons_cons, List.zipWith_cons_cons,
          List.zipWith_cons_cons, hlc, ih]
theorem convM_left_comm (G : ℕ) (a b c : Mat) :
    convM G a (convM G b c) = convM G b (convM G a c) :=
  zipWith_left_comm (conv_left_comm G) a b c

theorem foldConv_eq_foldl (G : ℕ) (cs : List Mat) (acc : Mat) :
    foldConv G acc cs = cs.foldl (fun acc x => convM G x acc) acc := by
  induction cs generalizing acc with
  | nil => rfl
  | cons c cs ih => simp only [foldConv, List.foldl_cons]; exact ih _

/-- for a non-empty children list `compute_log_D` is the order-insensitive reduction -/
theorem childD_eq_red (G S : ℕ) (c : Mat) (cs : List Mat) :
    some (childD G S (c :: cs)) = red (convM G) (c :: cs) := by
  cases cs with
  | nil => rfl
  | cons c1 cs =>
    simp only [childD, red, List.foldl_cons, foldConv_eq_foldl]
    rw [convM_comm G c c1]

theorem childD_perm (G S : ℕ) {l1 l2 : List Mat} (h : l1.Perm l2) :
    childD G S l1 = childD G S l2 := by
  cases l1 with
  | nil => rw [List.nil_perm.mp h]
  | cons c cs =>
    cases l2 with
    | nil => exact absurd h.symm (by simp)
    | cons d ds =>
      have := red_perm (convM G) (convM_comm G) (convM_left_comm G) h
      rw [← childD_eq_red G S, ← childD_eq_red G S] at this
      exact Option.some.inj this

theorem insertMat_perm (a : Mat) : ∀ l : List Mat, (insertMat a l).Perm (a :: l) := by
  intro l
  induction l with
  | nil => exact List.Perm.refl _
  | cons b l ih =>
    simp only [insertMat]
    split
    · exact List.Perm.refl _
    · exact (List.Perm.cons b ih).trans (List.Perm.swap a b l)

theorem keyS_perm (l : List Mat) : (keyS l).Perm l := by
  induction l with
  | nil => exact List.Perm.refl _
  | cons a l ih =>
    have : keyS (a :: l) = insertMat a (keyS l) := rfl
    rw [this]
    exact (insertMat_perm a _).trans (List.Perm.cons a ih)

theorem keyS_perm_of_eq {l1 l2 : List Mat} (h : keyS l1 = keyS l2) : l1.Perm l2 := by
  have h1 := keyS_perm l1
  rw [h] at h1
  exact h1.symm.trans (keyS_perm l2)

theorem keyPair_cases {a b a' b' : Mat} (h : keyPair a b = keyPair a' b') :
    (a = a' ∧ b = b') ∨ (a = b' ∧ b = a') := by
  unfold keyPair at h
  split at h <;> split at h <;> simp only [Prod.mk.injEq] at h
  · exact Or.inl h
  · exact Or.inr h
  · exact Or.inr ⟨h.2, h.1⟩
  · exact Or.inl ⟨h.2, h.1⟩

end Memo
end PhyModel
