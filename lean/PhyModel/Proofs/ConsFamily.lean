import PhyModel.Proofs.Consensus
import PhyModel.Model.Consensus
/-! Bridge between the executable list model `PhyModel.Consensus` and the Finset-level lemmas of
`Proofs/Consensus.lean`: a list of clades as a family of sets, the clades of a forest, the support
of a clade as a sum over tree indices.  The majority family of an in-domain trace is a
`GoodFamily`: laminar, its members non-empty, duplicate-free lists and pairwise different sets. -/
open Finset

namespace PhyModel.ConsBridge
open PhyModel.Consensus

/-- the family of sets a list of clades stands for -/
def F (l : List Clade) : Finset (Finset ℕ) := (l.map List.toFinset).toFinset

theorem mem_F {l : List Clade} {s : Finset ℕ} : s ∈ F l ↔ ∃ d ∈ l, d.toFinset = s := by
  simp only [F, List.mem_toFinset, List.mem_map]

theorem mem_F_of_mem {l : List Clade} {c : Clade} (h : c ∈ l) : c.toFinset ∈ F l :=
  mem_F.mpr ⟨c, h, rfl⟩

theorem F_cons (a : Clade) (l : List Clade) : F (a :: l) = insert a.toFinset (F l) := by
  simp only [F, List.map_cons, List.toFinset_cons]

theorem F_append (l l' : List Clade) : F (l ++ l') = F l ∪ F l' := by
  simp only [F, List.map_append, List.toFinset_append]

theorem F_perm {m m' : List Clade} (h : m'.Perm m) : F m' = F m :=
  List.toFinset_eq_of_perm _ _ (h.map _)

theorem subsetL_iff {a b : List ℕ} : subsetL a b = true ↔ a.toFinset ⊆ b.toFinset := by
  simp only [subsetL, List.all_eq_true, decide_eq_true_eq, subset_iff, List.mem_toFinset]

theorem setEq_iff {a b : Clade} : setEq a b = true ↔ a.toFinset = b.toFinset := by
  rw [setEq, Bool.and_eq_true, subsetL_iff, subsetL_iff, ← subset_antisymm_iff]

theorem memC_iff {c : Clade} {l : List Clade} : memC c l = true ↔ c.toFinset ∈ F l := by
  rw [memC, List.any_eq_true, mem_F]
  exact exists_congr fun d => and_congr_right fun _ => setEq_iff.trans eq_comm

/-- `dedupL` is Mathlib's `dedup` (which also keeps the last occurrence) -/
theorem dedupL_eq (l : List ℕ) : dedupL l = l.dedup := by
  induction l with
  | nil => rfl
  | cons a l ih =>
    rw [dedupL, ih]
    split
    · rw [List.dedup_cons_of_mem ‹_›]
    · rw [List.dedup_cons_of_notMem ‹_›]

theorem nodup_dedupL (l : List ℕ) : (dedupL l).Nodup := dedupL_eq l ▸ l.nodup_dedup

theorem mem_dedupL {x : ℕ} {l : List ℕ} : x ∈ dedupL l ↔ x ∈ l := by
  rw [dedupL_eq, List.mem_dedup]

theorem toFinset_dedupL (l : List ℕ) : (dedupL l).toFinset = l.toFinset := by
  ext x
  rw [List.mem_toFinset, mem_dedupL, List.mem_toFinset]

theorem dedupC_sublist (l : List Clade) : (dedupC l).Sublist l := by
  induction l with
  | nil => exact .slnil
  | cons c l ih =>
    rw [dedupC]
    split
    · exact ih.cons c
    · exact ih.cons_cons c

theorem F_dedupC (l : List Clade) : F (dedupC l) = F l := by
  induction l with
  | nil => rfl
  | cons c l ih =>
    rw [dedupC, F_cons]
    split
    · rw [ih, insert_eq_of_mem (memC_iff.mp ‹_›)]
    · rw [F_cons, ih]

/-- different list entries of a deduplicated family are different sets -/
theorem dedupC_pairwise (l : List Clade) :
    (dedupC l).Pairwise fun a b => a.toFinset ≠ b.toFinset := by
  induction l with
  | nil => exact .nil
  | cons c l ih =>
    rw [dedupC]
    split
    · exact ih
    · refine .cons (fun d hd heq => ‹¬ _› ?_) ih
      rw [memC_iff, ← F_dedupC l, heq]
      exact mem_F_of_mem hd

/-! ### clades of a forest -/

/-- the model forest read as the forest of `Proofs/Consensus.lean` -/
def toC : DF → _root_.Consensus.Forest
  | .nil => .nil
  | .cons d k s => .cons d (toC k) (toC s)

theorem toC_all (f : DF) : (toC f).all = f.all := by
  induction f with
  | nil => rfl
  | cons d k s ihk ihs => rw [toC, _root_.Consensus.Forest.all, Orders.Forest.all, ihk, ihs]

theorem toC_clades (f : DF) : (cladesOf f).map List.toFinset = (toC f).clades := by
  induction f with
  | nil => rfl
  | cons d k s ihk ihs =>
    simp only [cladesOf, toC, _root_.Consensus.Forest.clades, List.map_append, List.map_cons,
      ihk, ihs, toFinset_dedupL, toC_all]

theorem cladeSet_laminar (f : DF) (h : f.all.Nodup) : _root_.Consensus.Laminar (F (cladeSet f)) := by
  intro a ha b hb
  rw [cladeSet, F_dedupC, F, toC_clades, List.mem_toFinset] at ha hb
  exact _root_.Consensus.clades_laminar (toC f) (by rwa [toC_all]) a ha b hb

theorem biUnion_cladesOf (f : DF) : (F (cladesOf f)).biUnion id = f.all.toFinset := by
  induction f with
  | nil => rfl
  | cons d k s ihk ihs =>
    rw [cladesOf, List.cons_append, F_cons, F_append, biUnion_insert, union_biUnion, ihk, ihs, id_eq,
      toFinset_dedupL, Orders.Forest.all, List.toFinset_append, List.toFinset_append, ← union_assoc,
      union_eq_left.mpr subset_union_left, List.toFinset_append]

theorem cladesOf_sub_all {f : DF} {c : Clade} (hc : c ∈ cladesOf f) : ∀ i ∈ c, i ∈ f.all :=
  fun _ hi => List.mem_toFinset.mp
    (biUnion_cladesOf f ▸ mem_biUnion.mpr ⟨_, mem_F_of_mem hc, List.mem_toFinset.mpr hi⟩)

/-- every clone holds at least one data point -/
def NonemptyClones : DF → Prop
  | .nil => True
  | .cons d k s => d ≠ [] ∧ NonemptyClones k ∧ NonemptyClones s

theorem cladesOf_members (f : DF) (h : NonemptyClones f) :
    ∀ c ∈ cladesOf f, c.toFinset.Nonempty ∧ c.Nodup := by
  induction f with
  | nil => exact fun c hc => nomatch hc
  | cons d k s ihk ihs =>
    intro c hc
    simp only [cladesOf, List.mem_append, List.mem_cons] at hc
    rcases hc with (rfl | hc) | hc
    · obtain ⟨x, hx⟩ := List.exists_mem_of_ne_nil d h.1
      refine ⟨⟨x, ?_⟩, nodup_dedupL _⟩
      rw [toFinset_dedupL, List.mem_toFinset]
      exact List.mem_append_right _ hx
    · exact ihk h.2.1 c hc
    · exact ihs h.2.2 c hc

/-! ### support -/

theorem getD_map {α β : Type} {f : α → β} {l : List α} {i : ℕ} (h : i < l.length) (d : β) :
    (l.map f).getD i d = f l[i] := by
  rw [List.getD_eq_getElem?_getD, List.getElem?_map, List.getElem?_eq_getElem h]
  rfl

/-- weights and per-tree clade families as functions of the tree index -/
def wOf (weights : Option (List ℚ)) (T : ℕ) (i : ℕ) : ℚ :=
  match weights with
  | none => 1 / (T : ℚ)
  | some ws => ws.getD i 0

def clOf (cls : List (List Clade)) (i : ℕ) : Finset (Finset ℕ) := F (cls.getD i [])

theorem supportW_div_eq_sum (k : ℚ) (c : Clade) (ws : List ℚ) (cls : List (List Clade)) :
    supportW ws cls c / k =
      ∑ i ∈ range cls.length, if c.toFinset ∈ clOf cls i then ws.getD i 0 / k else 0 := by
  induction cls generalizing ws with
  | nil =>
    cases ws with
    | nil => exact zero_div k
    | cons _ _ => exact zero_div k
  | cons cl cls ih =>
    cases ws with
    | nil => simp only [supportW, List.getD_nil, zero_div, ite_self, sum_const_zero]
    | cons w ws =>
      rw [supportW, add_div, ih ws, List.length_cons, sum_range_succ', add_comm, ite_div, zero_div]
      exact congrArg _ (if_congr memC_iff rfl rfl)

theorem support_eq (weights : Option (List ℚ)) (cls : List (List Clade)) (c : Clade) :
    support weights cls c =
      _root_.Consensus.support (range cls.length) (wOf weights cls.length) (clOf cls) c.toFinset := by
  rw [_root_.Consensus.support, sum_filter]
  cases weights with
  | some ws => simpa only [div_one, support, wOf] using supportW_div_eq_sum 1 c ws cls
  | none =>
    -- counts mode: every tree weighs 1, the sum is divided by the number of trees
    rw [support, supportW_div_eq_sum]
    refine sum_congr rfl fun i hi => ?_
    rw [getD_map (mem_range.mp hi)]
    rfl

theorem sum_getD (ws : List ℚ) : ∑ i ∈ range ws.length, ws.getD i 0 = ws.sum := by
  induction ws with
  | nil => rfl
  | cons w ws ih =>
    rw [List.length_cons, sum_range_succ', List.sum_cons, add_comm, ← ih]
    rfl

/-- hypotheses on the weights: as many as trees, non-negative, total at most one -/
structure WeightsOK (weights : Option (List ℚ)) (T : ℕ) : Prop where
  len : ∀ ws, weights = some ws → ws.length = T
  nonneg : ∀ ws, weights = some ws → ∀ w ∈ ws, 0 ≤ w
  total : ∀ ws, weights = some ws → ws.sum ≤ 1

theorem wOf_nonneg {weights : Option (List ℚ)} {T : ℕ} (h : WeightsOK weights T) (i : ℕ) :
    0 ≤ wOf weights T i := by
  cases weights with
  | none => exact div_nonneg zero_le_one (Nat.cast_nonneg _)
  | some ws =>
    simp only [wOf, List.getD_eq_getElem?_getD]
    cases hi : ws[i]? with
    | none => exact le_rfl
    | some w => exact h.nonneg ws rfl w (List.mem_of_getElem? hi)

theorem wOf_total {weights : Option (List ℚ)} {T : ℕ} (h : WeightsOK weights T) :
    ∑ i ∈ range T, wOf weights T i ≤ 1 := by
  cases weights with
  | none =>
    simp only [wOf, sum_const, card_range, nsmul_eq_mul, mul_one_div]
    exact div_self_le_one _
  | some ws =>
    rw [← h.len ws rfl]
    exact (sum_getD ws).trans_le (h.total ws rfl)

/-! ### the majority family -/

theorem mem_majority {weights : Option (List ℚ)} {cls : List (List Clade)} {θ : ℚ} {c : Clade} :
    c ∈ majority weights cls θ ↔ c ∈ candidates cls ∧ θ < support weights cls c := by
  rw [majority, List.mem_filter, decide_eq_true_eq]

theorem majority_sub {trees : List DF} {weights : Option (List ℚ)} {θ : ℚ} {c : Clade}
    (hc : c ∈ majority weights (trees.map cladeSet) θ) : ∃ t ∈ trees, c ∈ cladesOf t := by
  obtain ⟨cl, hcl, hcc⟩ := List.mem_flatten.mp ((dedupC_sublist _).subset (mem_majority.mp hc).1)
  obtain ⟨t, ht, rfl⟩ := List.mem_map.mp hcl
  exact ⟨t, ht, (dedupC_sublist _).subset hcc⟩

/-- what the nesting step needs of the majority family -/
structure GoodFamily (m : List Clade) : Prop where
  lam : _root_.Consensus.Laminar (F m)
  ne : ∀ c ∈ m, c.toFinset.Nonempty
  nd : ∀ c ∈ m, c.Nodup
  pw : m.Pairwise fun a b => a.toFinset ≠ b.toFinset

theorem GoodFamily.perm {m m' : List Clade} (hm : GoodFamily m) (h : m'.Perm m) : GoodFamily m' where
  lam := F_perm h ▸ hm.lam
  ne := fun c hc => hm.ne c (h.mem_iff.mp hc)
  nd := fun c hc => hm.nd c (h.mem_iff.mp hc)
  pw := (h.pairwise_iff (fun hxy => Ne.symm hxy)).mpr hm.pw

/-- a trace inside the property's domain: threshold at least one half, every tree uses a data
point at most once and has no clone without data, weights (if any) are one per tree,
non-negative and sum to at most one -/
structure Domain (trees : List DF) (weights : Option (List ℚ)) (θ : ℚ) : Prop where
  theta : 1 / 2 ≤ θ
  nodup : ∀ t ∈ trees, t.all.Nodup
  nonempty : ∀ t ∈ trees, NonemptyClones t
  weights : WeightsOK weights trees.length

theorem majority_good {trees : List DF} {weights : Option (List ℚ)} {θ : ℚ}
    (h : Domain trees weights θ) : GoodFamily (majority weights (trees.map cladeSet) θ) := by
  have members : ∀ c ∈ majority weights (trees.map cladeSet) θ, c.toFinset.Nonempty ∧ c.Nodup :=
    fun c hc =>
      let ⟨t, ht, hct⟩ := majority_sub hc
      cladesOf_members t (h.nonempty t ht) c hct
  refine ⟨?_, fun c hc => (members c hc).1, fun c hc => (members c hc).2,
    (dedupC_pairwise _).filter _⟩
  have hw : WeightsOK weights (trees.map cladeSet).length := by
    rw [List.length_map]
    exact h.weights
  refine _root_.Consensus.majority_laminar (range (trees.map cladeSet).length)
    (wOf weights (trees.map cladeSet).length) (clOf (trees.map cladeSet)) θ h.theta
    (fun i _ => wOf_nonneg hw i) (wOf_total hw) (fun i hi => ?_) _ fun s hs => ?_
  · rw [mem_range, List.length_map] at hi
    rw [clOf, getD_map hi]
    exact cladeSet_laminar _ (h.nodup _ (List.getElem_mem hi))
  · obtain ⟨c, hc, rfl⟩ := mem_F.mp hs
    exact support_eq weights _ c ▸ (mem_majority.mp hc).2

end PhyModel.ConsBridge
