import PhyModel.Proofs.StoreInv
import Mathlib.Data.List.Perm.Basic
import Mathlib.Data.List.Nodup
/-! Forest lemmas for the store model (C07): what `append`, `mapRecs`, `findSub`, `removeSub`,
`graftAt`, `takeRoots`, `maxIdx` do to the preorder payload list `recs` (membership, `Perm`,
`Sublist`).  Nothing here mentions a `Store`. -/
namespace PhyModel.Store.SF

@[simp] theorem recs_nil : recs nil = [] := rfl
@[simp] theorem recs_cons (n : NodeRec) (k s : SF) : recs (cons n k s) = n :: (recs k ++ recs s) := rfl
@[simp] theorem names_nil : names nil = [] := rfl
@[simp] theorem names_cons (n : NodeRec) (k s : SF) :
    names (cons n k s) = n.name :: (names k ++ names s) := by simp [names]
@[simp] theorem idxs_nil : idxs nil = [] := rfl
@[simp] theorem idxs_cons (n : NodeRec) (k s : SF) :
    idxs (cons n k s) = n.idx :: (idxs k ++ idxs s) := by simp [idxs]

theorem mem_names {f : SF} {nm : Int} : nm ∈ f.names ↔ ∃ n ∈ f.recs, n.name = nm := by simp [names]
theorem mem_idxs {f : SF} {i : Nat} : i ∈ f.idxs ↔ ∃ n ∈ f.recs, n.idx = i := by simp [idxs]

theorem numNodes_eq (f : SF) : f.numNodes = f.recs.length := by
  induction f with
  | nil => rfl
  | cons n k s ihk ihs => simp [numNodes, ihk, ihs]; omega

theorem numNodes_eq_names (f : SF) : f.numNodes = f.names.length := by
  rw [numNodes_eq, names, List.length_map]

theorem recs_append (f g : SF) : (append f g).recs = f.recs ++ g.recs := by
  induction f with
  | nil => rfl
  | cons n k s _ ihs => simp [append, ihs]

theorem idxs_append (f g : SF) : (append f g).idxs = f.idxs ++ g.idxs := by
  unfold idxs
  rw [recs_append, List.map_append]

theorem recs_mapRecs (g : NodeRec → NodeRec) (f : SF) : (mapRecs g f).recs = f.recs.map g := by
  induction f with
  | nil => rfl
  | cons n k s ihk ihs => simp [mapRecs, ihk, ihs]

theorem le_maxIdx {f : SF} {n : NodeRec} (h : n ∈ f.recs) : n.idx ≤ f.maxIdx := by
  induction f with
  | nil => simp at h
  | cons m k s ihk ihs =>
    simp only [recs_cons, List.mem_cons, List.mem_append] at h
    simp only [maxIdx]
    rcases h with rfl | h | h
    · exact Nat.le_max_left _ _
    · exact Nat.le_trans (ihk h) (Nat.le_trans (Nat.le_max_left _ _) (Nat.le_max_right _ _))
    · exact Nat.le_trans (ihs h) (Nat.le_trans (Nat.le_max_right _ _) (Nat.le_max_right _ _))

theorem rootRecs_sublist (f : SF) : f.rootRecs.Sublist f.recs := by
  induction f with
  | nil => simp [rootRecs]
  | cons n k s _ ihs =>
    simp only [rootRecs, recs_cons]
    exact (ihs.trans (List.sublist_append_right _ _)).cons_cons n

/-! ### `findSub` -/

theorem findSub_none_iff {i : Nat} {f : SF} : findSub i f = none ↔ i ∉ f.idxs := by
  induction f with
  | nil => simp [findSub]
  | cons n k s ihk ihs =>
    simp only [findSub, idxs_cons, List.mem_cons, List.mem_append, not_or]
    by_cases h : n.idx = i
    · simp [h]
    · simp only [h, if_false]
      cases hk : findSub i k with
      | some x =>
        have : ¬ (i ∉ k.idxs) := fun hc => by rw [ihk.2 hc] at hk; cases hk
        simp [this]
      | none => simp [ihk.1 hk, ihs, Ne.symm h]

theorem findSub_some {i : Nat} {f : SF} {x : NodeRec × SF} (h : findSub i f = some x) :
    x.1.idx = i ∧ (x.1 :: x.2.recs).Sublist f.recs := by
  induction f with
  | nil => simp [findSub] at h
  | cons n k s ihk ihs =>
    simp only [findSub] at h
    by_cases hn : n.idx = i
    · simp only [hn, if_true, Option.some.injEq] at h
      subst h
      exact ⟨hn, by simp⟩
    · simp only [hn, if_false] at h
      cases hk : findSub i k with
      | some y =>
        rw [hk] at h; simp only [Option.some.injEq] at h; subst h
        obtain ⟨h1, h2⟩ := ihk hk
        exact ⟨h1, (h2.trans (List.sublist_append_left _ _)).cons n⟩
      | none =>
        rw [hk] at h
        obtain ⟨h1, h2⟩ := ihs h
        exact ⟨h1, (h2.trans (List.sublist_append_right _ _)).cons n⟩

theorem findSub_mem {i : Nat} {f : SF} {x : NodeRec × SF} (h : findSub i f = some x) : x.1 ∈ f.recs :=
  (findSub_some h).2.subset (by simp)

theorem findSub_isSome_of_mem {i : Nat} {f : SF} (h : i ∈ f.idxs) : ∃ x, findSub i f = some x := by
  cases hx : findSub i f with
  | none => exact absurd h (findSub_none_iff.1 hx)
  | some x => exact ⟨x, rfl⟩

/-! ### `removeSub` -/

theorem removeSub_of_not_mem {i : Nat} {f : SF} (h : i ∉ f.idxs) : removeSub i f = f := by
  induction f with
  | nil => rfl
  | cons n k s ihk ihs =>
    simp only [idxs_cons, List.mem_cons, List.mem_append, not_or] at h
    simp [removeSub, Ne.symm h.1, ihk h.2.1, ihs h.2.2]

theorem removeSub_sublist (i : Nat) (f : SF) : (removeSub i f).recs.Sublist f.recs := by
  induction f with
  | nil => simp [removeSub]
  | cons n k s ihk ihs =>
    simp only [removeSub]
    split
    · simp only [recs_cons]; exact ((List.sublist_append_right _ _)).cons n
    · simp only [recs_cons]; exact (ihk.append ihs).cons_cons n

theorem removeSub_perm {i : Nat} {f : SF} {x : NodeRec × SF} (hnd : f.idxs.Nodup)
    (h : findSub i f = some x) : f.recs.Perm ((x.1 :: x.2.recs) ++ (removeSub i f).recs) := by
  induction f with
  | nil => simp [findSub] at h
  | cons n k s ihk ihs =>
    simp only [idxs_cons, List.nodup_cons, List.mem_append, not_or, List.nodup_append] at hnd
    obtain ⟨⟨hnk, hns⟩, hk, hs, hdis⟩ := hnd
    simp only [findSub] at h
    by_cases hn : n.idx = i
    · simp only [hn, if_true, Option.some.injEq] at h
      subst h
      simp [removeSub, hn]
    · simp only [hn, if_false] at h
      cases hfk : findSub i k with
      | some y =>
        rw [hfk] at h; simp only [Option.some.injEq] at h; subst h
        have hik : i ∈ k.idxs := by
          by_contra hc; rw [findSub_none_iff.2 hc] at hfk; cases hfk
        have his : i ∉ s.idxs := fun hc => hdis i hik i hc rfl
        simp only [removeSub, hn, if_false, removeSub_of_not_mem his, recs_cons]
        have := ihk hk hfk
        refine (List.Perm.cons n (this.append_right s.recs)).trans ?_
        simp only [List.cons_append, List.append_assoc]
        exact (List.perm_middle (l₁ := y.1 :: y.2.recs)).symm
      | none =>
        rw [hfk] at h
        have hik : i ∉ k.idxs := findSub_none_iff.1 hfk
        simp only [removeSub, hn, if_false, removeSub_of_not_mem hik, recs_cons]
        have := ihs hs h
        refine (List.Perm.cons n (this.append_left k.recs)).trans ?_
        refine (List.Perm.cons n (List.perm_append_comm_assoc _ _ _)).trans ?_
        exact (List.perm_middle (l₁ := x.1 :: x.2.recs)).symm

/-! ### `graftAt` -/

theorem graftAt_of_not_mem {pi : Nat} (g : SF) {f : SF} (h : pi ∉ f.idxs) : graftAt pi g f = f := by
  induction f with
  | nil => rfl
  | cons n k s ihk ihs =>
    simp only [idxs_cons, List.mem_cons, List.mem_append, not_or] at h
    simp [graftAt, Ne.symm h.1, ihk h.2.1, ihs h.2.2]

theorem graftAt_perm {pi : Nat} (g : SF) {f : SF} (hnd : f.idxs.Nodup) (h : pi ∈ f.idxs) :
    (graftAt pi g f).recs.Perm (g.recs ++ f.recs) := by
  induction f with
  | nil => simp at h
  | cons n k s ihk ihs =>
    simp only [idxs_cons, List.nodup_cons, List.mem_append, not_or, List.nodup_append] at hnd
    obtain ⟨⟨hnk, hns⟩, hk, hs, hdis⟩ := hnd
    simp only [idxs_cons, List.mem_cons, List.mem_append] at h
    by_cases hn : n.idx = pi
    · simp only [graftAt, hn, if_true, recs_cons, recs_append, List.append_assoc]
      exact (List.perm_middle (l₁ := g.recs)).symm
    · simp only [graftAt, hn, if_false, recs_cons]
      rcases h with h | h | h
      · exact absurd h.symm hn
      · have his : pi ∉ s.idxs := fun hc => hdis pi h pi hc rfl
        rw [graftAt_of_not_mem g his]
        refine (List.Perm.cons n ((ihk hk h).append_right s.recs)).trans ?_
        simp only [List.append_assoc]
        exact (List.perm_middle (l₁ := g.recs)).symm
      · have hik : pi ∉ k.idxs := fun hc => hdis pi hc pi h rfl
        rw [graftAt_of_not_mem g hik]
        refine (List.Perm.cons n ((ihs hs h).append_left k.recs)).trans ?_
        refine (List.Perm.cons n (List.perm_append_comm_assoc _ _ _)).trans ?_
        exact (List.perm_middle (l₁ := g.recs)).symm

/-! ### `takeRoots` -/

theorem takeRoots_perm (is : List Nat) (f : SF) :
    ((takeRoots is f).1.recs ++ (takeRoots is f).2.recs).Perm f.recs := by
  induction f with
  | nil => simp [takeRoots]
  | cons n k s _ ihs =>
    simp only [takeRoots]
    split
    · simp only [recs_cons, List.cons_append, List.append_assoc]
      exact List.Perm.cons n (ihs.append_left k.recs)
    · simp only [recs_cons]
      refine List.perm_middle.trans (List.Perm.cons n ?_)
      exact (List.perm_append_comm_assoc _ _ _).trans (ihs.append_left k.recs)

end PhyModel.Store.SF

namespace PhyModel.Store

theorem mem_idxs_of_mem_recs {f : SF} {n : NodeRec} (h : n ∈ f.recs) : n.idx ∈ f.idxs :=
  List.mem_map_of_mem h

end PhyModel.Store
