import PhyModel.Proofs.LikProofs
/-! The truncated convolution is commutative, left-commutative and has the unit `delta0`; hence the
recursion `D` does not depend on the order of siblings. -/

open Finset

namespace PhyModel

theorem getQ_eq_getElem (v : Vec) (i : ℕ) (h : i < v.length) : getQ v i = v[i] := by
  rw [getQ, List.getD_eq_getElem?_getD, List.getElem?_eq_getElem h, Option.getD_some]

theorem vec_ext {G : ℕ} {u v : Vec} (hu : u.length = G) (hv : v.length = G)
    (h : ∀ t < G, getQ u t = getQ v t) : u = v := by
  refine List.ext_getElem (hu.trans hv.symm) fun i h1 h2 => ?_
  rw [← getQ_eq_getElem u i h1, ← getQ_eq_getElem v i h2]
  exact h i (hu ▸ h1)

theorem length_conv (G : ℕ) (a b : Vec) : (conv G a b).length = G := by
  rw [conv, List.length_map, List.length_range]

/-- the index set of a truncated double convolution -/
theorem mem_range_pair (t i j : ℕ) :
    j ∈ range (t + 1) ∧ i ∈ range (t - j + 1) ↔ i + j ≤ t := by
  rw [mem_range, mem_range, Nat.lt_succ_iff, Nat.lt_succ_iff]
  exact ⟨fun ⟨h1, h2⟩ => Nat.add_le_of_le_sub h1 h2,
    fun h => ⟨(Nat.le_add_left j i).trans h, Nat.le_sub_of_add_le h⟩⟩

theorem conv_left_comm_get (G : ℕ) (a b c : Vec) (t : ℕ) (ht : t < G) :
    getQ (conv G a (conv G b c)) t = getQ (conv G b (conv G a c)) t := by
  -- both sides are the sum of `a j * b i * c (t - j - i)` over `i + j ≤ t`
  have e : ∀ (a b : Vec), getQ (conv G a (conv G b c)) t
      = ∑ j ∈ range (t + 1), ∑ i ∈ range (t - j + 1), getQ a j * (getQ b i * getQ c (t - j - i)) := by
    intro a b
    rw [getQ_conv G _ _ t ht]
    refine Finset.sum_congr rfl fun j hj => ?_
    rw [getQ_conv G _ _ (t - j) (lt_of_le_of_lt (Nat.sub_le t j) ht), Finset.mul_sum]
  rw [e a b, e b a, Finset.sum_comm' (s' := fun i => range (t - i + 1)) (t' := range (t + 1))]
  · refine Finset.sum_congr rfl fun i _ => Finset.sum_congr rfl fun j _ => ?_
    rw [Nat.sub_right_comm, mul_left_comm]
  · intro j i
    rw [mem_range_pair, and_comm, mem_range_pair, Nat.add_comm]

theorem conv_left_comm (G : ℕ) (a b c : Vec) :
    conv G a (conv G b c) = conv G b (conv G a c) :=
  vec_ext (length_conv ..) (length_conv ..) (conv_left_comm_get G a b c)

theorem conv_comm (G : ℕ) (a b : Vec) : conv G a b = conv G b a := by
  unfold conv
  refine List.map_congr_left fun k _ => ?_
  rw [sumTo_eq, sumTo_eq, ← Finset.sum_range_reflect]
  refine Finset.sum_congr rfl fun j hj => ?_
  have hj' : j ≤ k := Nat.lt_succ_iff.mp (Finset.mem_range.mp hj)
  rw [Nat.add_sub_cancel, Nat.sub_sub_self hj', mul_comm]

theorem conv_delta0 (G : ℕ) (v : Vec) (hv : v.length = G) : conv G v (delta0 G) = v := by
  refine vec_ext (length_conv ..) hv fun i hi => ?_
  rw [getQ_conv G _ _ i hi, Finset.sum_eq_single i, Nat.sub_self,
    getQ_delta0 G 0 (Nat.zero_lt_of_lt hi), if_pos rfl, mul_one]
  · intro j hj hne
    have hj' : j < i := lt_of_le_of_ne (Nat.lt_succ_iff.mp (Finset.mem_range.mp hj)) hne
    rw [getQ_delta0 G (i - j) (lt_of_le_of_lt (Nat.sub_le i j) hi),
      if_neg (Nat.sub_ne_zero_of_lt hj'), mul_zero]
  · intro h; exact absurd (Finset.mem_range.mpr (Nat.lt_succ_self i)) h
/-- forests equal up to the order of siblings at any depth -/
inductive Iso : Forest → Forest → Prop
  | refl (f : Forest) : Iso f f
  | swap (p : Vec) (k : Forest) (p' : Vec) (k' : Forest) (s : Forest) :
      Iso (.cons p k (.cons p' k' s)) (.cons p' k' (.cons p k s))
  | cons (p : Vec) {k k' s s' : Forest} : Iso k k' → Iso s s' → Iso (.cons p k s) (.cons p k' s')
  | symm {f g : Forest} : Iso f g → Iso g f
  | trans {f g h : Forest} : Iso f g → Iso g h → Iso f h

/-- the recursion value is independent of sibling order -/
theorem D_iso (G : ℕ) {f g : Forest} (h : Iso f g) : D G f = D G g := by
  induction h with
  | refl f => rfl
  | swap p k p' k' s => simp only [D]; exact conv_left_comm G _ _ _
  | cons p _ _ ihk ihs => simp only [D, ihk, ihs]
  | symm _ ih => exact ih.symm
  | trans _ _ ih1 ih2 => exact ih1.trans ih2

#print axioms D_iso
end PhyModel
