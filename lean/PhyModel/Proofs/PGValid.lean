import PhyModel.Proofs.PGAsmcSpec
import PhyModel.Proofs.ASMCInvariance
/-! # C01 instance: PhyClone's conditional SMC along a fixed order satisfies
`ASMC.ValidTo … σ.length`, hence leaves the last-level target `pOne · pdf` invariant. -/

namespace PhyModel.PG
open Proposal PGSpec

variable {dt : Data} {c : Cfg} {σ : List ℕ} {L : List T} {κ : ℚ}

theorem sum_mem_ite {α : Type} [DecidableEq α] {P : List α} {a : α} (ha : a ∈ P) (F : {s // s ∈ P} → ℚ) :
    ∑ s : {s // s ∈ P}, (if a = s.1 then F s else 0) = F ⟨a, ha⟩ := by
  rw [Finset.sum_eq_single_of_mem ⟨a, ha⟩ (Finset.mem_univ _) fun s _ hs => if_neg fun e => hs (Subtype.ext e.symm)]
  exact if_pos rfl

/-- expectation under a table, as a sum over a finite type of trees containing every listed tree -/
theorem lsum_table_eq (tab : List (T × ℚ)) (hk : ∀ tq ∈ tab, tq.1 ∈ L) (H : T → ℚ) :
    lsum tab (fun tq => tq.2 * H tq.1) = ∑ x : St L, tprob tab x.1 * H x.1 := by
  induction tab with
  | nil => simp only [tprob, lsum_nil, zero_mul, Finset.sum_const_zero]
  | cons a tab ih =>
    simp only [tprob_cons, add_mul, ite_mul, zero_mul]
    rw [Finset.sum_add_distrib, ← ih (fun tq htq => hk tq (List.mem_cons_of_mem _ htq)), lsum_cons,
      sum_mem_ite (hk a List.mem_cons_self) (fun x => a.2 * H x.1)]

/-- summing the table probabilities over a finite type of trees containing every listed tree gives
the total mass of the table -/
theorem sum_tprob (tab : List (T × ℚ)) (hk : ∀ tq ∈ tab, tq.1 ∈ L) :
    ∑ x : St L, tprob tab x.1 = lsum tab (fun tq => tq.2) := by
  simpa only [mul_one] using (lsum_table_eq tab hk (fun _ => 1)).symm

theorem level_mem_L (hL : ∀ x ∈ states c σ, x ∈ L) {t : ℕ} {x : T} (hx : x ∈ level c σ t) : x ∈ L :=
  hL x (mem_states.mpr ⟨t, (level_inv c σ t x hx).le, hx⟩)

theorem spec_parent_child (h : Hyp dt c σ) (hL : ∀ x ∈ states c σ, x ∈ L) (θ : ℚ) (m : ℕ)
    {t : ℕ} {x x' : St L} (hx : x.1 ∈ level c σ t) {i : ℕ} (hi : σ[t]? = some i)
    (hc : x'.1 ∈ children c x.1 i) : (spec dt c σ κ L hL θ m).parent x' = x := by
  have hp := parentT_child h hx hi hc
  show (if h : parentT σ x'.1 ∈ L then (⟨_, h⟩ : St L) else x') = x
  have hm : parentT σ x'.1 ∈ L := by rw [hp]; exact x.2
  rw [dif_pos hm]
  exact Subtype.ext hp

/-- **Stage 1.**  The PhyClone instance satisfies the hypotheses of the abstract conditional-SMC
theorem up to the horizon `σ.length`. -/
theorem spec_valid (h : Hyp dt c σ) (hκ : 0 < κ) (hL : ∀ x ∈ states c σ, x ∈ L) (θ : ℚ) (m : ℕ) :
    ASMC.ValidTo (spec dt c σ κ L hL θ m) σ.length where
  g0 := by
    intro x
    show gT dt c σ κ 0 x.1 = _
    unfold gT
    simp only [level, List.mem_singleton, if_true]
    by_cases hx : x.1 = T.empty
    · rw [if_pos hx, if_pos (Subtype.ext hx)]
    · rw [if_neg hx, if_neg (fun h' => hx (congrArg Subtype.val h'))]
  gnn := fun t x => gT_nonneg h hκ t x.1
  qnn := fun t x x' => qT_nonneg h t x.1 x'.1
  qsum := by
    intro t x ht hg
    have hx := mem_of_gT_pos hg
    have hi : σ[t]? = some σ[t] := List.getElem?_eq_getElem ht
    show ∑ x' : St L, qT dt c σ t x.1 x'.1 = 1
    simp only [qT_of_mem hx hi]
    rw [sum_tprob]
    · exact table_sum_one_proof dt c _ x.1 _ (level_first hx) (fun _ => level_placements_pos h hx hi)
    · intro tq htq
      have := (table_entry dt c _ x.1 _ h.op0 h.op1 (level_placements_pos h hx hi) tq htq).2
      exact level_mem_L hL (child_mem_level hx hi this)
  qparent := by
    intro t x x' _ hq
    obtain ⟨hx, i, hi, hc⟩ := of_qT_pos h hq
    exact spec_parent_child h hL θ m hx hi hc
  qsupp := by
    intro t x x' _ _ hq
    obtain ⟨hx, i, hi, hc⟩ := of_qT_pos h hq
    exact gT_pos h hκ (child_mem_level hx hi hc)
  gsupp := by
    intro t x' _ hg
    have hx' := mem_of_gT_pos hg
    obtain ⟨i, hi, p, hp, hc⟩ := mem_level_succ.mp hx'
    have hpar : (spec dt c σ κ L hL θ m).parent x' = ⟨p, level_mem_L hL hp⟩ :=
      spec_parent_child h hL θ m (x := ⟨p, level_mem_L hL hp⟩) hp hi hc
    rw [hpar]
    exact ⟨gT_pos h hκ hp, qT_pos h hp hi hc⟩
  rssymm := fun t w τ => essRule_symm θ m t w τ

/-- **Conditional SMC along a fixed order leaves `pOne · pdf` on the complete trees reachable along
that order invariant** — any number of particles `m + 1`, any threshold, any `u > 0`. -/
theorem pg_csmc_invariant (h : Hyp dt c σ) (hκ : 0 < κ) (hL : ∀ x ∈ states c σ, x ∈ L) (θ : ℚ) (m : ℕ)
    (u : ℚ) (hu : 0 < u) (y : St L) :
    ∑ x : St L, gT dt c σ κ σ.length x.1 * ASMC.kernel (spec dt c σ κ L hL θ m) u σ.length x y
      = gT dt c σ κ σ.length y.1 :=
  ASMC.csmc_invariant_to (spec_valid h hκ hL θ m) hu y

theorem incrWeight_eq (dt : Data) (c : Cfg) (first last : Bool) (p t : T) (q : ℚ) (ht : pMargT dt c t ≠ 0) :
    incrWeight dt c first last p t q
      = (if last then pOneT dt c t else pMargT dt c t) * pdfOf c t /
        ((if first then 1 else pMargT dt c p * pdfOf c p) * q) := by
  unfold incrWeight
  cases last
  · cases first
    · rfl
    · simp only [if_true, Bool.false_eq_true, if_false, one_mul]
  · simp only [if_true]
    rw [mul_div_assoc, mul_div_cancel_left₀ _ ht, div_mul_eq_mul_div, mul_comm (pdfOf c t), ite_mul, one_mul]

/-- the abstract incremental weight is the model's `incrWeight` (with the table probability as `q`),
times `κ` at the first step -/
theorem incr_eq_incrWeight (h : Hyp dt c σ) (hκ : 0 < κ) (hL : ∀ x ∈ states c σ, x ∈ L) (θ : ℚ) (m : ℕ)
    {t : ℕ} {x x' : St L} (hx : x.1 ∈ level c σ t) {i : ℕ} (hi : σ[t]? = some i)
    (hc : x'.1 ∈ children c x.1 i) :
    ASMC.incr (spec dt c σ κ L hL θ m) t x x'
      = (if t = 0 then κ else 1) *
        incrWeight dt c (t == 0) (t + 1 == σ.length) x.1 x'.1 (tprob (table dt c (t == 0) x.1 i) x'.1) := by
  have hx' := child_mem_level hx hi hc
  have hne : t ≠ σ.length := ne_of_lt (List.getElem?_eq_some_iff.mp hi).1
  show gT dt c σ κ (t+1) x'.1 / (gT dt c σ κ t x.1 * qT dt c σ t x.1 x'.1) = _
  rw [qT_of_mem hx hi, gT_of_mem hx, gT_of_mem hx', if_neg (Nat.succ_ne_zero t), if_neg hne,
    incrWeight_eq _ _ _ _ _ _ _ (ne_of_gt (level_pMarg_pos h hx'))]
  simp only [beq_iff_eq]
  by_cases ht : t = 0
  · simp only [if_pos ht, mul_div_assoc]
  · simp only [if_neg ht, one_mul]
    rw [mul_assoc κ, mul_div_mul_left _ _ (ne_of_gt hκ)]

#print axioms pg_csmc_invariant
end PhyModel.PG
