import PhyModel.Proofs.ConsParents
/-! The forest built from the consensus graph (bridge (b) of C16): the subtree that the fuel-driven
`buildNode` builds for a member `c` of a good family has exactly the clades `{d ∈ F m | d ⊆ c}`
(so holds exactly the data `c`) once the fuel is at least the number of members strictly inside
`c`; the forest over the roots has exactly the clades `F m`.  Then the projections of `nest` and
`run`: both C16 clauses for every good family (so for every iteration order of the majority set),
and `run` succeeds on every in-domain trace whose data indices are inside the data set. -/
open Finset

namespace PhyModel.ConsBridge
open PhyModel.Consensus PhyModel.Orders

def nodeClades (r : List ℕ × DF) : List Clade := dedupL (r.2.all ++ r.1) :: cladesOf r.2

theorem cladesOf_ofRoots (rs : List (List ℕ × DF)) :
    cladesOf (Forest.ofRoots rs) = rs.flatMap nodeClades := by
  induction rs with
  | nil => rfl
  | cons r rs ih => rw [Forest.ofRoots, cladesOf, ih, List.flatMap_cons, nodeClades]

theorem mem_F_flatMap {α : Type} {g : α → List Clade} {l : List α} {s : Finset ℕ} :
    s ∈ F (l.flatMap g) ↔ ∃ a ∈ l, s ∈ F (g a) := by
  simp only [mem_F, List.mem_flatMap]
  constructor
  · rintro ⟨d, ⟨a, ha, hd⟩, e⟩; exact ⟨a, ha, d, hd, e⟩
  · rintro ⟨a, ha, d, hd, e⟩; exact ⟨d, ⟨a, ha, hd⟩, e⟩

variable {m : List Clade} {tbl : List (Clade × Option Clade)} {owns : List (Clade × List ℕ)}
  {c : Clade}

theorem node_of_kids (hg : GoodFamily m) (h : parentTable m = .ok tbl) (ho : ownsOf tbl m = .ok owns)
    (hc : c ∈ m) (K : DF) (hcl : F (cladesOf K) = (F m).filter (fun e => e ⊂ c.toFinset)) :
    F (nodeClades (lookupOwn owns c, K)) = (F m).filter (fun e => e ⊆ c.toFinset) := by
  have hA : (K.all ++ lookupOwn owns c).toFinset = c.toFinset := by
    rw [List.toFinset_append, ← biUnion_cladesOf, hcl, lookupOwn_spec hg h ho hc]
    exact union_sdiff_of_subset (strictU_subset m _)
  ext s
  rw [nodeClades, F_cons, toFinset_dedupL, hA, hcl, mem_insert, mem_filter, mem_filter,
    subset_iff_ssubset_or_eq, and_or_left, or_comm]
  exact or_congr_right ⟨fun e => ⟨e ▸ mem_F_of_mem hc, e⟩, And.right⟩

theorem buildNode_fst (fuel : ℕ) (c : Clade) :
    buildNode tbl owns fuel c = (lookupOwn owns c, (buildNode tbl owns fuel c).2) := by
  cases fuel <;> rfl

/-- **bridge (b)**, one node -/
theorem buildNode_spec (hg : GoodFamily m) (h : parentTable m = .ok tbl) (ho : ownsOf tbl m = .ok owns) :
    ∀ (fuel : ℕ) (c : Clade), c ∈ m → ((F m).filter (fun e => e ⊂ c.toFinset)).card ≤ fuel →
      F (nodeClades (buildNode tbl owns fuel c)) = (F m).filter (fun e => e ⊆ c.toFinset) := by
  intro fuel
  induction fuel with
  | zero =>
    intro c hc hcard
    rw [buildNode_fst]
    exact node_of_kids hg h ho hc _ (card_eq_zero.mp (Nat.le_zero.mp hcard)).symm
  | succ fuel ih =>
    intro c hc hcard
    have hkid : ∀ d ∈ childrenOf tbl c,
        F (nodeClades (buildNode tbl owns fuel d)) = (F m).filter (fun e => e ⊆ d.toFinset) := by
      intro d hd
      obtain ⟨hdm, hch⟩ := (childrenOf_iff hg h hc d).mp hd
      exact ih d hdm (Nat.le_of_lt_succ
        ((_root_.Consensus.card_strict_lt (F m) hch.1 hch.2.1).trans_le hcard))
    rw [buildNode_fst]
    refine node_of_kids hg h ho hc _ ?_
    ext s
    simp only [buildNode, cladesOf_ofRoots, mem_F_flatMap, List.mem_map, mem_filter]
    constructor
    · rintro ⟨_, ⟨d, hd, rfl⟩, hs⟩
      rw [hkid d hd, mem_filter] at hs
      exact ⟨hs.1, hs.2.trans_ssubset ((childrenOf_iff hg h hc d).mp hd).2.2.1⟩
    · rintro ⟨hs, hsc⟩
      obtain ⟨D, hD, hsD⟩ := _root_.Consensus.exists_child_above (F m) hs hsc
      obtain ⟨d, hd, rfl⟩ := mem_F.mp hD.1
      have hdc := (childrenOf_iff hg h hc d).mpr ⟨hd, hD⟩
      exact ⟨_, ⟨d, hdc, rfl⟩, hkid d hdc ▸ mem_filter.mpr ⟨hs, hsD⟩⟩

/-! ### the roots of the consensus graph and the whole forest -/

/-- the root list handed to `from_dict_nx` -/
def rootsOf (tbl : List (Clade × Option Clade)) : List Clade :=
  (tbl.filter fun e => e.2.isNone).map (·.1)

theorem rootsOf_mem (h : parentTable m = .ok tbl) {d : Clade} (hd : d ∈ rootsOf tbl) : d ∈ m :=
  (mapM_pair_spec h).1 ▸ (List.filter_sublist.map _).subset hd

theorem mem_rootsOf (h : parentTable m = .ok tbl) {d : Clade} (hd : d ∈ m)
    (hmax : ∀ e ∈ F m, ¬ d.toFinset ⊂ e) : d ∈ rootsOf tbl := by
  obtain ⟨hkeys, hval⟩ := mapM_pair_spec h
  obtain ⟨q, he⟩ := exists_entry hkeys hd
  cases q with
  | some p =>
    obtain ⟨hp, hdp⟩ := (findSmallestSuperset_spec (hval _ he)).1 p rfl
    exact absurd hdp (hmax _ (mem_F_of_mem hp))
  | none => exact List.mem_map.mpr ⟨(d, none), List.mem_filter.mpr ⟨he, rfl⟩, rfl⟩

theorem card_F_le (m : List Clade) : (F m).card ≤ m.length :=
  (List.toFinset_card_le _).trans (List.length_map _).le

/-- **bridge (b)**, whole forest: the clades of the built forest are exactly the family -/
theorem forest_clades (hg : GoodFamily m) (h : parentTable m = .ok tbl) (ho : ownsOf tbl m = .ok owns) :
    F (cladesOf (Forest.ofRoots ((rootsOf tbl).map (buildNode tbl owns m.length)))) = F m := by
  ext s
  simp only [cladesOf_ofRoots, mem_F_flatMap, List.mem_map]
  have hfuel : ∀ d : Clade, ((F m).filter (fun e => e ⊂ d.toFinset)).card ≤ m.length :=
    fun d => (card_filter_le _ _).trans (card_F_le m)
  constructor
  · rintro ⟨_, ⟨d, hd, rfl⟩, hs⟩
    rw [buildNode_spec hg h ho m.length d (rootsOf_mem h hd) (hfuel d), mem_filter] at hs
    exact hs.1
  · intro hs
    obtain ⟨D, hD, hsD, hmax⟩ := _root_.Consensus.exists_max_above (F m) hs
    obtain ⟨d, hd, rfl⟩ := mem_F.mp hD
    refine ⟨_, ⟨d, mem_rootsOf h hd hmax, rfl⟩, ?_⟩
    rw [buildNode_spec hg h ho m.length d hd (hfuel d), mem_filter]
    exact ⟨hs, hsD⟩

/-! ### `nest` -/

theorem mem_outliersOf {n : ℕ} {owns : List (Clade × List ℕ)} {i : ℕ} :
    i ∈ outliersOf n owns ↔ i < n ∧ ∀ e ∈ owns, i ∉ e.2 := by
  simp only [outliersOf, List.mem_filter, List.mem_range, List.mem_flatMap, Bool.not_eq_true',
    decide_eq_false_iff_not, not_exists, not_and]

variable {n : ℕ} {f : DF} {outs : List ℕ}

theorem nest_eq_ok : nest n m = .ok (f, outs, owns, tbl) ↔
    parentTable m = .ok tbl ∧ ownsOf tbl m = .ok owns ∧ (∀ i ∈ owns.flatMap (·.2), i < n) ∧
    f = Forest.ofRoots ((rootsOf tbl).map (buildNode tbl owns m.length)) ∧
    outs = outliersOf n owns := by
  rw [nest, bind_eq_ok]
  constructor
  · rintro ⟨tbl', ht, h⟩
    obtain ⟨owns', ho, h⟩ := bind_eq_ok.mp h
    dsimp only at h
    split at h
    · cases h
    · cases h
      rename_i hany
      refine ⟨ht, ho, fun i hi => Nat.lt_of_not_le fun hle => hany ?_, rfl, rfl⟩
      exact List.any_eq_true.mpr ⟨i, hi, decide_eq_true hle⟩
  · rintro ⟨ht, ho, hn, rfl, rfl⟩
    refine ⟨tbl, ht, bind_eq_ok.mpr ⟨owns, ho, ?_⟩⟩
    dsimp only
    rw [if_neg]
    · rfl
    · intro hany
      obtain ⟨i, hi, hle⟩ := List.any_eq_true.mp hany
      exact (hn i hi).not_ge (of_decide_eq_true hle)

theorem nest_outs {n : ℕ} {m : List Clade} {f : DF} {outs : List ℕ} {owns : List (Clade × List ℕ)}
    {tbl : List (Clade × Option Clade)} (h : nest n m = .ok (f, outs, owns, tbl)) :
    outs = outliersOf n owns ∧ parentTable m = .ok tbl :=
  ⟨(nest_eq_ok.mp h).2.2.2.2, (nest_eq_ok.mp h).1⟩

/-- `nest` succeeds on a good family whose data indices are inside the data set -/
theorem nest_ok (hg : GoodFamily m) (hn : ∀ c ∈ m, ∀ i ∈ c, i < n) : ∃ r, nest n m = .ok r := by
  obtain ⟨tbl, ht⟩ := parentTable_ok hg
  obtain ⟨owns, ho⟩ := ownsOf_ok hg ht
  refine ⟨_, nest_eq_ok.mpr ⟨ht, ho, fun i hi => ?_, rfl, rfl⟩⟩
  obtain ⟨e, he, hie⟩ := List.mem_flatMap.mp hi
  obtain ⟨c, hc, hic⟩ := (owns_cover hg ht ho i).mp ⟨e, he, hie⟩
  exact hn c hc i hic

/-- clades of the forest built by `nest` = the family (as sets) -/
theorem nest_clades_exact (hg : GoodFamily m) (h : nest n m = .ok (f, outs, owns, tbl)) :
    F (cladesOf f) = F m := by
  obtain ⟨ht, ho, _, rfl, _⟩ := nest_eq_ok.mp h
  exact forest_clades hg ht ho

/-- outliers of `nest` = the data indices in no member of the family -/
theorem nest_outs_exact (hg : GoodFamily m) (h : nest n m = .ok (f, outs, owns, tbl)) (i : ℕ) :
    i ∈ outs ↔ i < n ∧ ∀ c ∈ m, i ∉ c := by
  obtain ⟨ht, ho, _, _, rfl⟩ := nest_eq_ok.mp h
  rw [mem_outliersOf]
  have hc := not_congr (owns_cover hg ht ho i)
  simp only [not_exists, not_and] at hc
  rw [hc]

/-! ### `run` -/

variable {trees : List DF} {weights : Option (List ℚ)} {θ : ℚ} {r : Result}

theorem run_spec (hr : run n trees weights θ = .ok r) :
    nest n (majority weights (trees.map cladeSet) θ) = .ok (r.forest, r.outs, r.owns, r.parents) ∧
    r.majority = majority weights (trees.map cladeSet) θ := by
  -- past the check of the weights, `run` is `nest` followed by packing the result
  obtain ⟨v, hv, hr⟩ : ∃ v, nest n (majority weights (trees.map cladeSet) θ) = .ok v ∧
      Except.ok (⟨v.1, v.2.1, majority weights (trees.map cladeSet) θ,
        (candidates (trees.map cladeSet)).map fun c => (c, support weights (trees.map cladeSet) c),
        v.2.2.1, v.2.2.2⟩ : Result) = Except.ok (ε := String) r := by
    rw [run.eq_def] at hr
    cases weights with
    | none => exact bind_eq_ok.mp hr
    | some ws =>
      dsimp only at hr
      split at hr
      · cases hr
      · exact bind_eq_ok.mp hr
  cases hr
  exact ⟨hv, rfl⟩

theorem run_ok (h : Domain trees weights θ) (hn : ∀ t ∈ trees, ∀ i ∈ t.all, i < n) :
    ∃ r, run n trees weights θ = .ok r := by
  have hn' : ∀ c ∈ majority weights (trees.map cladeSet) θ, ∀ i ∈ c, i < n := by
    intro c hc i hi
    obtain ⟨t, ht, hct⟩ := majority_sub hc
    exact hn t ht i (cladesOf_sub_all hct i hi)
  obtain ⟨v, hv⟩ := nest_ok (majority_good h) hn'
  rw [run.eq_def]
  cases weights with
  | none => exact ⟨_, bind_eq_ok.mpr ⟨v, hv, rfl⟩⟩
  | some ws =>
    dsimp only
    rw [if_neg (h.weights.len ws rfl).ge.not_gt]
    exact ⟨_, bind_eq_ok.mpr ⟨v, hv, rfl⟩⟩
end PhyModel.ConsBridge
