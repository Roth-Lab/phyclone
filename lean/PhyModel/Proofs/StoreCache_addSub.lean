import PhyModel.Proofs.StoreCache_addDp
import PhyModel.Proofs.StoreCache_Map
import PhyModel.Proofs.StoreCache_create
import PhyModel.Proofs.StoreWF_addSub
import Mathlib.Data.List.Perm.Basic
/-! C06, `Tree.add_subtree`: a subtree whose own caches are in order is renumbered, grafted below a
clone (or at the top level) and its clashing names are replaced; only the equations on the path from
the graft point to the top can break, and that path is recomputed.

The place where `_update_path_to_root` starts is first left as a hypothesis (`cacheOK_grafted`).  It
is then read off the part `WFc` of C07's well-formedness of the *resulting* store (`cacheOK_addSub`)
and, for `cacheOK_step`, derived from `WFc` of the edited store only (`cacheOK_addSub_in`): the
renumbered subtree gets fresh indices (so indices stay unique), the graft point's payload keeps its
name, and the name → index map after `_relabel_grafted_subtree_nodes` sends that name either to the
graft point or to a grafted clone — which lies below the graft point, so the recomputed path covers
the graft point in both cases. -/
namespace PhyModel.Store.C06

/-! ### `append`, `graftAt` -/

theorem append_cons (n : NodeRec) (k s g : SF) :
    (SF.cons n k s).append g = .cons n k (s.append g) := rfl

theorem cacheOKsf_append (dt : Data) : ∀ f g : SF, CacheOKsf dt f → CacheOKsf dt g →
    CacheOKsf dt (f.append g)
  | .nil, _, _, hg => hg
  | .cons _ _ s, g, ⟨h1, h2, h3, h4⟩, hg => ⟨h1, h2, h3, cacheOKsf_append dt s g h4 hg⟩

theorem Dc_append_congr (G sm : Nat) : ∀ f g g' : SF, Dc G sm g' = Dc G sm g →
    Dc G sm (f.append g') = Dc G sm (f.append g)
  | .nil, _, _, h => h
  | .cons n k s, g, g', h => by simp only [append_cons, Dc, Dc_append_congr G sm s g g' h]

theorem graftAt_cons (i : Nat) (g : SF) (n : NodeRec) (k s : SF) :
    SF.graftAt i g (.cons n k s) =
      if n.idx = i then .cons n (g.append k) s
      else .cons n (SF.graftAt i g k) (SF.graftAt i g s) := rfl

theorem idxs_sublist_graftAt (i : Nat) (g : SF) : ∀ f : SF, f.idxs.Sublist (SF.graftAt i g f).idxs
  | .nil => .slnil
  | .cons n k s => by
    rw [graftAt_cons]
    split
    · rw [SF.idxs_cons, SF.idxs_cons, SF.idxs_append]
      exact ((List.sublist_append_right _ _).append_right _).cons_cons _
    · rw [SF.idxs_cons, SF.idxs_cons]
      exact ((idxs_sublist_graftAt i g k).append (idxs_sublist_graftAt i g s)).cons_cons _

theorem idxs_sublist_graftAt_sub (i : Nat) (g : SF) (f : SF) : i ∈ f.idxs →
    g.idxs.Sublist (SF.graftAt i g f).idxs := by
  induction f with
  | nil => exact fun h => nomatch h
  | cons n k s ihk ihs =>
    intro h
    rw [graftAt_cons]
    by_cases h1 : n.idx = i
    · rw [if_pos h1, SF.idxs_cons, SF.idxs_append, List.append_assoc]
      exact (List.sublist_append_left _ _).cons _
    · rw [if_neg h1, SF.idxs_cons]
      rcases (mem_idxs_cons.1 h).resolve_left h1 with h | h
      · exact ((ihk h).trans (List.sublist_append_left _ _)).cons _
      · exact ((ihs h).trans (List.sublist_append_right _ _)).cons _

theorem POK_append (dt : Data) : ∀ f g : SF, POK dt f → POK dt g → POK dt (f.append g)
  | .nil, _, _, hg => hg
  | .cons _ _ s, g, ⟨h1, h2, h3⟩, hg => ⟨h1, h2, POK_append dt s g h3 hg⟩

theorem ROK_append (dt : Data) : ∀ f g : SF, ROK dt f → ROK dt g → ROK dt (f.append g)
  | .nil, _, _, hg => hg
  | .cons n k s, g, h, hg => by
    rw [ROK_cons] at h
    rw [append_cons, ROK_cons]
    exact ⟨h.1, h.2.1, ROK_append dt s g h.2.2 hg⟩

theorem POK_graftAt (dt : Data) (i : Nat) (g : SF) (hg : POK dt g) :
    ∀ f : SF, POK dt f → POK dt (SF.graftAt i g f)
  | .nil, _ => trivial
  | .cons n k s, ⟨h1, h2, h3⟩ => by
    rw [graftAt_cons]
    split
    · exact ⟨h1, POK_append dt g k hg h2, h3⟩
    · exact ⟨h1, POK_graftAt dt i g hg k h2, POK_graftAt dt i g hg s h3⟩

/-- grafting below node `i` can only break the equations on the path to `i`; a grafted clone lies
below `i`, so the path to it covers that path -/
theorem ROKx_graftAt (dt : Data) (i j : Nat) (g : SF) (hg : ROK dt g) (hj : j = i ∨ j ∈ g.idxs)
    (f : SF) : ROK dt f → ROKx dt j (SF.graftAt i g f) := by
  induction f with
  | nil => exact fun _ => trivial
  | cons n k s ihk ihs =>
    intro h
    rw [ROK_cons] at h
    rw [graftAt_cons]
    by_cases h1 : n.idx = i
    · rw [if_pos h1, ROKx_cons]
      refine ⟨Or.inl (hj.imp (fun e => h1.trans e.symm) fun e => ?_),
        (ROK_append dt g k hg h.2.1).toROKx j, h.2.2.toROKx j⟩
      rw [SF.idxs_append]
      exact List.mem_append_left _ e
    · rw [if_neg h1, ROKx_cons]
      refine ⟨?_, ihk h.2.1, ihs h.2.2⟩
      by_cases h2 : i ∈ k.idxs
      · refine Or.inl (Or.inr ?_)
        rcases hj with rfl | hj
        · exact (idxs_sublist_graftAt j g k).subset h2
        · exact (idxs_sublist_graftAt_sub i g k h2).subset hj
      · rw [SF.graftAt_of_not_mem g h2]
        exact Or.inr h.1

theorem findSub_graftAt (i : Nat) (g : SF) : ∀ f : SF,
    SF.findSub i (SF.graftAt i g f) = (SF.findSub i f).map fun x => (x.1, g.append x.2)
  | .nil => rfl
  | .cons n k s => by
    rw [graftAt_cons, findSub_cons]
    by_cases h1 : n.idx = i
    · rw [if_pos h1, if_pos h1, findSub_cons, if_pos h1]; rfl
    · rw [if_neg h1, if_neg h1, findSub_cons, if_neg h1, findSub_graftAt i g k, findSub_graftAt i g s]
      cases SF.findSub i k <;> rfl

theorem findSub_mapRecs (i : Nat) (g : NodeRec → NodeRec) (hi : ∀ n, (g n).idx = n.idx) : ∀ f : SF,
    SF.findSub i (f.mapRecs g) = (SF.findSub i f).map fun x => (g x.1, x.2.mapRecs g)
  | .nil => rfl
  | .cons n k s => by
    rw [mapRecs_cons, findSub_cons, findSub_cons, hi]
    by_cases h1 : n.idx = i
    · rw [if_pos h1, if_pos h1]; rfl
    · rw [if_neg h1, if_neg h1, findSub_mapRecs i g hi k, findSub_mapRecs i g hi s]
      cases SF.findSub i k <;> rfl

/-- the path recomputation keeps every payload's name and index -/
theorem keys_updPath (dt : Data) (i : Nat) (f : SF) :
    ((updPath dt i f).1.recs.map fun n => (n.name, n.idx)) = f.recs.map fun n => (n.name, n.idx) :=
  updPath_map _ (fun _ _ => rfl) dt i f

theorem idxs_updPath (dt : Data) (i : Nat) (f : SF) : (updPath dt i f).1.idxs = f.idxs :=
  updPath_map _ (fun _ _ => rfl) dt i f

/-! ### the operation -/

/-- the renaming applied to the grafted payloads -/
def renameBy (ren : List (Nat × Int)) (n : NodeRec) : NodeRec :=
  match ren.lookup n.idx with
  | some nm => { n with name := nm }
  | none => n

theorem renameBy_idx (ren : List (Nat × Int)) (n : NodeRec) : (renameBy ren n).idx = n.idx := by
  unfold renameBy; split <;> rfl
theorem renameBy_dps (ren : List (Nat × Int)) (n : NodeRec) : (renameBy ren n).dps = n.dps := by
  unfold renameBy; split <;> rfl
theorem renameBy_p (ren : List (Nat × Int)) (n : NodeRec) : (renameBy ren n).p = n.p := by
  unfold renameBy; split <;> rfl
theorem renameBy_r (ren : List (Nat × Int)) (n : NodeRec) : (renameBy ren n).r = n.r := by
  unfold renameBy; split <;> rfl

/-- **C06, `add_subtree`** at the top level -/
theorem cacheOK_addSub_top (dt : Data) (s sub s' : Store) (hc : CacheOK dt s)
    (hcs : CacheOK dt sub) (h : s.addSubtree dt sub none = some s') : CacheOK dt s' := by
  unfold Store.addSubtree at h
  obtain ⟨f1, hf1, h⟩ := Option.bind_eq_some_iff.1 h
  cases hf1
  refine cacheOK_updatePath_none dt _ s' ?_ h
  exact (cacheOKsf_mapRecs dt (renameBy _) (renameBy_dps _) (renameBy_p _) (renameBy_r _) _).2
    (cacheOKsf_append dt _ _ ((cacheOKsf_of_er_eq dt (er_reindex _ _)).2 hcs.1) hc.1)

theorem cacheOK_grafted (dt : Data) (s sub s' : Store) (pi : Nat) (f1 : SF) (nm : Int)
    (hf1 : f1 = SF.graftAt pi (Store.reindex sub.forest s.fresh).1 s.forest) (hc : CacheOK dt s)
    (hcs : CacheOK dt sub) (hnd : (graftMid s sub f1).forest.idxs.Nodup)
    (hstart : ∀ i, (graftMid s sub f1).nodeIdx.lookup nm = some i →
      i = pi ∨ i ∈ (Store.reindex sub.forest s.fresh).1.idxs)
    (hup : Store.updatePathToRoot dt (graftMid s sub f1) (some nm) = some s') : CacheOK dt s' := by
  subst hf1
  obtain ⟨hgp, hgr⟩ :=
    (cacheOKsf_iff dt _).1 ((cacheOKsf_of_er_eq dt (er_reindex sub.forest s.fresh)).2 hcs.1)
  obtain ⟨hp, hr⟩ := (cacheOKsf_iff dt _).1 hc.1
  refine cacheOK_updatePath_some dt _ s' nm hnd ?_ ?_ hup
  · exact (POK_mapRecs dt (renameBy _) (renameBy_dps _) (renameBy_p _) _).2
      (POK_graftAt dt pi _ hgp _ hp)
  · intro i hi
    exact (ROKx_mapRecs dt i (renameBy _) (renameBy_idx _) (renameBy_p _) (renameBy_r _) _).2
      (ROKx_graftAt dt pi i _ hgr (hstart i hi) _ hr)

/-- `add_subtree`, given `WFc` of the result (`cacheOK_addSub_in` needs it of the edited store only) -/
theorem cacheOK_addSub (dt : Data) (s sub s' : Store) (parent : Option Int) (hc : CacheOK dt s)
    (hcs : CacheOK dt sub) (hw' : WFc s') (h : s.addSubtree dt sub parent = some s') :
    CacheOK dt s' := by
  cases parent with
  | none => exact cacheOK_addSub_top dt s sub s' hc hcs h
  | some pn =>
    obtain ⟨pi, x, f1, pr, kk, _, _, hf1, hfs, hup⟩ := addSubtree_some h
    obtain ⟨hpri, hprm⟩ := findSub_spec pi _ pr kk hfs
    obtain ⟨i, hi, _, hs'⟩ := updatePath_some dt _ s' pr.name hup
    subst hs'
    refine cacheOK_grafted dt s sub _ pi f1 pr.name hf1 hc hcs ?_ ?_ hup
    · rw [← idxs_updPath dt i]
      exact hw'.idxs_nodup
    · intro j hj
      cases Option.some.inj (hj.symm.trans hi)
      -- the looked-up index is the graft point: name → index of the result is exact
      have hmem : (pr.name, pr.idx) ∈
          (updPath dt i (graftMid s sub f1).forest).1.recs.map fun n => (n.name, n.idx) := by
        rw [keys_updPath]
        exact List.mem_map_of_mem (f := fun n => (n.name, n.idx)) hprm
      obtain ⟨m, hm, hmeq⟩ := List.mem_map.1 hmem
      have h1 : m.name = pr.name := congrArg Prod.fst hmeq
      have h2 : m.idx = pr.idx := congrArg Prod.snd hmeq
      exact Or.inl ((hw'.lookup_idx m hm i (h1 ▸ hi)).trans (h2.trans hpri))

/-! ### indices after the graft -/

theorem idxs_graftAt_perm (i : Nat) (g : SF) (f : SF) (hnd : f.idxs.Nodup) (hi : i ∈ f.idxs) :
    (SF.graftAt i g f).idxs.Perm (g.idxs ++ f.idxs) := by
  have h := (SF.graftAt_perm g hnd hi).map (·.idx)
  rwa [List.map_append] at h

/-! ### `_relabel_grafted_subtree_nodes` -/

theorem relabelGrafted_cons (sub : Store) (n : NodeRec) (rest : List NodeRec) (fl : Int)
    (data : List (Int × List Nat)) (ni : List (Int × Nat)) (nir ren : List (Nat × Int)) :
    ∃ fl' nm, sub.relabelGrafted (n :: rest) fl data ni nir ren =
      sub.relabelGrafted rest fl' (alSet data nm (sub.dataOf n.name)) (alSet ni nm n.idx)
        (alSet nir n.idx nm) (ren ++ [(n.idx, nm)]) := ⟨_, _, rfl⟩

/-- the new name → index map sends a name to its old index or to a grafted index -/
theorem relabel_ni_lookup (sub : Store) (l : List NodeRec) : ∀ (fl : Int)
    (data : List (Int × List Nat)) (ni : List (Int × Nat)) (nir ren : List (Nat × Int)) (x : Int)
    (j : Nat), (sub.relabelGrafted l fl data ni nir ren).2.1.lookup x = some j →
    ni.lookup x = some j ∨ j ∈ l.map (·.idx) := by
  induction l with
  | nil => exact fun _ _ _ _ _ _ _ h => Or.inl h
  | cons n rest ih =>
    intro fl data ni nir ren x j h
    obtain ⟨fl', nm, e⟩ := relabelGrafted_cons sub n rest fl data ni nir ren
    rw [e] at h
    rcases ih _ _ _ _ _ x j h with h1 | h1
    · by_cases hx : x = nm
      · subst hx
        rw [AL.lookup_alSet_self] at h1
        cases h1
        exact Or.inr List.mem_cons_self
      · rw [AL.lookup_alSet_ne hx] at h1
        exact Or.inl h1
    · exact Or.inr (List.mem_cons_of_mem _ h1)

/-- the renaming only has grafted indices as keys -/
theorem relabel_ren_lookup (sub : Store) (l : List NodeRec) : ∀ (fl : Int)
    (data : List (Int × List Nat)) (ni : List (Int × Nat)) (nir ren : List (Nat × Int)) (x : Nat),
    ren.lookup x = none → x ∉ l.map (·.idx) →
    (sub.relabelGrafted l fl data ni nir ren).2.2.2.lookup x = none := by
  induction l with
  | nil => exact fun _ _ _ _ _ _ h _ => h
  | cons n rest ih =>
    intro fl data ni nir ren x h hx
    obtain ⟨fl', nm, e⟩ := relabelGrafted_cons sub n rest fl data ni nir ren
    rw [e]
    rw [List.map_cons, List.mem_cons, not_or] at hx
    apply ih _ _ _ _ _ x _ hx.2
    rw [List.lookup_append, h]
    have : (x == n.idx) = false := by simpa using hx.1
    simp [List.lookup_cons, this]

/-- **C06, `add_subtree`**, from well-formedness of the edited store only -/
theorem cacheOK_addSub_in (dt : Data) (s sub s' : Store) (parent : Option Int) (hw : WFc s)
    (hc : CacheOK dt s) (hcs : CacheOK dt sub) (h : s.addSubtree dt sub parent = some s') :
    CacheOK dt s' := by
  cases parent with
  | none => exact cacheOK_addSub_top dt s sub s' hc hcs h
  | some pn =>
    obtain ⟨pi, x, f1, pr, kk, _, hx, rfl, hfs, hup⟩ := addSubtree_some h
    obtain ⟨hxi, hxm⟩ := findSub_spec pi s.forest x.1 x.2 hx
    have hpim : pi ∈ s.forest.idxs := hxi ▸ mem_idxs_of_mem_recs hxm
    -- fresh indices
    have hgi := reindex_idxs sub.forest s.fresh
    have hfresh : ∀ j ∈ (Store.reindex sub.forest s.fresh).1.idxs, j ∉ s.forest.idxs := by
      intro j hj hj'
      rw [hgi, List.mem_range'_1] at hj
      have := le_maxIdx _ _ hj'
      unfold Store.fresh at hj
      omega
    have hnd1 : (SF.graftAt pi (Store.reindex sub.forest s.fresh).1 s.forest).idxs.Nodup := by
      rw [(idxs_graftAt_perm pi _ s.forest hw.idxs_nodup hpim).nodup_iff, List.nodup_append]
      exact ⟨hgi ▸ List.nodup_range', hw.idxs_nodup, fun a ha b hb e => hfresh a ha (e ▸ hb)⟩
    -- the payload at the graft point keeps its name
    change SF.findSub pi ((SF.graftAt pi _ s.forest).mapRecs (renameBy _)) = _ at hfs
    rw [findSub_mapRecs pi _ (renameBy_idx _), findSub_graftAt, hx] at hfs
    simp only [Option.map_some, Option.some.injEq, Prod.mk.injEq] at hfs
    have hpr_eq : pr = x.1 := by
      rw [← hfs.1]
      unfold renameBy
      rw [hxi, relabel_ren_lookup sub _ _ _ _ _ _ pi rfl (fun e => hfresh pi e hpim)]
    refine cacheOK_grafted dt s sub s' pi _ pr.name rfl hc hcs ?_ ?_ hup
    · show ((SF.graftAt pi _ s.forest).mapRecs (renameBy _)).idxs.Nodup
      rw [idxs_mapRecs _ (renameBy_idx _)]
      exact hnd1
    · intro i hi
      rcases relabel_ni_lookup sub _ _ _ _ _ _ _ _ hi with h1 | h1
      · rw [hpr_eq] at h1
        exact Or.inl ((hw.lookup_idx x.1 hxm i h1).trans hxi)
      · exact Or.inr h1

end PhyModel.Store.C06
