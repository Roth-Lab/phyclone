import Mathlib.Algebra.BigOperators.Group.Finset.Basic
import Mathlib.Algebra.BigOperators.Ring.Finset
import Mathlib.Algebra.BigOperators.Fin
import Mathlib.Algebra.Order.Field.Rat
import Mathlib.Data.Fintype.BigOperators
import Mathlib.Data.Fintype.Perm
import Mathlib.Logic.Equiv.Fin.Basic
import Mathlib.Tactic.Ring
import Mathlib.Tactic.Linarith
import Mathlib.Tactic.FieldSimp
import Mathlib.Algebra.Order.BigOperators.Group.Finset
import Mathlib.Algebra.BigOperators.Field
import Mathlib.Algebra.Order.BigOperators.Ring.Finset
/-! # Abstract conditional SMC: particle systems and the two moves of a sweep.

A particle system gives each of `m + 1` slots a state and an unnormalised weight; slot 0 carries the
retained path.  Propagation (`propS`: every slot proposes; `propC`: slot 0 moves to a prescribed child)
and conditional resampling (`resC`: slot 0 kept) are functionals on test functions.  Summing `propC`
over the retained child gives `propS` reweighted (`propC_sum`), and under an exchangeable linear
functional the ancestor sum with the ancestor of slot 0 fixed is `1/(m+1)` of the symmetric one
(`resample_symm`): these two facts turn the conditional sweep into a symmetric one. -/

open Finset

namespace ASMC

variable {X : Type} [Fintype X] [DecidableEq X] {m : ℕ}

/-- particle system: slot ↦ (state, unnormalised weight) -/
abbrev Sys (X : Type) (m : ℕ) := Fin (m+1) → X × ℚ

/-- what a conditional SMC sampler is run on: proposal `q`, unnormalised targets `g`, `parent` (the state
one level down, which determines the retained path), start state `x0`, resampling rule `rs` -/
structure Spec (X : Type) where
  q : ℕ → X → X → ℚ          -- proposal probability at step t
  g : ℕ → X → ℚ              -- unnormalised target at level t
  parent : X → X
  x0 : X
  rs : ℕ → (Fin (m+1) → ℚ) → Bool   -- resample decision before step t

/-- total weight of the system -/
def tot (S : Sys X m) : ℚ := ∑ i, (S i).2
/-- normalised weight of slot `i` -/
def wbar (S : Sys X m) (i : Fin (m+1)) : ℚ := (S i).2 / tot S
/-- the weights alone: the argument of `Spec.rs` -/
def wts (S : Sys X m) : Fin (m+1) → ℚ := fun i => (S i).2

/-- incremental weight `g_{t+1}(x') / (g_t(x) q_t(x,x'))` -/
def incr (sp : Spec (m := m) X) (t : ℕ) (x x' : X) : ℚ := sp.g (t+1) x' / (sp.g t x * sp.q t x x')

/-- new particle in a slot -/
def ext (sp : Spec (m := m) X) (t : ℕ) (p : X × ℚ) (y : X) : X × ℚ := (y, p.2 * incr sp t p.1 y)

/-- symmetric propagation: every slot proposes -/
def propS (sp : Spec (m := m) X) (t : ℕ) (S : Sys X m) (f : Sys X m → ℚ) : ℚ :=
  ∑ y : Fin (m+1) → X, (∏ i, sp.q t (S i).1 (y i)) * f (fun i => ext sp t (S i) (y i))

/-- conditional propagation: slot 0 moves deterministically to x' -/
def propC (sp : Spec (m := m) X) (t : ℕ) (x' : X) (S : Sys X m) (f : Sys X m → ℚ) : ℚ :=
  ∑ y : Fin m → X, (∏ i : Fin m, sp.q t (S i.succ).1 (y i)) *
    f (fun i => ext sp t (S i) ((Fin.cons x' y : Fin (m+1) → X) i))

theorem tot_perm (S : Sys X m) (σ : Equiv.Perm (Fin (m+1))) : tot (S ∘ σ) = tot S := by
  unfold tot
  exact Equiv.sum_comp σ (fun i => (S i).2)

theorem wbar_perm (S : Sys X m) (σ : Equiv.Perm (Fin (m+1))) (i) : wbar (S ∘ σ) i = wbar S (σ i) := by
  unfold wbar; rw [tot_perm]; rfl

theorem sum_comp_right {ι κ : Type} [Fintype ι] [DecidableEq ι] [Fintype κ] (ρ : Equiv.Perm ι)
    (F : (ι → κ) → ℚ) : ∑ b, F (b ∘ ρ) = ∑ b, F b :=
  Equiv.sum_comp (Equiv.arrowCongr ρ.symm (Equiv.refl κ)) F

theorem sum_comp_left {ι κ : Type} [Fintype ι] [DecidableEq ι] [Fintype κ] (τ : Equiv.Perm κ)
    (F : (ι → κ) → ℚ) : ∑ b, F (τ ∘ b) = ∑ b, F b :=
  Equiv.sum_comp (Equiv.arrowCongr (Equiv.refl ι) τ) F

theorem sum_prod_mul_congr {ι κ : Type} [Fintype ι] [Fintype κ] (a : κ → ι → ℚ)
    (ha : ∀ y i, 0 ≤ a y i) {F F' : κ → ℚ} (h : ∀ y, (∀ i, 0 < a y i) → F y = F' y) :
    ∑ y, (∏ i, a y i) * F y = ∑ y, (∏ i, a y i) * F' y := by
  refine Finset.sum_congr rfl fun y _ => ?_
  by_cases hz : ∀ i, 0 < a y i
  · rw [h y hz]
  · obtain ⟨i, hi⟩ := not_forall.mp hz
    rw [Finset.prod_eq_zero (mem_univ i) (le_antisymm (not_lt.mp hi) (ha y i)), zero_mul, zero_mul]

theorem propS_perm (sp : Spec (m := m) X) (t : ℕ) (S : Sys X m) (σ : Equiv.Perm (Fin (m+1)))
    (f : Sys X m → ℚ) :
    propS sp t (S ∘ σ) f = propS sp t S (fun T => f (T ∘ σ)) := by
  unfold propS
  rw [← sum_comp_right σ]
  refine Finset.sum_congr rfl fun y _ => ?_
  rw [← Equiv.prod_comp σ fun i => sp.q t (S i).1 (y i)]
  rfl

/-- summing conditional propagation over the retained child = symmetric propagation reweighted -/
theorem propC_sum (sp : Spec (m := m) X) (t : ℕ) (S : Sys X m) (f : Sys X m → ℚ) :
    ∑ x' : X, (sp.q t (S 0).1 x' * incr sp t (S 0).1 x') * propC sp t x' S f
      = propS sp t S (fun T => incr sp t (S 0).1 (T 0).1 * f T) := by
  unfold propS propC
  -- split y : Fin (m+1) → X as cons x' y'
  rw [← (Fin.consEquiv (fun _ : Fin (m+1) => X)).sum_comp]
  rw [Fintype.sum_prod_type]
  apply Finset.sum_congr rfl
  intro x' _
  rw [Finset.mul_sum]
  apply Finset.sum_congr rfl
  intro y _
  simp only [Fin.consEquiv_apply, Fin.prod_univ_succ, Fin.cons_zero, Fin.cons_succ, ext]
  ring

/-- linear functionals on test functions -/
structure Lin {α : Type} (F : (α → ℚ) → ℚ) : Prop where
  add : ∀ f g, F (fun a => f a + g a) = F f + F g
  smul : ∀ (c : ℚ) f, F (fun a => c * f a) = c * F f

namespace Lin
variable {α : Type} {F : (α → ℚ) → ℚ}

theorem zero (h : Lin F) : F (fun _ => 0) = 0 := by
  have := h.smul 0 (fun _ => 0)
  simpa using this

theorem sum {ι : Type} (h : Lin F) (s : Finset ι) (f : ι → α → ℚ) :
    F (fun a => ∑ i ∈ s, f i a) = ∑ i ∈ s, F (f i) := by
  classical
  induction s using Finset.induction_on with
  | empty => simpa using h.zero
  | insert i s hi ih =>
    simp only [Finset.sum_insert hi]
    rw [h.add, ih]

theorem smul_right (h : Lin F) (c : ℚ) (f : α → ℚ) : F (fun a => f a * c) = F f * c := by
  have := h.smul c f
  simp only [mul_comm c] at this
  exact this

theorem sum_mul {Y : Type} [Fintype Y] (hF : Lin F) (f : α → Y → ℚ) (h : Y → ℚ) :
    ∑ y, F (fun a => f a y) * h y = F (fun a => ∑ y, f a y * h y) := by
  rw [hF.sum]
  exact Finset.sum_congr rfl fun y _ => (hF.smul_right (h y) _).symm

/-- the shape of `propS`, `propC` and `resC` -/
theorem weighted {ι α : Type} [Fintype ι] (w : ι → ℚ) (p : ι → α) :
    Lin fun f : α → ℚ => ∑ i, w i * f (p i) :=
  ⟨fun f g => by simp only [mul_add, Finset.sum_add_distrib],
   fun c f => by simp only [Finset.mul_sum, mul_left_comm]⟩

theorem comp {β : Type} {F : (β → ℚ) → ℚ} (hF : Lin F) {G : β → (α → ℚ) → ℚ}
    (hG : ∀ b, Lin (G b)) : Lin fun f => F fun b => G b f :=
  ⟨fun f g => by simp only [(hG _).add, hF.add], fun c f => by simp only [(hG _).smul, hF.smul]⟩
end Lin

/-- `F` is exchangeable: invariant under relabelling the slots of the system it integrates over -/
def Exch (F : (Sys X m → ℚ) → ℚ) : Prop :=
  ∀ (σ : Equiv.Perm (Fin (m+1))) (h : Sys X m → ℚ), F (fun S => h (S ∘ σ)) = F h

/-- a resampled particle: state kept, weight set to `u` -/
def reset (u : ℚ) (p : X × ℚ) : X × ℚ := (p.1, u)

/-- summand of the unconstrained multinomial resampling (every slot, slot 0 included, draws an ancestor)
for the ancestor map `b` -/
def Fterm (u : ℚ) (f : Sys X m → ℚ) (S : Sys X m) (b : Fin (m+1) → Fin (m+1)) : ℚ :=
  (∏ j, wbar S (b j)) * f (fun j => reset u (S (b j)))

theorem Fterm_perm (u : ℚ) (f : Sys X m → ℚ) (τ : Equiv.Perm (Fin (m+1))) (S : Sys X m) (b) :
    Fterm u f (S ∘ τ) b = Fterm u f S (τ ∘ b) := by
  unfold Fterm
  simp only [wbar_perm, Function.comp]

/-- the ancestor sum restricted to maps that give slot 0 the ancestor `j` -/
def Gsum (u : ℚ) (f : Sys X m → ℚ) (S : Sys X m) (j : Fin (m+1)) : ℚ :=
  ∑ b ∈ (Finset.univ.filter fun b : Fin (m+1) → Fin (m+1) => b 0 = j), Fterm u f S b

theorem Gsum_swap (u : ℚ) (f : Sys X m → ℚ) (S : Sys X m) (j : Fin (m+1)) :
    Gsum u f (S ∘ (Equiv.swap 0 j)) 0 = Gsum u f S j := by
  unfold Gsum
  simp only [Fterm_perm, Finset.sum_filter]
  rw [← sum_comp_left (Equiv.swap 0 j) fun b => if b 0 = j then Fterm u f S b else 0]
  refine Finset.sum_congr rfl fun b _ => ?_
  simp only [Function.comp, Equiv.swap_apply_eq_iff, Equiv.swap_apply_right]

theorem Gsum_total (u : ℚ) (f : Sys X m → ℚ) (S : Sys X m) :
    ∑ j, Gsum u f S j = ∑ b : Fin (m+1) → Fin (m+1), Fterm u f S b := by
  unfold Gsum
  rw [Finset.sum_fiberwise]

theorem Exch.sum_swap {F : (Sys X m → ℚ) → ℚ} (hex : Exch F) (hlin : Lin F)
    (A : Fin (m+1) → Sys X m → ℚ) :
    F (fun S => ∑ k, A k (S ∘ Equiv.swap 0 k)) = F (fun S => ∑ k, A k S) := by
  rw [hlin.sum, hlin.sum]
  exact Finset.sum_congr rfl fun k _ => hex (Equiv.swap 0 k) (A k)

theorem Exch.sum_swap_const {F : (Sys X m → ℚ) → ℚ} (hex : Exch F) (hlin : Lin F) (A : Sys X m → ℚ) :
    F (fun S => ∑ k : Fin (m+1), A (S ∘ Equiv.swap 0 k)) = ((m : ℚ) + 1) * F A := by
  rw [hex.sum_swap hlin fun _ => A, ← hlin.smul]
  simp only [Finset.sum_const, Finset.card_univ, Fintype.card_fin, nsmul_eq_mul, Nat.cast_add, Nat.cast_one]

/-- the slot-0-constrained ancestor sum is 1/(m+1) of the symmetric sum, under an exchangeable
linear functional and a symmetric multiplier `c` (the adaptive-resampling indicator). -/
theorem resample_symm (F : (Sys X m → ℚ) → ℚ) (hlin : Lin F) (hex : Exch F)
    (c : Sys X m → ℚ) (hc : ∀ (σ : Equiv.Perm (Fin (m+1))) S, c (S ∘ σ) = c S)
    (u : ℚ) (f : Sys X m → ℚ) :
    ((m : ℚ) + 1) * F (fun S => c S * Gsum u f S 0)
      = F (fun S => c S * ∑ b : Fin (m+1) → Fin (m+1), Fterm u f S b) := by
  rw [← hex.sum_swap_const hlin]
  congr 1
  funext S
  simp only [hc, Gsum_swap, ← Finset.mul_sum, Gsum_total]

theorem full_sum_perm (u : ℚ) (f : Sys X m → ℚ) (ρ : Equiv.Perm (Fin (m+1))) (S : Sys X m) :
    ∑ b : Fin (m+1) → Fin (m+1), Fterm u (fun T => f (T ∘ ρ)) S b
      = ∑ b : Fin (m+1) → Fin (m+1), Fterm u f S b := by
  refine Eq.trans (Finset.sum_congr rfl fun b _ => ?_) (sum_comp_right ρ fun b => Fterm u f S b)
  unfold Fterm
  rw [← Equiv.prod_comp ρ fun j => wbar S (b j)]
  rfl

/-- the symmetric ancestor sum `∑ b, Fterm u f S b` does not change when the slots of `S` are permuted -/
theorem full_sum_perm_in (u : ℚ) (f : Sys X m → ℚ) (τ : Equiv.Perm (Fin (m+1))) (S : Sys X m) :
    ∑ b : Fin (m+1) → Fin (m+1), Fterm u f (S ∘ τ) b
      = ∑ b : Fin (m+1) → Fin (m+1), Fterm u f S b := by
  simp only [Fterm_perm]
  exact sum_comp_left τ fun b => Fterm u f S b

/-- conditional resampling: slot 0 kept, other slots draw ancestors from the normalised weights -/
def resC (u : ℚ) (S : Sys X m) (f : Sys X m → ℚ) : ℚ :=
  ∑ a : Fin m → Fin (m+1), (∏ i, wbar S (a i)) *
    f (fun j => reset u (S ((Fin.cons 0 a : Fin (m+1) → Fin (m+1)) j)))

theorem resC_congr {u : ℚ} {S : Sys X m} {f f' : Sys X m → ℚ}
    (h : ∀ b : Fin (m+1) → Fin (m+1), b 0 = 0 →
      f (fun j => reset u (S (b j))) = f' (fun j => reset u (S (b j)))) :
    resC u S f = resC u S f' :=
  -- `Fin.cons_zero` by name: left to `rfl`, reducing `Fin.cons 0 a 0` is very slow
  Finset.sum_congr rfl fun a _ => congrArg _ (h _ (Fin.cons_zero (α := fun _ => Fin (m+1)) 0 a))

theorem resC_eq_Gsum (u : ℚ) (S : Sys X m) (f : Sys X m → ℚ) :
    wbar S 0 * resC u S f = Gsum u f S 0 := by
  unfold resC Gsum Fterm
  -- split the ancestor map `b` as `cons (b 0) a`; only `b 0 = 0` contributes
  rw [Finset.mul_sum, Finset.sum_filter, ← (Fin.consEquiv fun _ : Fin (m+1) => Fin (m+1)).sum_comp,
    Fintype.sum_prod_type, Finset.sum_eq_single (0 : Fin (m+1))]
  · refine Finset.sum_congr rfl fun a _ => ?_
    simp only [Fin.consEquiv_apply, Fin.cons_zero, if_true, Fin.prod_univ_succ, Fin.cons_succ]
    ring
  · intro j _ hj
    exact Finset.sum_eq_zero fun a _ => by simp only [Fin.consEquiv_apply, Fin.cons_zero, if_neg hj]
  · exact fun h => absurd (mem_univ _) h

#print axioms resample_symm
#print axioms resC_eq_Gsum

end ASMC
