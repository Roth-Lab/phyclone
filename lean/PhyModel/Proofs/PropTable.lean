import PhyModel.Proofs.PropCanon
import PhyModel.Proofs.PropChoose
/-! Normal forms of `placements` and of the three proposal tables, and the
normalised categorical distribution. -/

namespace PhyModel
open Proposal

namespace Proposal
/-- the placement of data point `i` into the `j`-th top-level clone of the parent `p` -/
def exT (p : T) (i j : ℕ) : T := T.mk' (Orders.Forest.ofRoots (addAt i j p.f.roots)) p.out
/-- the placement of `i` in a new top-level clone that adopts the roots `cr.1`; `cr.2` stay top-level -/
def newT (p : T) (i : ℕ) (cr : List (List ℕ × DF) × List (List ℕ × DF)) : T :=
  T.mk' (Orders.Forest.ofRoots (([i], Orders.Forest.ofRoots cr.1) :: cr.2)) p.out
/-- the placement of `i` among the outliers -/
def outT (p : T) (i : ℕ) : T := T.mk' p.f (p.out ++ [i])
end Proposal

theorem placements_eq (p : T) (i : ℕ) :
    placements p i
      = (List.range p.f.roots.length).map (fun j => (Kind.existing j, exT p i j))
        ++ (splits p.f.roots).map (fun cr => (Kind.newNode cr.1.length, newT p i cr))
        ++ [(Kind.outlier, outT p i)] := by
  rfl

theorem table_bootstrap (dt : Data) (c : Cfg) (first : Bool) (p : T) (i : ℕ) (hk : c.kind = .bootstrap) :
    table dt c first p i
      = (List.range p.f.roots.length).map (fun j => (exT p i j, (1 - c.op) / 2 / (p.f.roots.length : ℚ)))
        ++ (splits p.f.roots).map (fun cr => (newT p i cr,
              if first || p.f.roots.length = 0 then 1 - c.op
              else (1 - c.op) / 2 / ((p.f.roots.length : ℚ) + 1) / binom p.f.roots.length cr.1.length))
        ++ (if c.op ≠ 0 then [(outT p i, c.op)] else []) := by
  -- here and in the three theorems below: `table` applies `filter` / `filterMap` by `Kind` to `placements`;
  -- after `placements_eq` these distribute over the three blocks and are decided on each block, leaving only
  -- the condition `c.op ≠ 0` on the outlier singleton
  unfold table
  rw [placements_eq]
  simp only [hk, numRoots_eq, List.filterMap_append, List.filterMap_map, Function.comp_def, List.filterMap_cons, List.filterMap_nil,
    bne_iff_ne, ne_eq, List.filterMap_eq_map']
  by_cases hc : (first || decide (p.f.roots.length = 0)) = true <;> by_cases ho : c.op = 0 <;>
    simp only [hc, ho, not_true_eq_false, not_false_eq_true, Bool.false_eq_true, if_true, if_false,
      List.filterMap_eq_map']

namespace Proposal
/-- candidate list with marginal-density weights -/
def wts (dt : Data) (c : Cfg) (l : List T) : List (T × ℚ) := l.map fun t => (t, pMargT dt c t)
/-- the trees of the first block of `placements p i` -/
def exL (p : T) (i : ℕ) : List T := (List.range p.f.roots.length).map (exT p i)
/-- the trees of the second block of `placements p i` -/
def newL (p : T) (i : ℕ) : List T := (splits p.f.roots).map (newT p i)
/-- the outlier placement, absent when outlier modelling is off (`c.op = 0`) -/
def outL (c : Cfg) (p : T) (i : ℕ) : List T := if c.op ≠ 0 then [outT p i] else []
end Proposal

theorem table_full (dt : Data) (c : Cfg) (first : Bool) (p : T) (i : ℕ) (hk : c.kind = .full) :
    table dt c first p i = Dist.categorical (wts dt c (exL p i ++ newL p i ++ outL c p i)) := by
  unfold table
  rw [placements_eq]
  simp only [hk, wts, exL, newL, outL, List.filter_append, List.map_append, List.filter_map, List.map_map,
    Function.comp_def, List.filter_true, List.filter_cons, List.filter_nil, bne_iff_ne, ne_eq]
  split <;> rfl

theorem table_semi0 (dt : Data) (c : Cfg) (first : Bool) (p : T) (i : ℕ) (hk : c.kind = .semi)
    (hr : p.f.roots.length = 0) :
    table dt c first p i = Dist.categorical (wts dt c (newL p i ++ outL c p i)) := by
  unfold table
  rw [placements_eq]
  simp only [hk, numRoots_eq, hr, if_true, wts, newL, outL, List.filter_append, List.map_append, List.filter_map,
    List.map_map, Function.comp_def, List.filter_true, List.filter_false, List.filter_cons, List.filter_nil,
    List.map_nil, List.nil_append, bne_iff_ne, ne_eq]
  split <;> rfl

theorem table_semi (dt : Data) (c : Cfg) (first : Bool) (p : T) (i : ℕ) (hk : c.kind = .semi)
    (hr : p.f.roots.length ≠ 0) :
    table dt c first p i
      = Dist.scale (1 / 2) (Dist.categorical (wts dt c (exL p i ++ outL c p i)))
        ++ (splits p.f.roots).map (fun cr => (newT p i cr,
              (1 : ℚ) / 2 / ((p.f.roots.length : ℚ) + 1) / binom p.f.roots.length cr.1.length)) := by
  unfold table
  rw [placements_eq]
  simp only [hk, numRoots_eq, hr, if_false, wts, exL, outL, List.filter_append, List.map_append, List.filter_map,
    List.map_map, List.filterMap_append, List.filterMap_map, Function.comp_def, List.filter_true, List.filter_false,
    List.filter_cons, List.filter_nil, List.map_nil, List.append_nil, List.nil_append, bne_iff_ne, ne_eq,
    List.filterMap_cons, List.filterMap_nil, List.filterMap_eq_map', List.filterMap_none]
  split <;> rfl

/-! ### the categorical distribution -/

theorem lsum_wts (dt : Data) (c : Cfg) (L : List T) (F : T × ℚ → ℚ) :
    lsum (wts dt c L) F = lsum L (fun t => F (t, pMargT dt c t)) := by
  unfold wts; rw [lsum_map]

theorem categorical_wts (dt : Data) (c : Cfg) (L : List T) :
    Dist.categorical (wts dt c L)
      = L.map (fun t => (t, pMargT dt c t / lsum L (pMargT dt c))) := by
  rw [Dist.categorical_eq, lsum_wts]
  unfold wts
  rw [List.map_map]
  rfl

theorem E_categorical_wts (dt : Data) (c : Cfg) (L : List T) (h : T → ℚ) :
    Dist.E (Dist.categorical (wts dt c L)) h
      = lsum L (fun t => pMargT dt c t * h t) / lsum L (pMargT dt c) := by
  rw [Dist.E_categorical, lsum_wts, lsum_wts]

theorem tsum_categorical_wts (dt : Data) (c : Cfg) (L : List T) (hne : lsum L (pMargT dt c) ≠ 0) :
    lsum (Dist.categorical (wts dt c L)) (fun tq => tq.2) = 1 := by
  rw [categorical_wts, lsum_map]
  simp only [div_eq_mul_inv]
  rw [lsum_mul_right, mul_inv_cancel₀ hne]

theorem newL_ne_nil (p : T) (i : ℕ) : newL p i ≠ [] := by
  unfold newL
  simp only [ne_eq, List.map_eq_nil_iff]
  exact splits_ne_nil _

/-- every candidate tree is (the tree of) a placement -/
theorem mem_cands (c : Cfg) (p : T) (i : ℕ) (t : T) (ht : t ∈ exL p i ++ newL p i ++ outL c p i) :
    ∃ kt ∈ placements p i, kt.2 = t := by
  rw [placements_eq]
  rcases List.mem_append.1 ht with ht | ht
  · rcases List.mem_append.1 ht with ht | ht
    · obtain ⟨j, hj, rfl⟩ := List.mem_map.1 ht
      exact ⟨_, List.mem_append_left _ (List.mem_append_left _ (List.mem_map_of_mem hj)), rfl⟩
    · obtain ⟨cr, hcr, rfl⟩ := List.mem_map.1 ht
      exact ⟨_, List.mem_append_left _ (List.mem_append_right _ (List.mem_map_of_mem hcr)), rfl⟩
  · rw [outL] at ht
    split at ht
    · exact ⟨_, List.mem_append_right _ List.mem_cons_self, (List.mem_singleton.1 ht).symm⟩
    · exact absurd ht List.not_mem_nil

end PhyModel
