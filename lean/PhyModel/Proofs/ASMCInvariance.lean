import PhyModel.Proofs.ASMCExch
/-! # The final draw of conditional SMC: plain, after a resampling step, with corrected weights.

`AbstractSMCSampler.sample` resamples the swarm after `_init_swarm`; with a single data point that is
the last thing it does before the final draw.  `kernelR` is the conditional-SMC kernel whose final
selection is preceded by "resample if the rule fires" (slot 0 kept, the other slots drawn from the
normalised weights, all weights reset to `u`); `kernelX` is the code's schedule: `kernelR` for a single
step, `kernel` otherwise.

`ParticleGibbsSubtreeSampler` runs the conditional SMC on a subtree, targeting the subtree's own
density, and multiplies every particle weight by `h(x) = pOne(full tree with x grafted back) / pOne(x)`
(`_correct_weights`) before the final draw.  Abstractly: after the `T` steps of the sweep of `sp` the
weights `w_k` are replaced by `w_k · h(x_k)` (`corr`) and the selection is proportional to those
(`selH`).  `kernelH` is that kernel; `kernelRH` is the kernel with the code's single-data-point
schedule — resample if the rule fires **on the uncorrected weights** (slot 0 kept, all weights reset to
`u`), then correct, then select; `kernelXH` is "`kernelRH` if `T = 1`, else `kernelH`" (what
`SMC.csmc` followed by the corrected draw does).

All of them leave their target invariant.  The corrected kernels are treated first, for every `h`
positive on the support of `g T` (`csmc_corrected_invariant`, `csmc_corrected_invariant_final_resample`,
`csmc_corrected_invariant_X`: the target is `g T · h`); the uncorrected ones are the case `h = 1`
(`csmc_invariant_to`, `csmc_invariant_final_resample`, `csmc_invariant_X`).  `kernelH` is also the plain
kernel of the specification whose last-level target is `g T · h` (`kernelH_eq_kernel_withH`): the
adaptive resampling decisions of the steps `t < T` only see the weights of the levels `< T`. -/

open Finset

namespace ASMC

variable {X : Type} [Fintype X] [DecidableEq X] {m : ℕ}
variable {sp : Spec (m := m) X} {u : ℚ}

variable (sp) (u) in
/-- resample if the rule of step `T` fires, then pick a slot in proportion to the weights -/
def selR (T : ℕ) (S : Sys X m) (y : X) : ℚ :=
  if sp.rs T (wts S) then resC u S (fun S' => sel S' y) else sel S y

variable (sp) (u) in
/-- the conditional-SMC kernel with a final resampling step -/
def kernelR (T : ℕ) (x y : X) : ℚ := C sp u T x (fun S => selR sp u T S y)

/-- indicator that the retained slot holds `y` -/
def ind0 (y : X) (S : Sys X m) : ℚ := if (S 0).1 = y then 1 else 0

variable (sp) (u) in
/-- the kernel of `AbstractSMCSampler.sample` as scheduled in the code: the resampling step that follows
`_init_swarm` is the last thing before the final draw exactly when there is a single step -/
def kernelX (T : ℕ) (x y : X) : ℚ := if T = 1 then kernelR sp u T x y else kernel sp u T x y

/-- the weight correction: every weight is multiplied by `h` of the particle's state -/
def corr (h : X → ℚ) (S : Sys X m) : Sys X m := fun i => ((S i).1, (S i).2 * h (S i).1)

theorem corr_perm (h : X → ℚ) (S : Sys X m) (σ : Equiv.Perm (Fin (m+1))) :
    corr h (S ∘ σ) = corr h S ∘ σ := rfl

/-- selection proportional to the corrected weights -/
def selH (h : X → ℚ) (S : Sys X m) (y : X) : ℚ := sel (corr h S) y

variable (sp) (u) in
/-- "resample if the rule of step `T` fires" in front of a final functional `f` -/
def finR (T : ℕ) (f : Sys X m → ℚ) (S : Sys X m) : ℚ :=
  if sp.rs T (wts S) then resC u S f else f S

variable (sp) (u) in
/-- the law of the final particle system under the schedule of `AbstractSMCSampler.sample`, as a
functional: with a single step the swarm is resampled (if the rule fires) after the step -/
def CX (T : ℕ) (x : X) (f : Sys X m → ℚ) : ℚ :=
  if T = 1 then C sp u T x (finR sp u T f) else C sp u T x f

theorem kernelX_eq_CX (T : ℕ) (x y : X) : kernelX sp u T x y = CX sp u T x (fun S => sel S y) := rfl

variable (sp) (u) in
/-- conditional SMC, final draw proportional to the corrected weights -/
def kernelH (h : X → ℚ) (T : ℕ) (x y : X) : ℚ := C sp u T x (fun S => selH h S y)

variable (sp) (u) in
/-- conditional SMC; resample if the rule fires on the uncorrected weights; correct; draw -/
def kernelRH (h : X → ℚ) (T : ℕ) (x y : X) : ℚ := C sp u T x (finR sp u T (fun S => selH h S y))

variable (sp) (u) in
/-- the corrected kernel under the schedule `CX` of `AbstractSMCSampler.sample`: `kernelRH` if `T = 1`, else
`kernelH` (`kernelXH_eq`) -/
def kernelXH (h : X → ℚ) (T : ℕ) (x y : X) : ℚ := CX sp u T x (fun S => selH h S y)

theorem kernelXH_eq (h : X → ℚ) (T : ℕ) (x y : X) :
    kernelXH sp u h T x y = if T = 1 then kernelRH sp u h T x y else kernelH sp u h T x y := rfl

theorem corr_good {t : ℕ} {h : X → ℚ} (hh : ∀ x, 0 < sp.g t x → 0 < h x) {S : Sys X m}
    (hS : GoodW sp t S) : GoodW sp t (corr h S) :=
  fun i => ⟨Rat.mul_pos (hS i).1 (hh _ (hS i).2), (hS i).2⟩

/-- marginal of one coordinate of a product of normalised weights -/
theorem marg_one {n : ℕ} (w : Fin (m+1) → ℚ) (hw : ∑ k, w k = 1) (i : Fin n) (φ : Fin (m+1) → ℚ) :
    ∑ a : Fin n → Fin (m+1), (∏ j, w (a j)) * φ (a i) = ∑ k, w k * φ k := by
  have h := Fintype.prod_sum fun (j : Fin n) k => w k * (if j = i then φ k else 1)
  rw [Finset.prod_eq_single i (fun j _ hj => by simp only [if_neg hj, mul_one, hw])
    (fun h' => absurd (mem_univ _) h')] at h
  simp only [if_true] at h
  rw [h]
  refine Finset.sum_congr rfl fun a _ => ?_
  rw [Finset.prod_mul_distrib, Finset.prod_ite_eq' univ i fun j => φ (a j), if_pos (mem_univ i)]

/-- slot 0 holds the retained state -/
theorem M_ind0 {T : ℕ} (hv : ValidTo sp T) (hu : 0 < u) (y : X) :
    M sp u T (fun S => ind0 y S) = sp.g T y := by
  unfold M
  rw [hv.sum_g_congr T (b := fun x => if x = y then 1 else 0) fun x hx => by
    rw [C_congr hv hu T x le_rfl hx (f' := fun _ => if x = y then 1 else 0)
      fun S hS => by rw [ind0, hS.1], C_const hv hu T x le_rfl hx]]
  simp only [mul_ite, mul_one, mul_zero, Finset.sum_ite_eq', Finset.mem_univ, if_true]

/-- the `k`-th summand of `h (slot 0) · selH h · y`, read with the slots `k` and 0 exchanged -/
def selTerm (h : X → ℚ) (y : X) (k : Fin (m+1)) (S : Sys X m) : ℚ :=
  h (S k).1 * (wbar (corr h S) 0 * ind0 y S)

theorem selH_slots (h : X → ℚ) (y : X) (S : Sys X m) :
    h (S 0).1 * selH h S y = ∑ k, selTerm h y k (S ∘ Equiv.swap 0 k) := by
  unfold selH sel
  rw [Finset.mul_sum]
  refine Finset.sum_congr rfl fun k _ => ?_
  simp only [selTerm, ind0, corr_perm, wbar_perm, Function.comp, Equiv.swap_apply_left,
    Equiv.swap_apply_right]
  rfl

/-- `∑ₖ h(xₖ) wₖ` is the total corrected weight, which cancels the normalisation of the corrected
weight of slot 0 -/
theorem selTerm_sum {t : ℕ} {h : X → ℚ} (hh : ∀ x, 0 < sp.g t x → 0 < h x) {S : Sys X m}
    (hS : GoodW sp t S) (y : X) :
    ∑ k, selTerm h y k S * wbar S k = h y * ind0 y S * wbar S 0 := by
  have htotH : tot (corr h S) ≠ 0 := ne_of_gt (tot_pos (corr_good hh hS))
  have key : ∑ k, h (S k).1 * wbar S k = tot (corr h S) / tot S := by
    unfold wbar tot corr
    rw [Finset.sum_div]
    exact Finset.sum_congr rfl fun k _ => by ring
  simp only [selTerm, mul_right_comm _ (wbar (corr h S) 0 * ind0 y S)]
  rw [← Finset.sum_mul, key]
  unfold ind0
  by_cases hy : (S 0).1 = y
  · have : wbar (corr h S) 0 = (S 0).2 * h y / tot (corr h S) := by
      unfold wbar corr; simp only [hy]
    -- `tot_h / tot · (w₀ · h y / tot_h) = h y · (w₀ / tot)`
    rw [this, if_pos hy, mul_one, mul_one, div_mul_div_comm, mul_comm (tot (corr h S)),
      mul_div_mul_right _ _ htotH, mul_comm (S 0).2, mul_div_assoc]
    rfl
  · rw [if_neg hy, mul_zero, mul_zero, mul_zero, zero_mul]

/-- after a resampling step all weights are equal, and the summands themselves add up -/
theorem selTerm_sum_reset {t : ℕ} {h : X → ℚ} (hh : ∀ x, 0 < sp.g t x → 0 < h x) (hu : 0 < u)
    {S : Sys X m} (hS : GoodW sp t S) (b : Fin (m+1) → Fin (m+1)) (y : X) :
    ∑ k, selTerm h y k (fun j => reset u (S (b j))) = h y * if (S (b 0)).1 = y then 1 else 0 := by
  have hR := reset_good hu hS b
  have h0 : wbar (fun j => reset u (S (b j))) 0 ≠ 0 := ne_of_gt (div_pos (hR 0).1 (tot_pos hR))
  refine mul_right_cancel₀ h0 ?_
  rw [Finset.sum_mul]
  exact selTerm_sum hh hR y

/-- **exchangeability, used with corrected weights**: under the level-`T` law weighted by a
slot-symmetric factor `c` and by `h` of the retained state, the selection proportional to the corrected
weights may be replaced by "look at slot 0" -/
theorem M_selH_symm {T : ℕ} (hv : ValidTo sp T) (hu : 0 < u) {h : X → ℚ}
    (hh : ∀ x, 0 < sp.g T x → 0 < h x) (c : Sys X m → ℚ)
    (hc : ∀ (σ : Equiv.Perm (Fin (m+1))) S, c (S ∘ σ) = c S) (y : X) :
    M sp u T (fun S => c S * (h (S 0).1 * selH h S y))
      = M sp u T (fun S => c S * (h y * ind0 y S)) := by
  have hlin := PhiM_lin (sp := sp) (u := u) T
  have hex := PhiM_exch (sp := sp) (u := u) hv hu T (le_refl T)
  rw [← PhiM_wbar0 hv hu, ← PhiM_wbar0 hv hu]
  -- slot by slot, the `k`-th summand read with slot `k` in place of slot 0
  refine (congrArg (PhiM sp u T) (funext fun S => ?_)).trans
    ((hex.sum_swap hlin fun k S => c S * selTerm h y k S * wbar S k).trans ?_)
  · simp only [selH_slots, hc, wbar_perm, Equiv.swap_apply_right, Finset.mul_sum, Finset.sum_mul]
  · refine PhiM_congr hv hu T (le_refl T) fun S hS => ?_
    simp only [mul_assoc (c S)]
    rw [← Finset.mul_sum, selTerm_sum hh hS]

/-- `M_selH_symm` with the swarm resampled on the uncorrected weights before the corrected selection.
Plan, with `f S' = h (S' 0).1 * selH h S' y`: `h (S 0).1` goes inside `resC` and, in the size-biased form
`PhiM`, the left side is `PhiM (c · Gsum u f · 0)` (`s1`); by `resample_symm` that is `1/(m+1)` of `PhiM` of
`c` times the symmetric ancestor sum of `f` (`s4`), which collapses to `h y * sel S y` (`s2`, `s5`);
exchangeability of `PhiM` once more replaces `sel S y` by `m + 1` times `ind0 y S` (`s3`); cancel `m + 1`. -/
theorem M_resH_symm {T : ℕ} (hv : ValidTo sp T) (hu : 0 < u) {h : X → ℚ}
    (hh : ∀ x, 0 < sp.g T x → 0 < h x) (c : Sys X m → ℚ)
    (hc : ∀ (σ : Equiv.Perm (Fin (m+1))) S, c (S ∘ σ) = c S) (y : X) :
    M sp u T (fun S => c S * (h (S 0).1 * resC u S (fun S' => selH h S' y)))
      = M sp u T (fun S => c S * (h y * ind0 y S)) := by
  have hlin := PhiM_lin (sp := sp) (u := u) T
  have hex := PhiM_exch (sp := sp) (u := u) hv hu T (le_refl T)
  have hm : ((m : ℚ) + 1) ≠ 0 := Nat.cast_add_one_ne_zero m
  let f : Sys X m → ℚ := fun S' => h (S' 0).1 * selH h S' y
  -- `h` of the retained state goes inside the resampling (slot 0 is kept); size-biased form
  have s1 : M sp u T (fun S => c S * (h (S 0).1 * resC u S (fun S' => selH h S' y)))
      = PhiM sp u T (fun S => c S * Gsum u f S 0) := by
    rw [← PhiM_wbar0 hv hu]
    congr 1; funext S
    have e : h (S 0).1 * resC u S (fun S' => selH h S' y) = resC u S f :=
      ((resC_lin S).smul _ _).symm.trans (resC_congr fun b hb => by simp only [f, reset, hb])
    rw [e, ← resC_eq_Gsum]
    ring
  -- the symmetric ancestor sum of the corrected selection: slot by slot, with the ancestor of slot `k`
  -- in place of that of slot 0; what remains is the marginal of the ancestor of slot 0
  have s2 : ∀ S : Sys X m, GoodW sp T S →
      ∑ b : Fin (m+1) → Fin (m+1), Fterm u f S b = h y * sel S y := by
    intro S hS
    have hexS : Exch fun G => ∑ b : Fin (m+1) → Fin (m+1), Fterm u G S b :=
      fun ρ G => full_sum_perm u G ρ S
    have hlinS : Lin fun G => ∑ b : Fin (m+1) → Fin (m+1), Fterm u G S b :=
      Lin.weighted (fun b : Fin (m+1) → Fin (m+1) => ∏ j, wbar S (b j)) fun b j => reset u (S (b j))
    simp only [f, selH_slots]
    rw [hexS.sum_swap hlinS (selTerm h y)]
    simp only [Fterm, selTerm_sum_reset hh hu hS]
    rw [marg_one (n := m+1) (fun k => wbar S k) (wbar_sum hS) 0
      fun k => h y * if (S k).1 = y then 1 else 0]
    unfold sel
    rw [Finset.mul_sum]
    exact Finset.sum_congr rfl fun k _ => mul_left_comm _ _ _
  have s3 : PhiM sp u T (fun S => c S * (h y * sel S y))
      = ((m : ℚ) + 1) * M sp u T (fun S => c S * (h y * ind0 y S)) := by
    rw [← PhiM_wbar0 hv hu, ← hex.sum_swap_const hlin]
    congr 1; funext S
    simp only [hc, wbar_perm, ind0, Function.comp, Equiv.swap_apply_left, sel, Finset.mul_sum]
    exact Finset.sum_congr rfl fun k _ => by ring
  have s4 := resample_symm (PhiM sp u T) hlin hex c hc u f
  have s5 : PhiM sp u T (fun S => c S * ∑ b : Fin (m+1) → Fin (m+1), Fterm u f S b)
      = PhiM sp u T (fun S => c S * (h y * sel S y)) :=
    PhiM_congr hv hu T (le_refl T) fun S hS => by rw [s2 S hS]
  rw [s5, s3] at s4
  rw [s1]
  exact mul_left_cancel₀ hm s4

/-- `h` of the retained state may be moved inside the law of the system -/
theorem sum_gh_C {T : ℕ} (hv : ValidTo sp T) (hu : 0 < u) (h : X → ℚ) (F : Sys X m → ℚ) :
    ∑ x, (sp.g T x * h x) * C sp u T x F = M sp u T (fun S => h (S 0).1 * F S) := by
  unfold M
  rw [hv.sum_g_congr T (b := fun x => h x * C sp u T x F) fun x hx => by
    rw [C_congr hv hu T x le_rfl hx (f' := fun S => h x * F S) fun S hS => by rw [hS.1],
      (C_lin T x).smul]]
  simp only [mul_assoc]

/-- **Conditional SMC with corrected final weights leaves `g T · h` invariant**, for every number of
particles, every number of steps, every symmetric adaptive rule, every `u > 0` and every `h` that is
positive on the support of `g T`. -/
theorem csmc_corrected_invariant {T : ℕ} (hv : ValidTo sp T) (hu : 0 < u) {h : X → ℚ}
    (hh : ∀ x, 0 < sp.g T x → 0 < h x) (y : X) :
    ∑ x, (sp.g T x * h x) * kernelH sp u h T x y = sp.g T y * h y := by
  unfold kernelH
  rw [sum_gh_C hv hu]
  have := M_selH_symm hv hu hh (fun _ => 1) (fun _ _ => rfl) y
  simp only [one_mul] at this
  rw [this, (M_lin T).smul, M_ind0 hv hu]
  ring

/-- **Conditional SMC with corrected final weights leaves `g T · h` invariant also when the swarm is
resampled (on the uncorrected weights, if the rule fires) between the last step and the correction**,
which is the code's schedule for a single data point. -/
theorem csmc_corrected_invariant_final_resample {T : ℕ} (hv : ValidTo sp T) (hu : 0 < u) {h : X → ℚ}
    (hh : ∀ x, 0 < sp.g T x → 0 < h x) (y : X) :
    ∑ x, (sp.g T x * h x) * kernelRH sp u h T x y = sp.g T y * h y := by
  unfold kernelRH
  rw [sum_gh_C hv hu]
  have e0 : (fun S : Sys X m => h (S 0).1 * finR sp u T (fun S' => selH h S' y) S)
      = fun S => c1 sp T S * (h (S 0).1 * resC u S (fun S' => selH h S' y))
          + (1 - c1 sp T S) * (h (S 0).1 * selH h S y) := by
    funext S
    rw [finR, ite_rs]
    ring
  have hsym : ∀ (σ : Equiv.Perm (Fin (m+1))) (S : Sys X m), 1 - c1 sp T (S ∘ σ) = 1 - c1 sp T S := by
    intro σ S; rw [c1_perm hv]
  rw [e0, (M_lin T).add, M_resH_symm hv hu hh (c1 sp T) (c1_perm hv T) y,
    M_selH_symm hv hu hh (fun S => 1 - c1 sp T S) hsym y, ← (M_lin T).add]
  have : (fun S : Sys X m => c1 sp T S * (h y * ind0 y S) + (1 - c1 sp T S) * (h y * ind0 y S))
      = fun S => h y * ind0 y S := by funext S; ring
  rw [this, (M_lin T).smul, M_ind0 hv hu]
  ring

/-- **The corrected kernel under the schedule of `AbstractSMCSampler.sample` (`kernelXH`) leaves `g T · h`
invariant**: the two branches of `kernelXH_eq` are the two theorems above. -/
theorem csmc_corrected_invariant_X {T : ℕ} (hv : ValidTo sp T) (hu : 0 < u) {h : X → ℚ}
    (hh : ∀ x, 0 < sp.g T x → 0 < h x) (y : X) :
    ∑ x, (sp.g T x * h x) * kernelXH sp u h T x y = sp.g T y * h y := by
  simp only [kernelXH_eq]
  split
  · exact csmc_corrected_invariant_final_resample hv hu hh y
  · exact csmc_corrected_invariant hv hu hh y

/-! ### the uncorrected kernels: `h = 1` -/

theorem selH_one (S : Sys X m) (y : X) : selH (fun _ => 1) S y = sel S y := by
  have : corr (fun _ => (1 : ℚ)) S = S := funext fun i => Prod.ext rfl (mul_one _)
  rw [selH, this]

/-- **Conditional SMC leaves the (unnormalised) target invariant**, for every number of
particles, every symmetric adaptive resampling rule and every number of steps. -/
theorem csmc_invariant_to {T : ℕ} (hv : ValidTo sp T) (hu : 0 < u) (y : X) :
    ∑ x, sp.g T x * kernel sp u T x y = sp.g T y := by
  have := csmc_corrected_invariant hv hu (h := fun _ => 1) (fun _ _ => one_pos) y
  simp only [mul_one, kernelH, selH_one] at this
  exact this

/-- the unbounded form (see `ValidTo` for why the bounded one is the useful one) -/
theorem csmc_invariant (hv : Valid sp) (hu : 0 < u) (T : ℕ) (y : X) :
    ∑ x, sp.g T x * kernel sp u T x y = sp.g T y :=
  csmc_invariant_to (hv.to T) hu y

/-- **Conditional SMC with a final resampling step leaves the target invariant**, for every number of
particles, every number of steps, every symmetric adaptive rule and every `u > 0`. -/
theorem csmc_invariant_final_resample {T : ℕ} (hv : ValidTo sp T) (hu : 0 < u) (y : X) :
    ∑ x, sp.g T x * kernelR sp u T x y = sp.g T y := by
  have := csmc_corrected_invariant_final_resample hv hu (h := fun _ => 1) (fun _ _ => one_pos) y
  simp only [mul_one, kernelRH, selH_one] at this
  exact this

theorem kernelXH_one (T : ℕ) (x y : X) : kernelXH sp u (fun _ => 1) T x y = kernelX sp u T x y := by
  simp only [kernelXH, selH_one]
  rfl

theorem csmc_invariant_X {T : ℕ} (hv : ValidTo sp T) (hu : 0 < u) (y : X) :
    ∑ x, sp.g T x * kernelX sp u T x y = sp.g T y := by
  have := csmc_corrected_invariant_X hv hu (h := fun _ => 1) (fun _ _ => one_pos) y
  simp only [mul_one, kernelXH_one] at this
  exact this

#print axioms csmc_invariant_to
#print axioms csmc_invariant_final_resample
#print axioms csmc_corrected_invariant_X

/-! ### the schedule functional `CX` is linear -/

theorem finR_lin (T : ℕ) (S : Sys X m) : Lin fun f => finR sp u T f S := by
  unfold finR
  split
  · exact resC_lin S
  · exact ⟨fun _ _ => rfl, fun _ _ => rfl⟩

theorem CX_lin (T : ℕ) (x : X) : Lin (CX sp u T x) := by
  unfold CX
  split
  · exact (C_lin T x).comp (finR_lin T)
  · exact C_lin T x

/-- the kernel is the schedule functional of the corrected selection, test function by test function -/
theorem sum_kernelXH (h : X → ℚ) (T : ℕ) (x : X) (φ : X → ℚ) :
    ∑ y, kernelXH sp u h T x y * φ y = CX sp u T x (fun S => ∑ y, selH h S y * φ y) :=
  (CX_lin T x).sum_mul _ φ

/-! ### the specification with the corrected last-level target -/

variable (sp) in
/-- `sp` with the level-`T` target multiplied by `h` -/
def withH (h : X → ℚ) (T : ℕ) : Spec (m := m) X :=
  { sp with g := fun t x => if t = T then sp.g t x * h x else sp.g t x }

theorem propC_withH_lt (h : X → ℚ) {T t : ℕ} (ht : t + 1 < T) (x' : X) (S : Sys X m) (f : Sys X m → ℚ) :
    propC (withH sp h T) t x' S f = propC sp t x' S f := by
  unfold propC
  have h1 : t + 1 ≠ T := Nat.ne_of_lt ht
  have h2 : t ≠ T := Nat.ne_of_lt (Nat.lt_of_succ_lt ht)
  have he : ∀ (p : X × ℚ) (y : X), ext (withH sp h T) t p y = ext sp t p y := by
    intro p y
    simp only [ext, incr, withH, if_neg h1, if_neg h2]
  simp only [he]
  rfl

theorem stepC_withH_lt (h : X → ℚ) {T t : ℕ} (ht : t + 1 < T) (x' : X) (S : Sys X m) (f : Sys X m → ℚ) :
    stepC (withH sp h T) u t x' S f = stepC sp u t x' S f := by
  unfold stepC
  simp only [propC_withH_lt h ht]
  rfl

theorem C_withH_lt (h : X → ℚ) {T : ℕ} : ∀ (t : ℕ), t < T → ∀ (x : X) (f : Sys X m → ℚ),
    C (withH sp h T) u t x f = C sp u t x f := by
  intro t
  induction t with
  | zero => intro _ x f; rfl
  | succ t ih =>
    intro ht x f
    simp only [C]
    simp only [stepC_withH_lt h ht]
    exact ih (Nat.lt_of_succ_lt ht) _ _

/-- the last propagation of the modified specification is the last propagation of `sp` followed by the
weight correction -/
theorem propC_withH_last (h : X → ℚ) (t : ℕ) (x' : X) (S : Sys X m) (f : Sys X m → ℚ) :
    propC (withH sp h (t+1)) t x' S f = propC sp t x' S (fun S' => f (corr h S')) := by
  unfold propC
  have h2 : t ≠ t + 1 := Nat.ne_of_lt (Nat.lt_succ_self t)
  have he : ∀ (p : X × ℚ) (y : X), ext (withH sp h (t+1)) t p y
      = ((ext sp t p y).1, (ext sp t p y).2 * h (ext sp t p y).1) := by
    intro p y
    simp only [ext, incr, withH, if_neg h2, if_true]
    congr 1
    ring
  simp only [he]
  rfl

/-- **correcting the final weights = targeting `g T · h` at the last step** (`T ≥ 1`) -/
theorem kernelH_eq_kernel_withH (h : X → ℚ) (T : ℕ) (x y : X) :
    kernelH sp u h (T+1) x y = kernel (withH sp h (T+1)) u (T+1) x y := by
  have e : ∀ S, stepC (withH sp h (T+1)) u T x S (fun S => sel S y)
      = stepC sp u T x S (fun S => selH h S y) := by
    intro S
    simp only [stepC, propC_withH_last]
    rfl
  show C sp u T (sp.parent x) _ = C (withH sp h (T+1)) u T ((withH sp h (T+1)).parent x) _
  rw [C_withH_lt h T (Nat.lt_succ_self T)]
  simp only [e]
  rfl

#print axioms kernelH_eq_kernel_withH

end ASMC
