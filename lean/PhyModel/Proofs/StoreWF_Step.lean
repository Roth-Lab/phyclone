import PhyModel.Proofs.StoreWF_create
import PhyModel.Proofs.StoreWF_getSub
import PhyModel.Proofs.StoreWF_addSub
import PhyModel.Proofs.StoreWF_relabel
import PhyModel.Proofs.StoreWF_dictRT
/-! C07: a step of a history over several live handles leaves each tree as it was or writes the result
of one call (`Written`, `step_written`); what the calls guarantee is collected once (`Written.keeps`):
the invariant `Inv0`, aligned payloads, and dense names for the steps that never rename or remove
clones.  Hence the full store invariant `Inv s := WF s ∧ Full s ∧ Aligned s` (C07, C15) holds along
every legal run, and density of the clone names (what makes `create_root_node`'s choice of name fresh)
is preserved by every step that neither grafts nor removes nor extracts clones. -/
namespace PhyModel.Store

theorem all_setH {P : Store → Prop} {sys : Sys} (hall : ∀ s ∈ sys, P s) (h : Nat) {r : Store} (hr : P r) :
    ∀ s ∈ setH sys h r, P s := by
  intro s hs
  rcases List.mem_or_eq_of_mem_set hs with h' | h'
  · exact hall s h'
  · exact h' ▸ hr

theorem all_append {P : Store → Prop} {sys : Sys} (hall : ∀ s ∈ sys, P s) {r : Store} (hr : P r) :
    ∀ s ∈ sys ++ [r], P s := by
  intro s hs
  rcases List.mem_append.1 hs with h' | h'
  · exact hall s h'
  · exact List.mem_singleton.1 h' ▸ hr

/-- the stores a step writes, each with the call that produced it -/
inductive Written (dt : Data) (sys : Sys) : Op → Store → Prop
  | create {h ch d s r} : sys[h]? = some s → s.createRootNode dt ch d = some r → Written dt sys (.create h ch d) r.1
  | createAdd {h ch dp s r r2} : sys[h]? = some s → s.createRootNode dt ch [] = some r →
      r.1.addDataPointToNode dt dp r.2 = some r2 → Written dt sys (.createAdd h ch dp) r2
  | addDp {h dp nd s r} : sys[h]? = some s → s.addDataPointToNode dt dp nd = some r → Written dt sys (.addDp h dp nd) r
  | rmDp {h dp nd s r} : sys[h]? = some s → s.removeDataPointFromNode dt dp nd = some r →
      Written dt sys (.rmDp h dp nd) r
  | rmOut {h dp s r} : sys[h]? = some s → s.removeDataPointFromOutliers dp = some r → Written dt sys (.rmOut h dp) r
  | getSubSrc {h rt s r} : sys[h]? = some s → s.getSubtree dt rt = some r →
      Written dt sys (.getSub h rt) (if rt.isSome then s.touch r.nodes else s)
  | getSub {h rt s r} : sys[h]? = some s → s.getSubtree dt rt = some r → Written dt sys (.getSub h rt) r
  | rmSubArg {h hsb s sb r} : sys[h]? = some s → sys[hsb]? = some sb →
      (s.touch s.nodes).removeSubtree dt (sb.touch sb.nodes) = some r → Written dt sys (.rmSub h hsb) (sb.touch sb.nodes)
  | rmSub {h hsb s sb r} : sys[h]? = some s → sys[hsb]? = some sb →
      (s.touch s.nodes).removeSubtree dt (sb.touch sb.nodes) = some r → Written dt sys (.rmSub h hsb) r
  | addSub {h hsb par s sb r} : sys[h]? = some s → sys[hsb]? = some sb → s.addSubtree dt sb par = some r →
      Written dt sys (.addSub h hsb par) r
  | relabel {h s} : sys[h]? = some s → Written dt sys (.relabel h) s.relabelNodes
  | dictRT {h s r} : sys[h]? = some s → Store.fromDict dt s.toDict = some r → Written dt sys (.dictRT h) r
  | update {h s} : sys[h]? = some s → Written dt sys (.update h) (s.update dt)
  | fresh : Written dt sys .fresh (Store.init dt)

theorem step_written {dt : Data} {sys sys' : Sys} {op : Op} (hstep : step dt sys op = some sys') :
    ∀ s ∈ sys', s ∈ sys ∨ Written dt sys op s := by
  have old : ∀ s ∈ sys, s ∈ sys ∨ Written dt sys op s := fun _ => Or.inl
  -- each branch of `step` is a chain of binds ending in `pure`; `simp` on `step` is slow to check
  cases op with
  | create h ch d =>
    obtain ⟨s, hs, hstep⟩ := Option.bind_eq_some_iff.1 hstep
    obtain ⟨r, hr, hstep⟩ := Option.bind_eq_some_iff.1 hstep
    cases hstep
    exact all_setH old _ (Or.inr (.create hs hr))
  | createAdd h ch dp =>
    obtain ⟨s, hs, hstep⟩ := Option.bind_eq_some_iff.1 hstep
    obtain ⟨r, hr, hstep⟩ := Option.bind_eq_some_iff.1 hstep
    obtain ⟨r2, hr2, hstep⟩ := Option.bind_eq_some_iff.1 hstep
    cases hstep
    exact all_setH old _ (Or.inr (.createAdd hs hr hr2))
  | addDp h dp nd =>
    obtain ⟨s, hs, hstep⟩ := Option.bind_eq_some_iff.1 hstep
    obtain ⟨r, hr, hstep⟩ := Option.bind_eq_some_iff.1 hstep
    cases hstep
    exact all_setH old _ (Or.inr (.addDp hs hr))
  | rmDp h dp nd =>
    obtain ⟨s, hs, hstep⟩ := Option.bind_eq_some_iff.1 hstep
    obtain ⟨r, hr, hstep⟩ := Option.bind_eq_some_iff.1 hstep
    cases hstep
    exact all_setH old _ (Or.inr (.rmDp hs hr))
  | rmOut h dp =>
    obtain ⟨s, hs, hstep⟩ := Option.bind_eq_some_iff.1 hstep
    obtain ⟨r, hr, hstep⟩ := Option.bind_eq_some_iff.1 hstep
    cases hstep
    exact all_setH old _ (Or.inr (.rmOut hs hr))
  | getSub h rt =>
    obtain ⟨s, hs, hstep⟩ := Option.bind_eq_some_iff.1 hstep
    obtain ⟨r, hr, hstep⟩ := Option.bind_eq_some_iff.1 hstep
    cases hstep
    exact all_append (all_setH old _ (Or.inr (.getSubSrc hs hr))) (Or.inr (.getSub hs hr))
  | rmSub h hsb =>
    obtain ⟨s, hs, hstep⟩ := Option.bind_eq_some_iff.1 hstep
    obtain ⟨sb, hsb', hstep⟩ := Option.bind_eq_some_iff.1 hstep
    obtain ⟨r, hr, hstep⟩ := Option.bind_eq_some_iff.1 hstep
    cases hstep
    exact all_setH (all_setH old _ (Or.inr (.rmSubArg hs hsb' hr))) _ (Or.inr (.rmSub hs hsb' hr))
  | addSub h hsb par =>
    obtain ⟨s, hs, hstep⟩ := Option.bind_eq_some_iff.1 hstep
    obtain ⟨sb, hsb', hstep⟩ := Option.bind_eq_some_iff.1 hstep
    obtain ⟨r, hr, hstep⟩ := Option.bind_eq_some_iff.1 hstep
    cases hstep
    exact all_setH old _ (Or.inr (.addSub hs hsb' hr))
  | relabel h =>
    obtain ⟨s, hs, hstep⟩ := Option.bind_eq_some_iff.1 hstep
    cases hstep
    exact all_setH old _ (Or.inr (.relabel hs))
  | copy h =>
    obtain ⟨s, hs, hstep⟩ := Option.bind_eq_some_iff.1 hstep
    cases hstep
    exact all_append old (Or.inl (List.mem_of_getElem? hs))
  | dictRT h =>
    obtain ⟨s, hs, hstep⟩ := Option.bind_eq_some_iff.1 hstep
    obtain ⟨r, hr, hstep⟩ := Option.bind_eq_some_iff.1 hstep
    cases hstep
    exact all_setH old _ (Or.inr (.dictRT hs hr))
  | update h =>
    obtain ⟨s, hs, hstep⟩ := Option.bind_eq_some_iff.1 hstep
    cases hstep
    exact all_setH old _ (Or.inr (.update hs))
  | fresh =>
    cases hstep
    exact all_append old (Or.inr .fresh)

theorem aligned_init (dt : Data) : Aligned (Store.init dt) := by simp [Aligned, Store.init]

theorem update_aligned (dt : Data) {s : Store} (ha : Aligned s) : Aligned (s.update dt) :=
  aligned_of_forest_data ha (updAll_cores dt s.forest) rfl

/-- the steps after which every tree is still dense, given that every tree was -/
def Op.keepsDense : Op → Bool
  | .getSub _ (some _) => false
  | .rmSub _ _ => false
  | .addSub _ _ _ => false
  | _ => true

theorem Written.keeps {dt : Data} {sys : Sys} {op : Op} {s' : Store} (h : Written dt sys op s')
    (hall : ∀ s ∈ sys, Inv0 s) (hleg : Legal sys op) :
    Inv0 s' ∧ ((∀ s ∈ sys, Aligned s) → Aligned s') ∧
      ((∀ s ∈ sys, Dense s) → op.keepsDense = true → Dense s') := by
  have get : ∀ {h s}, sys[h]? = some s → s ∈ sys := List.mem_of_getElem?
  have hI : ∀ {h s}, sys[h]? = some s → Inv0 s := fun hs => hall _ (get hs)
  cases h with
  | create hs hr =>
    have hi := create_inv hr (hI hs) (hleg.2 _ hs).1 hleg.1 (hleg.2 _ hs).2
    exact ⟨hi.1, fun ha => create_aligned hr (hI hs).1 (hleg.2 _ hs).1 (hleg.2 _ hs).2 (ha _ (get hs)),
      fun _ _ => hi.2⟩
  | createAdd hs hr hr2 =>
    have hi := createAdd_inv hr hr2 (hI hs) (hleg _ hs)
    exact ⟨hi.1, fun ha => createAdd_aligned hr hr2 (hI hs) (hleg _ hs) (ha _ (get hs)), fun _ _ => hi.2.1⟩
  | addDp hs hr =>
    have hw := (hI hs).1
    exact ⟨addDp_inv hr (hI hs), fun ha => addDp_aligned hr hw (ha _ (get hs)),
      fun hd _ => addDp_dense hr hw (hd _ (get hs))⟩
  | rmDp hs hr =>
    have hw := (hI hs).1
    exact ⟨rmDp_inv hr (hI hs), fun ha => rmDp_aligned hr hw (ha _ (get hs)),
      fun hd _ => rmDp_dense hr hw (hd _ (get hs))⟩
  | rmOut hs hr =>
    exact ⟨rmOut_inv hr (hI hs), fun ha => rmOut_aligned hr (hI hs).1 (ha _ (get hs)),
      fun hd _ => rmOut_dense hr (hd _ (get hs))⟩
  | @getSubSrc _ rt s r hs hr =>
    -- the source only has the `_data` keys of the extracted clones touched, and it has them already
    have e : (if rt.isSome then s.touch r.nodes else s) = s := by
      cases rt with
      | none => rfl
      | some name =>
        obtain ⟨_, _, _, _, _, _, _, hsub, _⟩ := getSubtree_shape hr (hI hs).1
        exact touch_names_of_full (hI hs).2 hsub
    rw [e]
    exact ⟨hI hs, fun ha => ha _ (get hs), fun hd _ => hd _ (get hs)⟩
  | @getSub _ rt _ _ hs hr =>
    refine ⟨getSubtree_inv hr (hI hs), fun ha => getSubtree_aligned hr (hI hs).1 (ha _ (get hs)),
      fun hd hk => ?_⟩
    cases rt with
    | none => exact getSubtree_none hr ▸ hd _ (get hs)
    | some name => cases hk
  | rmSubArg hs hsb hr =>
    rw [touch_nodes_of_full (hI hsb).2]
    exact ⟨hI hsb, fun ha => ha _ (get hsb), fun hd _ => hd _ (get hsb)⟩
  | rmSub hs hsb hr =>
    rw [touch_nodes_of_full (hI hs).2, touch_nodes_of_full (hI hsb).2] at hr
    exact ⟨removeSubtree_inv hr (hI hs) (hleg _ _ hs hsb),
      fun ha => removeSubtree_aligned hr (hI hs) (hleg _ _ hs hsb) (ha _ (get hs)), fun _ hk => nomatch hk⟩
  | addSub hs hsb hr =>
    exact ⟨addSubtree_inv hr (hI hs) (hI hsb).1 (hleg _ _ hs hsb),
      fun ha => addSubtree_aligned hr (hI hs) (hI hsb).1 (ha _ (get hs)) (ha _ (get hsb)),
      fun _ hk => nomatch hk⟩
  | relabel hs =>
    have hi := relabelNodes_inv (hI hs).1
    exact ⟨hi.1, fun ha => relabelNodes_aligned (hI hs).1 (ha _ (get hs)), fun _ _ => hi.2⟩
  | dictRT hs hr =>
    have hi := fromDict_toDict_inv hr (hI hs)
    exact ⟨hi.1, fun _ => fromDict_toDict_aligned hr (hI hs), fun hd _ => hi.2.1 (hd _ (get hs))⟩
  | @update _ s hs =>
    have hi := update_inv dt s
    exact ⟨⟨hi.1 (hI hs).1, hi.2.1 (hI hs).2⟩, fun ha => update_aligned dt (ha _ (get hs)),
      fun hd _ => hi.2.2 (hd _ (get hs))⟩
  | fresh => exact ⟨inv_init dt, fun _ => aligned_init dt, fun _ _ => dense_init dt⟩

/-- **one step preserves the invariant on every live tree** -/
theorem inv0_step {dt : Data} {sys sys' : Sys} {op : Op} (hall : ∀ s ∈ sys, Inv0 s) (hleg : Legal sys op)
    (hstep : step dt sys op = some sys') : ∀ s ∈ sys', Inv0 s := fun s' hs' =>
  (step_written hstep s' hs').elim (hall s') fun h => (h.keeps hall hleg).1

/-- every edit of a history is legal in the state where it is applied -/
def LegalRun (dt : Data) : Sys → List Op → Prop
  | _, [] => True
  | sys, op :: ops => Legal sys op ∧ ∀ sys', step dt sys op = some sys' → LegalRun dt sys' ops

theorem legalRun_all {P : Store → Prop} {dt : Data}
    (hstep : ∀ {sys sys' op}, (∀ s ∈ sys, P s) → Legal sys op → step dt sys op = some sys' → ∀ s ∈ sys', P s)
    {ops : List Op} {sys sys' : Sys} (hall : ∀ s ∈ sys, P s) (hleg : LegalRun dt sys ops)
    (hrun : run dt sys ops = some sys') : ∀ s ∈ sys', P s := by
  induction ops generalizing sys with
  | nil => simp only [run, List.foldlM_nil, Option.pure_def, Option.some.injEq] at hrun; exact hrun ▸ hall
  | cons op ops ih =>
    simp only [run, List.foldlM_cons, Option.bind_eq_bind, Option.bind_eq_some_iff] at hrun
    obtain ⟨sys1, h1, h2⟩ := hrun
    exact ih (hstep hall hleg.1 h1) (hleg.2 sys1 h1) h2

theorem inv0_run {dt : Data} {ops : List Op} {sys sys' : Sys} (hall : ∀ s ∈ sys, Inv0 s)
    (hleg : LegalRun dt sys ops) (hrun : run dt sys ops = some sys') : ∀ s ∈ sys', Inv0 s :=
  legalRun_all inv0_step hall hleg hrun

/-- **the store invariant**: the four views agree (`WF`), every clone has its `_data` entry (`Full`)
and each payload lists its data points in the order of its `_data` entry (`Aligned`) -/
def Inv (s : Store) : Prop := WF s ∧ Full s ∧ Aligned s

theorem Inv.inv0 {s : Store} (h : Inv s) : Inv0 s := ⟨h.1, h.2.1⟩

theorem inv_init' (dt : Data) : Inv (Store.init dt) := ⟨(inv_init dt).1, (inv_init dt).2, aligned_init dt⟩

/-- **one legal step preserves the invariant on every live tree** -/
theorem inv_step {dt : Data} {sys sys' : Sys} {op : Op} (hall : ∀ s ∈ sys, Inv s) (hleg : Legal sys op)
    (hstep : step dt sys op = some sys') : ∀ s ∈ sys', Inv s := fun s' hs' =>
  (step_written hstep s' hs').elim (hall s') fun h =>
    have hk := h.keeps (fun s hs => (hall s hs).inv0) hleg
    ⟨hk.1.1, hk.1.2, hk.2.1 fun s hs => (hall s hs).2.2⟩

theorem inv_run {dt : Data} {ops : List Op} {sys sys' : Sys} (hall : ∀ s ∈ sys, Inv s)
    (hleg : LegalRun dt sys ops) (hrun : run dt sys ops = some sys') : ∀ s ∈ sys', Inv s :=
  legalRun_all inv_step hall hleg hrun

theorem dense_step {dt : Data} {sys sys' : Sys} {op : Op} (hall : ∀ s ∈ sys, Inv s)
    (hden : ∀ s ∈ sys, Dense s) (hleg : Legal sys op) (hk : op.keepsDense = true)
    (hstep : step dt sys op = some sys') : ∀ s ∈ sys', Dense s := fun s' hs' =>
  (step_written hstep s' hs').elim (hden s') fun h =>
    (h.keeps (fun s hs => (hall s hs).inv0) hleg).2.2 hden hk

end PhyModel.Store
