import Mathlib.Data.String.Basic
import PhyModel.Proofs.ExceptLemmas
import PhyModel.Model.Loader
/-! The generic pieces of the loader model (C17), before any row enters: `sorted(set(·))` as sort-then-`dedup`
under a Boolean total order (the same for permuted input, strictly increasing), the two identifier
orders, `mapE` as `List.mapM`, `enumFrom` as `List.zipIdx`. -/

namespace PhyModel.Loader
open List

variable {α β ε : Type}

/-! ### `dedup` -/

theorem dedup_cons [DecidableEq α] (a : α) (t : List α) :
    dedup (a :: t) = if a ∈ t then dedup t else a :: dedup t := rfl

theorem mem_dedup [DecidableEq α] {a : α} {l : List α} : a ∈ dedup l ↔ a ∈ l := by
  induction l with
  | nil => exact Iff.rfl
  | cons b t ih =>
    rw [dedup_cons, mem_cons]
    split
    · next h => exact ih.trans ⟨Or.inr, fun h' => h'.elim (· ▸ h) id⟩
    · rw [mem_cons, ih]

theorem dedup_sublist [DecidableEq α] (l : List α) : (dedup l).Sublist l := by
  induction l with
  | nil => exact Sublist.slnil
  | cons b t ih =>
    rw [dedup_cons]
    split
    · exact ih.cons _
    · exact ih.cons_cons _

theorem nodup_dedup [DecidableEq α] (l : List α) : (dedup l).Nodup := by
  induction l with
  | nil => exact nodup_nil
  | cons b t ih =>
    rw [dedup_cons]
    split
    · exact ih
    · next h => exact nodup_cons.mpr ⟨fun hb => h (mem_dedup.mp hb), ih⟩

/-! ### `sortedDistinct` under a total order given as a Boolean relation -/

structure IsTotalOrderB (le : α → α → Bool) : Prop where
  trans : ∀ a b c, le a b = true → le b c = true → le a c = true
  total : ∀ a b, (le a b || le b a) = true
  antisymm : ∀ a b, le a b = true → le b a = true → a = b

theorem mergeSort_eq_of_perm {le : α → α → Bool} (ho : IsTotalOrderB le) {l₁ l₂ : List α}
    (h : l₁ ~ l₂) : l₁.mergeSort le = l₂.mergeSort le := by
  apply Perm.eq_of_pairwise (le := fun a b => le a b = true)
  · intro a b _ _ hab hba
    exact ho.antisymm a b hab hba
  · exact pairwise_mergeSort ho.trans ho.total l₁
  · exact pairwise_mergeSort ho.trans ho.total l₂
  · exact (mergeSort_perm l₁ le).trans (h.trans (mergeSort_perm l₂ le).symm)

theorem sortedDistinct_perm [DecidableEq α] {le : α → α → Bool} (ho : IsTotalOrderB le)
    {l₁ l₂ : List α} (h : l₁ ~ l₂) : sortedDistinct le l₁ = sortedDistinct le l₂ := by
  unfold sortedDistinct
  rw [mergeSort_eq_of_perm ho h]

theorem mem_sortedDistinct [DecidableEq α] {le : α → α → Bool} {a : α} {l : List α} :
    a ∈ sortedDistinct le l ↔ a ∈ l := by
  unfold sortedDistinct
  rw [mem_dedup, mem_mergeSort]

theorem nodup_sortedDistinct [DecidableEq α] (le : α → α → Bool) (l : List α) :
    (sortedDistinct le l).Nodup := nodup_dedup _

/-- how the concrete examples evaluate `sortedDistinct`: `mergeSort` itself does not reduce in the kernel -/
theorem sortedDistinct_of_sorted [DecidableEq α] {le : α → α → Bool} {l r : List α}
    (h : l.Pairwise (fun a b => le a b = true)) (hr : dedup l = r) : sortedDistinct le l = r := by
  unfold sortedDistinct
  rw [mergeSort_of_pairwise h, hr]

/-! ### the identifier orders -/

theorem order_of_le [LinearOrder α] {le : α → α → Bool} (h : ∀ a b, le a b = true ↔ a ≤ b) :
    IsTotalOrderB le where
  trans a b c h1 h2 := (h a c).mpr (le_trans ((h a b).mp h1) ((h b c).mp h2))
  total a b := by
    rw [Bool.or_eq_true, h, h]
    exact le_total a b
  antisymm a b h1 h2 := le_antisymm ((h a b).mp h1) ((h b a).mp h2)

theorem strLe_order : IsTotalOrderB strLe := order_of_le fun _ _ => decide_eq_true_iff

/-- strictly increasing: the statement "in sorted identifier order" -/
theorem sortedDistinct_lt [LinearOrder α] {le : α → α → Bool} (h : ∀ a b, le a b = true ↔ a ≤ b)
    (l : List α) : (sortedDistinct le l).Pairwise (· < ·) := by
  have ho := order_of_le h
  have h1 : (sortedDistinct le l).Pairwise (fun a b => le a b = true) :=
    (pairwise_mergeSort ho.trans ho.total l).sublist (dedup_sublist _)
  have h2 : (sortedDistinct le l).Pairwise (fun a b => a ≠ b) := nodup_sortedDistinct le l
  exact (h1.and h2).imp fun h' => lt_of_le_of_ne ((h _ _).mp h'.1) h'.2

/-! ### `mapE` -/

theorem mapE_cons (f : α → Except ε β) (a : α) (t : List α) :
    mapE f (a :: t) = match f a with
      | .error e => .error e
      | .ok b => match mapE f t with
        | .error e => .error e
        | .ok bs => .ok (b :: bs) := rfl

theorem mapE_congr {f g : α → Except ε β} {l : List α} (h : ∀ a ∈ l, f a = g a) :
    mapE f l = mapE g l := by
  induction l with
  | nil => rfl
  | cons a t ih =>
    have ht : mapE f t = mapE g t := ih fun x hx => h x (mem_cons_of_mem _ hx)
    simp only [mapE, h a mem_cons_self, ht]

theorem mapE_eq_mapM (f : α → Except ε β) (l : List α) : mapE f l = l.mapM f := by
  induction l with
  | nil => rfl
  | cons a t ih =>
    rw [mapE_cons, mapM_cons, ih]
    cases f a with
    | error e => rfl
    | ok b => cases t.mapM f <;> rfl

theorem mapE_ok {f : α → Except ε β} {l : List α} {r : List β} (h : mapE f l = .ok r) :
    Forall₂ (fun a b => f a = .ok b) l r := mapM_ok (mapE_eq_mapM f l ▸ h)

theorem mapE_error {f : α → Except ε β} {l : List α} {e : ε} (h : mapE f l = .error e) :
    ∃ a ∈ l, f a = .error e := mapM_error (mapE_eq_mapM f l ▸ h)

theorem mapE_ok_of {f : α → Except ε β} {l : List α} (h : ∀ a ∈ l, ∃ b, f a = .ok b) :
    ∃ r, mapE f l = .ok r := mapE_eq_mapM f l ▸ mapM_ok_of h

/-! ### `enumFrom` -/

theorem enumFrom_eq (n : Nat) (l : List α) : enumFrom n l = (l.zipIdx n).map fun p => (p.2, p.1) := by
  induction l generalizing n with
  | nil => rfl
  | cons a t ih => rw [enumFrom, ih, zipIdx_cons, map_cons]

theorem enumFrom_length (n : Nat) (l : List α) : (enumFrom n l).length = l.length := by
  rw [enumFrom_eq, length_map, length_zipIdx]

theorem enumFrom_map_snd (n : Nat) (l : List α) : (enumFrom n l).map (·.2) = l := by
  rw [enumFrom_eq, map_map]
  exact zipIdx_map_fst n l

theorem exists_mem_enumFrom {n : Nat} {l : List α} {a : α} : (∃ p ∈ enumFrom n l, p.2 = a) ↔ a ∈ l := by
  rw [← mem_map, enumFrom_map_snd]

theorem enumFrom_getElem_fst (n : Nat) (l : List α) (i : Nat) (h : i < (enumFrom n l).length) :
    (enumFrom n l)[i].1 = n + i := by
  simp only [enumFrom_eq, getElem_map, getElem_zipIdx]

end PhyModel.Loader
