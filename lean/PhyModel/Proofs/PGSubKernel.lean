import PhyModel.Proofs.PGStep
/-! # C04, random-subtree move: given the region, the move is a particle-Gibbs update for the
full-tree density restricted to the trees `graftBack rem gk y`.

* `selectH_E` — the draw from the corrected weights (`Moves.correctWeights`, `_correct_weights`) is the
  abstract corrected selection `ASMC.selH` with `h y = pOne(graftBack y) / pOne y`;
* `subtree_csmc_E` — `SMC.csmc` followed by that draw is the abstract kernel `ASMC.kernelXH`;
* `subtree_invariant_abstract` — order draw composed with the corrected sweep leaves
  `y ↦ pOne (graftBack rem gk y)` invariant on the complete subtrees of the region's data;
* `subtreeGiven_E` — the executable `Moves.subtreeGiven` is that mixture kernel, pushed forward by
  `graftBack`. -/

namespace PhyModel.Moves

/-- the model the correspondence check compares with `ParticleGibbsSubtreeSampler.sample_tree` is
"choose the region, then `subtreeGiven`" -/
theorem subtreeMove_eq_via (r : SMC.Run) (x : T) : subtreeMove r x = subtreeVia r x := rfl

end PhyModel.Moves

namespace PhyModel.PG
open Proposal PGSpec Orders
open PhyModel.Moves (graftBack correctWeights subtreeGiven)

variable {dt : Data} {c : Cfg} {σ : List ℕ} {L : List T}

/-- the weight-correction factor of `_correct_weights` -/
def hC (dt : Data) (c : Cfg) (rem : DF) (gk : Option ℕ) (x : T) : ℚ :=
  pOneT dt c (graftBack rem gk x) / pOneT dt c x

/-- **the corrected draw** -/
theorem selectH_E {m : ℕ} (rem : DF) (gk : Option ℕ) (θ : ℚ) (S : ASMC.Sys (St L) m) (φ : T → ℚ) :
    Dist.E (Dist.categorical (correctWeights (runOf dt c m θ) rem gk (swOf S))) φ
      = ∑ y : St L, ASMC.selH (fun z : St L => hC dt c rem gk z.1) S y * φ (graftBack rem gk y.1) := by
  have e : correctWeights (runOf dt c m θ) rem gk (swOf S)
      = (swOf (ASMC.corr (fun z : St L => hC dt c rem gk z.1) S)).map
          fun tw => (graftBack rem gk tw.1, tw.2) := by
    unfold correctWeights swOf
    rw [List.map_ofFn, List.map_ofFn]
    congr 1
    funext j
    exact Prod.ext rfl ((div_mul_eq_mul_div _ _ _).trans (mul_div_assoc _ _ _))
  have := select_E (ASMC.corr (fun z : St L => hC dt c rem gk z.1) S) (fun t => φ (graftBack rem gk t))
  unfold SMC.select at this
  rw [Dist.E_categorical] at this
  rw [e, Dist.E_categorical, lsum_map, lsum_map]
  exact this

theorem selectH_sym {m : ℕ} (rem : DF) (gk : Option ℕ) (θ : ℚ) (φ : T → ℚ) :
    ASMC.Sym0 (fun S : ASMC.Sys (St L) m =>
      Dist.E (Dist.categorical (correctWeights (runOf dt c m θ) rem gk (swOf S))) φ) := by
  simp only [selectH_E]
  exact fun ρ S => ASMC.sel_sym (fun y : St L => φ (graftBack rem gk y.1)) ρ
    (ASMC.corr (fun z : St L => hC dt c rem gk z.1) S)

/-- **conditional SMC on the subtree given the order, then the corrected draw** -/
theorem subtree_csmc_E (h : Hyp dt c σ) (hL : ∀ x ∈ states c σ, x ∈ L) (θ : ℚ) (m : ℕ)
    {x : T} {path : ℕ → St L} (hp : PathOK c σ x path) (hne : σ ≠ []) (rem : DF) (gk : Option ℕ)
    (φ : T → ℚ) :
    Dist.E (Dist.bind (SMC.csmc (runOf dt c m θ) x σ)
        fun sw => Dist.categorical (correctWeights (runOf dt c m θ) rem gk sw)) φ
      = ∑ y : St L, ASMC.kernelXH (spec dt c σ (uN m) L hL θ m) (uN m) (fun z : St L => hC dt c rem gk z.1)
          σ.length (path σ.length) y * φ (graftBack rem gk y.1) := by
  rw [E_bind, csmc_E_CX h hL θ m hp hne
    (fun sw => Dist.E (Dist.categorical (correctWeights (runOf dt c m θ) rem gk sw)) φ) (selectH_sym rem gk θ φ)]
  simp only [selectH_E]
  exact (ASMC.sum_kernelXH _ _ _ fun y : St L => φ (graftBack rem gk y.1)).symm

/-! ### the order draw composed with the corrected sweep -/

variable {D : List ℕ}

/-- the target given the region: the full tree's density, on the complete subtrees of the region's data -/
def piR (dt : Data) (c : Cfg) (D : List ℕ) (rem : DF) (gk : Option ℕ) (x : T) : ℚ :=
  if x ∈ finals c D then pOneT dt c (graftBack rem gk x) else 0

/-- the corrected conditional SMC kernel along `σ` (the code's schedule) -/
def kernelAlongH (dt : Data) (c : Cfg) (D : List ℕ) (rem : DF) (gk : Option ℕ) (κ θ : ℚ) (m : ℕ) (u : ℚ)
    (s : Ord D) (x y : St (allStates c D)) : ℚ :=
  ASMC.kernelXH (spec dt c s.1 κ (allStates c D) (states_sub_allStates s.2) θ m) u
    (fun z : St (allStates c D) => hC dt c rem gk z.1) s.1.length x y

/-- the random-subtree kernel given the region, on subtrees: draw the order, sweep, correct, draw -/
def subKernel (dt : Data) (c : Cfg) (D : List ℕ) (rem : DF) (gk : Option ℕ) (κ θ : ℚ) (m : ℕ) (u : ℚ)
    (x y : St (allStates c D)) : ℚ :=
  ∑ s : Ord D, uOrd x.1 s.1 * kernelAlongH dt c D rem gk κ θ m u s x y

theorem finals_pOne_pos (h : HypD dt c D) {x : T} (hx : x ∈ finals c D) : 0 < pOneT dt c x := by
  obtain ⟨σ, hσ, hxl⟩ := mem_finals.mp hx
  exact level_pOne_pos (h.hyp hσ) hxl

/-- every tree has at least one compatible order -/
theorem allOrders_ne_nil (f : DF) (out : List ℕ) : allOrders f out ≠ [] := by
  intro h
  have hl := length_allOrders f out
  rw [h, List.length_nil] at hl
  have : 0 < countF f * (out.length.factorial * Nat.choose (f.size + out.length) f.size) :=
    Nat.mul_pos (countF_pos f) (Nat.mul_pos (Nat.factorial_pos _) (Nat.choose_pos (Nat.le_add_right _ _)))
  omega

/-- a well-formed tree on the data `D` is one of the complete trees on `D` -/
theorem wft_mem_finals {x : T} (w : WFT c x) (hperm : (x.f.all ++ x.out).Perm D) : x ∈ finals c D := by
  obtain ⟨σ, hσ⟩ := List.exists_mem_of_ne_nil _ (allOrders_ne_nil x.f x.out)
  have hs := (allOrders_sound x.f x.out σ hσ).1
  exact mem_finals.mpr ⟨σ, mem_perms_of_perm D σ (hs.trans hperm),
    (reachable_iff_order c σ (hs.nodup_iff.mpr w.nodup) x w).mpr hσ⟩

theorem piR_eq (h : HypD dt c D) (rem : DF) (gk : Option ℕ) (x : T) :
    piR dt c D rem gk x = piD dt c D x * hC dt c rem gk x := by
  unfold piR piD hC
  by_cases hx : x ∈ finals c D
  · rw [if_pos hx, if_pos hx, ← mul_div_assoc, mul_div_cancel_left₀ _ (ne_of_gt (finals_pOne_pos h hx))]
  · rw [if_neg hx, if_neg hx, zero_mul]

/-- **given the region, order draw + corrected sweep leave the full-tree density invariant** on the
complete subtrees of the region's data -/
theorem subtree_invariant_abstract (h : HypD dt c D) (rem : DF) (gk : Option ℕ)
    (hpos : ∀ y ∈ finals c D, 0 < pOneT dt c (graftBack rem gk y))
    (κ : ℚ) (hκ : 0 < κ) (θ : ℚ) (m : ℕ) (u : ℚ) (hu : 0 < u) (y : St (allStates c D)) :
    ∑ x : St (allStates c D), piR dt c D rem gk x.1 * subKernel dt c D rem gk κ θ m u x y
      = piR dt c D rem gk y.1 := by
  have := corrected_invariant_abstract h (hC dt c rem gk)
    (fun y hy => div_pos (hpos y hy) (finals_pOne_pos h hy)) κ hκ θ m u hu y
  simp only [← piR_eq h] at this
  exact this

/-- **the executable move given the region is the abstract mixture kernel pushed forward by
`graftBack`**: for a complete subtree `x` of the region's data and every test function on full trees -/
theorem subtreeGiven_E (h : HypD dt c D) (rem : DF) (gk : Option ℕ) (θ : ℚ) (m : ℕ)
    (x : St (allStates c D)) (hx : x.1 ∈ finals c D) (φ : T → ℚ) :
    Dist.E (subtreeGiven (runOf dt c m θ) rem gk x.1) φ
      = ∑ y : St (allStates c D), subKernel dt c D rem gk (uN m) θ m (uN m) x y * φ (graftBack rem gk y.1) := by
  unfold subtreeGiven
  refine sampleOrder_bind_E h hx _ φ (fun s y => kernelAlongH dt c D rem gk (uN m) θ m (uN m) s x y)
    (fun y => φ (graftBack rem gk y.1)) fun s hs => ?_
  obtain ⟨hne, path, hp, hlast⟩ := finals_pathOK h hx s hs
  rw [subtree_csmc_E (h.hyp s.2) (states_sub_allStates s.2) θ m hp hne rem gk φ, hlast]
  rfl

end PhyModel.PG
