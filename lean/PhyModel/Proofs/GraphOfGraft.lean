import PhyModel.Proofs.GraphOfPayload
import PhyModel.Proofs.GraphAddSub
import PhyModel.Proofs.StoreWF_addSub
/-! `add_subtree`: the structural operation of the store model (`SF.append` under the virtual root,
`SF.graftAt` under a clone, of the re-indexed forest of the subtree) is a correct abstraction of what
`tree.py` does to the rustworkx graph (`compose` with an edge parent → copy of the subtree's dummy root,
then `remove_node_retain_edges` of that copy: `gAddSubtree`).  For every renaming `ρ` that is injective
on the subtree's indices and fresh for the host, the graph operation succeeds on the graphs of the two
structural forests and its result has the nodes and the edges (as multisets: rustworkx re-uses edge
slots) of the graph of the grafted forest (`graph_graft`).  With `ρ` the renaming that `Store.reindex`
applies (`reindexMap`) this is the forest `Store.addSubtree` builds (`graph_addSubtree_struct`), and
`Store.addSubtree` on well-formed stores is `gAddSubtree` with that renaming handed over as an association
list (`graph_store_addSubtree`). -/
namespace PhyModel.Graph
open PhyModel.Store

/-! ### the edges of a renamed forest, hung under another parent -/

/-- The edges of the renamed forest `mapIdx ρ t` hung under `q`: the renamed edges below a clone of `t`,
and one edge from `q` to the copy of every top-level clone (`par`: any index that is not a clone of `t`,
the index the top-level clones hang under in `edgesOf par t`). -/
theorem edgesOf_mapIdx_split (ρ : Nat → Nat) : ∀ (t : SF) (par q : Nat), par ∉ t.idxs →
    (Store.edgesOf q (mapIdx ρ t)).Perm
      (((Store.edgesOf par t).filter (·.1 != par)).map (fun e => (ρ e.1, ρ e.2)) ++
       ((Store.edgesOf par t).filter (·.1 == par)).map (fun e => (q, ρ e.2)))
  | .nil, _, _, _ => by simp
  | .cons n k s, par, q, h => by
    simp only [SF.idxs_cons, List.mem_cons, List.mem_append, not_or] at h
    obtain ⟨hn, hk, hs⟩ := h
    have hsrc : ∀ e ∈ Store.edgesOf n.idx k, e.1 ≠ par := fun e he hc => by
      rcases edgesOf_fst he with h | h
      · exact hn (hc ▸ h)
      · exact hk (hc ▸ h)
    have f1 : (Store.edgesOf n.idx k).filter (·.1 != par) = Store.edgesOf n.idx k :=
      List.filter_eq_self.2 fun e he => bne_iff_ne.2 (hsrc e he)
    have f2 : (Store.edgesOf n.idx k).filter (·.1 == par) = [] :=
      List.filter_eq_nil_iff.2 fun e he h => hsrc e he (beq_iff_eq.1 h)
    have ih := edgesOf_mapIdx_split ρ s par q hs
    simp only [mapIdx_cons, edgesOf_cons, List.filter_cons, List.filter_append, f1, f2, bne_self_eq_false,
      beq_self_eq_true, Bool.false_eq_true, if_false, if_true, List.nil_append, List.map_append,
      List.map_cons, edgesOf_mapIdx ρ k n.idx]
    refine (List.Perm.cons _ (ih.append_left _)).trans ?_
    rw [← List.append_assoc]
    exact List.perm_middle.symm

/-! ### the edges and the indices after a structural graft -/

theorem edgesOf_graftAt {p : Nat} (g : SF) : ∀ (f : SF) (par : Nat), f.idxs.Nodup → p ∈ f.idxs →
    (Store.edgesOf par (SF.graftAt p g f)).Perm (Store.edgesOf par f ++ Store.edgesOf p g)
  | .nil, _, _, h => by simp at h
  | .cons n k s, par, hnd, h => by
    simp only [SF.idxs_cons, List.nodup_cons, List.mem_append, not_or, List.nodup_append] at hnd
    obtain ⟨⟨hnk, hns⟩, hk, hs, hdis⟩ := hnd
    simp only [SF.idxs_cons, List.mem_cons, List.mem_append] at h
    by_cases hn : n.idx = p
    · simp only [SF.graftAt, hn, if_true, edgesOf_cons, edgesOf_append, List.cons_append, List.append_assoc]
      refine List.Perm.cons _ ?_
      exact List.perm_append_comm.trans (by rw [List.append_assoc])
    · simp only [SF.graftAt, hn, if_false, edgesOf_cons, List.cons_append, List.append_assoc]
      refine List.Perm.cons _ ?_
      rcases h with h | h | h
      · exact absurd h.symm hn
      · have his : p ∉ s.idxs := fun hc => hdis p h p hc rfl
        rw [SF.graftAt_of_not_mem g his]
        refine ((edgesOf_graftAt g k n.idx hk h).append_right _).trans ?_
        rw [List.append_assoc]
        exact List.Perm.append_left _ List.perm_append_comm
      · have hik : p ∉ k.idxs := fun hc => hdis p hc p h rfl
        rw [SF.graftAt_of_not_mem g hik]
        exact (edgesOf_graftAt g s par hs h).append_left _

theorem idxs_graftAt {p : Nat} (g : SF) {f : SF} (hnd : f.idxs.Nodup) (h : p ∈ f.idxs) :
    (SF.graftAt p g f).idxs.Perm (f.idxs ++ g.idxs) := by
  have := (SF.graftAt_perm g hnd h).map (·.idx)
  rw [List.map_append] at this
  exact this.trans List.perm_append_comm

/-! ### `add_subtree` -/

/-- **grafting structurally is a correct abstraction of `compose` + `remove_node_retain_edges`** -/
theorem graph_graft {f sf : SF} {p : Nat} {ρ : Nat → Nat} (hn : f.idxs.Nodup) (h0 : 0 ∉ f.idxs)
    (hsn : sf.idxs.Nodup) (hs0 : 0 ∉ sf.idxs) (hp : p = 0 ∨ p ∈ f.idxs)
    (hinj : ((0 :: sf.idxs).map ρ).Nodup) (hfresh : ∀ a ∈ 0 :: sf.idxs, ρ a ∉ 0 :: f.idxs) :
    ∃ g', gAddSubtree (graphOf f) (graphOf sf) p ρ = some g' ∧
      g'.nodes.Perm (graphOf (if p = 0 then (mapIdx ρ sf).append f else SF.graftAt p (mapIdx ρ sf) f)).nodes ∧
      g'.edges.Perm (graphOf (if p = 0 then (mapIdx ρ sf).append f else SF.graftAt p (mapIdx ρ sf) f)).edges := by
  have hpn : p ∈ (graphOf f).nodes := List.mem_cons.2 hp
  have hsome := gAddSubtree_isSome (g := graphOf f) (sub := graphOf sf) (p := p) (ρ := ρ) hpn
    (by simp) hinj hfresh
  obtain ⟨g', hg'⟩ := Option.isSome_iff_exists.1 hsome
  obtain ⟨-, -, -, hnodes, hedges⟩ :=
    gAddSubtree_spec (isForest_graphOf hn h0) (isForest_graphOf hsn hs0) hg'
  refine ⟨g', hg', ?_, ?_⟩
  · have hfil : (graphOf sf).nodes.filter (· != 0) = sf.idxs := by
      have : sf.idxs.filter (· != 0) = sf.idxs :=
        List.filter_eq_self.2 fun a ha => bne_iff_ne.2 fun h => hs0 (h ▸ ha)
      rw [graphOf_nodes, List.filter_cons_of_neg (by simp), this]
    rw [hnodes, hfil]
    split
    · simp only [graphOf_nodes, SF.idxs_append, idxs_mapIdx, List.cons_append]
      exact List.Perm.cons _ List.perm_append_comm
    · rename_i hp0
      simp only [graphOf_nodes, List.cons_append]
      have := idxs_graftAt (mapIdx ρ sf) hn (hp.resolve_left hp0)
      rw [idxs_mapIdx] at this
      exact List.Perm.cons _ this.symm
  · have hsplit := edgesOf_mapIdx_split ρ sf 0 p hs0
    rw [hedges, List.append_assoc]
    refine (hsplit.symm.append_left _).trans ?_
    split
    · rename_i hp0
      subst hp0
      simp only [graphOf_edges, edgesOf_append]
      exact List.perm_append_comm
    · rename_i hp0
      exact (edgesOf_graftAt (mapIdx ρ sf) f 0 hn (hp.resolve_left hp0)).symm

/-- **the structural `add_subtree` of the store model** (`Store.addSubtree` grafts
`(Store.reindex sub.forest s.fresh).1`; `c = s.fresh = 1 + maxIdx` satisfies `hc` by `SF.le_maxIdx`):
the graph operation with the indices the structural operation chose gives the graph of its result.
`ρ` is any renaming that does on the dummy root and the clones of the subtree what `reindex` does. -/
theorem graph_addSubtree_reindex {f sf : SF} {p c : Nat} {ρ : Nat → Nat} (hn : f.idxs.Nodup) (h0 : 0 ∉ f.idxs)
    (hsn : sf.idxs.Nodup) (hs0 : 0 ∉ sf.idxs) (hp : p = 0 ∨ p ∈ f.idxs) (hc : ∀ a ∈ f.idxs, a < c)
    (hc0 : 0 < c) (hρ : ∀ a ∈ 0 :: sf.idxs, ρ a = reindexMap sf c a) :
    ∃ g', gAddSubtree (graphOf f) (graphOf sf) p ρ = some g' ∧
      g'.nodes.Perm (graphOf (if p = 0 then (Store.reindex sf c).1.append f
        else SF.graftAt p (Store.reindex sf c).1 f)).nodes ∧
      g'.edges.Perm (graphOf (if p = 0 then (Store.reindex sf c).1.append f
        else SF.graftAt p (Store.reindex sf c).1 f)).edges := by
  rw [reindex_eq_mapIdx c hsn, ← mapIdx_congr sf fun a ha => hρ a (List.mem_cons_of_mem _ ha)]
  refine graph_graft hn h0 hsn hs0 hp (List.map_congr_left hρ ▸ nodup_map_reindexMap c hsn hs0)
    fun a ha hmem => ?_
  rw [hρ a ha] at hmem
  have := le_reindexMap sf c a
  rcases List.mem_cons.1 hmem with h | h
  · exact Nat.not_le_of_gt hc0 (h ▸ this)
  · exact Nat.lt_irrefl _ (Nat.lt_of_lt_of_le (hc _ h) this)

theorem graph_addSubtree_struct {f sf : SF} {p c : Nat} (hn : f.idxs.Nodup) (h0 : 0 ∉ f.idxs)
    (hsn : sf.idxs.Nodup) (hs0 : 0 ∉ sf.idxs) (hp : p = 0 ∨ p ∈ f.idxs) (hc : ∀ a ∈ f.idxs, a < c)
    (hc0 : 0 < c) :
    ∃ g', gAddSubtree (graphOf f) (graphOf sf) p (reindexMap sf c) = some g' ∧
      g'.nodes.Perm (graphOf (if p = 0 then (Store.reindex sf c).1.append f
        else SF.graftAt p (Store.reindex sf c).1 f)).nodes ∧
      g'.edges.Perm (graphOf (if p = 0 then (Store.reindex sf c).1.append f
        else SF.graftAt p (Store.reindex sf c).1 f)).edges :=
  graph_addSubtree_reindex hn h0 hsn hs0 hp hc hc0 fun _ _ => rfl

/-! ### the whole `Store.addSubtree` -/

/-- **`Tree.add_subtree` of the store model is `gAddSubtree`** (`compose` + `remove_node_retain_edges`):
`p` is the graph index of the parent (0: the virtual root), `m` the association list that sends the
dummy root and the clones of the subtree to the fresh indices the structural operation hands out. -/
theorem graph_store_addSubtree {dt : Data} {s sub s' : Store} {parent : Option Int} (hwf : WF s) (hsub : WF sub)
    (h : s.addSubtree dt sub parent = some s') :
    ∃ p m g', gAddSubtree (graphOf s.forest) (graphOf sub.forest) p (ren m) = some g' ∧
      GEquiv g' (graphOf s'.forest) := by
  obtain ⟨f1, src, hf1, hu⟩ := addSubtree_mid h
  have h0 := WF.zero_notMem hwf
  let m := (0 :: sub.forest.idxs).map fun a => (a, reindexMap sub.forest s.fresh a)
  have hg : graphOf s'.forest = graphOf f1 := by
    rw [graphOf_updatePathToRoot hu]
    exact graphOf_mapRecs _ (fun n => by split <;> rfl) f1
  have hlt : ∀ a ∈ s.forest.idxs, a < s.fresh := fun a ha => by
    obtain ⟨n, hn, rfl⟩ := SF.mem_idxs.1 ha
    exact idx_lt_fresh hn
  have key := fun p hp => graph_addSubtree_reindex (p := p) (ρ := ren m) hwf.idxs_nodup h0 hsub.idxs_nodup
    (WF.zero_notMem hsub) hp hlt (fresh_pos s) fun a ha => ren_alist _ ha
  rcases hf1 with rfl | ⟨pi, hpi, rfl⟩
  · obtain ⟨g', hg', he⟩ := key 0 (.inl rfl)
    rw [if_pos rfl] at he
    exact ⟨0, m, g', hg', hg ▸ he⟩
  · obtain ⟨g', hg', he⟩ := key pi (.inr hpi)
    rw [if_neg fun hc : pi = 0 => h0 (hc ▸ hpi)] at he
    exact ⟨pi, m, g', hg', hg ▸ he⟩

/-! ### non-vacuity -/

private def nr (i : Nat) : NodeRec := { idx := i, name := i, dps := [i], p := [], r := [] }
/-- host: 1 → 2 → 4, and 3 under the root -/
private def hostF : SF := .cons (nr 1) (.cons (nr 2) (.cons (nr 4) .nil .nil) .nil) (.cons (nr 3) .nil .nil)
/-- subtree to add: 1 → {2, 3}, and 5 under its dummy root -/
private def subF : SF := .cons (nr 1) (.cons (nr 2) .nil (.cons (nr 3) .nil .nil)) (.cons (nr 5) .nil .nil)

/-- the hypotheses of `graph_addSubtree_struct` hold for `c = Store.fresh = 5`, parent the virtual root
and parent clone 2, and the graph operation evaluates to the graph of the structural result up to order -/
example :
    hostF.idxs.Nodup ∧ 0 ∉ hostF.idxs ∧ subF.idxs.Nodup ∧ 0 ∉ subF.idxs ∧ 2 ∈ hostF.idxs ∧
    1 + hostF.maxIdx = 5 ∧ (∀ a ∈ hostF.idxs, a < 5) ∧
    (0 :: subF.idxs).map (reindexMap subF 5) = [9, 5, 6, 7, 8] ∧
    (Store.reindex subF 5).1.idxs = subF.idxs.map (reindexMap subF 5) ∧
    -- parent = the virtual root
    gAddSubtree (graphOf hostF) (graphOf subF) 0 (reindexMap subF 5) =
      some { nodes := [0, 1, 2, 4, 3, 5, 6, 7, 8],
             edges := [(0, 1), (1, 2), (2, 4), (0, 3), (5, 6), (5, 7), (0, 5), (0, 8)] } ∧
    graphOf ((Store.reindex subF 5).1.append hostF) =
      { nodes := [0, 5, 6, 7, 8, 1, 2, 4, 3],
        edges := [(0, 5), (5, 6), (5, 7), (0, 8), (0, 1), (1, 2), (2, 4), (0, 3)] } ∧
    -- parent = clone 2
    gAddSubtree (graphOf hostF) (graphOf subF) 2 (reindexMap subF 5) =
      some { nodes := [0, 1, 2, 4, 3, 5, 6, 7, 8],
             edges := [(0, 1), (1, 2), (2, 4), (0, 3), (5, 6), (5, 7), (2, 5), (2, 8)] } ∧
    graphOf (SF.graftAt 2 (Store.reindex subF 5).1 hostF) =
      { nodes := [0, 1, 2, 5, 6, 7, 8, 4, 3],
        edges := [(0, 1), (1, 2), (2, 5), (5, 6), (5, 7), (2, 8), (2, 4), (0, 3)] } := by
  decide +kernel

open C07Ex in
/-- `t3` (clone 1 = index 2 alone, outlier 2) gets `sub` (clone 0 = index 1) back under clone 1: the
structural operation hands out index 3 for the clone and 4 for the dummy root of the subtree -/
example : WF t3 ∧ WF sub ∧ t3.fresh = 3 ∧ graphOf t3.forest = ⟨[0, 2], [(0, 2)]⟩ ∧
    graphOf sub.forest = ⟨[0, 1], [(0, 1)]⟩ ∧
    (t3.addSubtree dt sub (some 1)).map (fun s => graphOf s.forest) = some ⟨[0, 2, 3], [(0, 2), (2, 3)]⟩ ∧
    gAddSubtree (graphOf t3.forest) (graphOf sub.forest) 2
      (ren ((0 :: sub.forest.idxs).map fun a => (a, reindexMap sub.forest t3.fresh a))) =
        some ⟨[0, 2, 3], [(0, 2), (2, 3)]⟩ := by
  decide +kernel

end PhyModel.Graph
