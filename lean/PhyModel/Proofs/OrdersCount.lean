import PhyModel.Proofs.OrdersEnum
/-! The number of compatible orders in closed form (`countF`, a product of factorials and binomial
coefficients along the forest), and the code's count `countCode` (mirror of `log_count`) is that
number. -/

namespace PhyModel.Orders

theorem Forest.size_cons (d : List ℕ) (k s : Forest) :
    (Forest.cons d k s).size = k.size + d.length + s.size := by
  show ((k.all ++ d) ++ s.all).length = k.all.length + d.length + s.all.length
  rw [List.length_append, List.length_append]

/-- the number of compatible orders in closed (binomial-product) form -/
def countF : Forest → ℕ
  | .nil => 1
  | .cons d k s =>
    countF k * (d.length.factorial * (countF s *
      Nat.choose (k.size + d.length + s.size) (k.size + d.length)))

theorem length_orders : ∀ f : Forest, (orders f).length = countF f := by
  intro f
  induction f with
  | nil => rfl
  | cons d k s ihk ihs =>
    rw [orders, countF, length_flatMap_const _ _ _ fun ok hok => ?_, ihk]
    rw [length_flatMap_const _ _ _ fun pd hpd => ?_, length_perms]
    rw [length_flatMap_const _ _ _ fun os hos => ?_, ihs]
    rw [length_inter, List.length_append, length_of_mem_orders k ok hok,
      length_of_mem_orders s os hos, (perm_of_mem_perms d pd hpd).length_eq]

theorem length_allOrders (f : Forest) (out : List ℕ) :
    (allOrders f out).length
      = countF f * (out.length.factorial * Nat.choose (f.size + out.length) f.size) := by
  rw [allOrders, length_flatMap_const _ _ _ fun o ho => ?_, length_orders]
  rw [length_flatMap_const _ _ _ fun po hpo => ?_, length_perms]
  rw [length_inter, length_of_mem_orders f o ho, (perm_of_mem_perms out po hpo).length_eq]

#print axioms length_allOrders

theorem countF_pos : ∀ f : Forest, 0 < countF f := by
  intro f
  induction f with
  | nil => exact Nat.one_pos
  | cons d k s ihk ihs =>
    exact Nat.mul_pos ihk (Nat.mul_pos (Nat.factorial_pos _)
      (Nat.mul_pos ihs (Nat.choose_pos (Nat.le_add_right _ _))))

/-! ### the code's count -/

theorem fact_eq (n : ℕ) : fact n = n.factorial := by
  induction n with
  | zero => rfl
  | succ n ih => rw [fact, ih, Nat.factorial_succ]

theorem foldl_mul_eq (l : List ℚ) (c : ℚ) : l.foldl (· * ·) c = c * l.prod := by
  induction l generalizing c with
  | nil => rw [List.foldl_nil, List.prod_nil, mul_one]
  | cons a l ih => rw [List.foldl_cons, List.prod_cons, ih, mul_assoc]

theorem multinomial_eq (l : List ℕ) :
    multinomial l = (l.sum.factorial : ℚ) / (l.map fun x => (x.factorial : ℚ)).prod := by
  unfold multinomial
  rw [foldl_mul_eq, one_mul, fact_eq]
  congr 2
  exact List.map_congr_left fun x _ => by rw [fact_eq]

theorem multinomial_cons (a : ℕ) (l : List ℕ) :
    multinomial (a :: l) = (Nat.choose (a + l.sum) a : ℚ) * multinomial l := by
  rw [multinomial_eq, multinomial_eq, Nat.cast_add_choose, List.sum_cons, List.map_cons,
    List.prod_cons]
  have hs : (l.sum.factorial : ℚ) ≠ 0 := Nat.cast_ne_zero.mpr (Nat.factorial_ne_zero _)
  rw [div_mul_div_comm, mul_comm _ (l.sum.factorial : ℚ), mul_assoc,
    mul_left_comm (a.factorial : ℚ), mul_div_mul_left _ _ hs]

theorem sum_sizes : ∀ f : Forest, (sizes f).sum = f.size := by
  intro f
  induction f with
  | nil => rfl
  | cons d k s _ ihs => rw [sizes, List.sum_cons, ihs, Forest.size_cons]

theorem prodCounts_eq : ∀ f : Forest, prodCounts f * multinomial (sizes f) = (countF f : ℚ) := by
  intro f
  induction f with
  | nil => rw [prodCounts, sizes, multinomial_eq]; simp [countF]
  | cons d k s ihk ihs =>
    rw [prodCounts, sizes, countF, multinomial_cons, sum_sizes, fact_eq, Nat.cast_mul, Nat.cast_mul,
      Nat.cast_mul, ← ihk, ← ihs]
    ring

/-- the code's count (probability-domain transcription of `log_count`, with the outlier
permutations) equals the number of enumerated orders -/
theorem countCode_eq_length (f : Forest) (out : List ℕ) :
    countCode f out.length = ((allOrders f out).length : ℚ) := by
  rw [length_allOrders, countCode, prodCounts_eq, fact_eq, fact_eq, fact_eq, Nat.cast_mul,
    Nat.cast_mul, Nat.cast_add_choose, mul_comm (out.length.factorial : ℚ)]
  ring

#print axioms countCode_eq_length

theorem countCode_pos (f : Forest) (m : ℕ) : 0 < countCode f m := by
  have h := countCode_eq_length f (List.replicate m 0)
  rw [List.length_replicate] at h
  rw [h, length_allOrders, List.length_replicate]
  have h1 := countF_pos f
  have h2 := Nat.factorial_pos m
  have h3 : 0 < Nat.choose (f.size + m) f.size := Nat.choose_pos (by omega)
  exact_mod_cast Nat.mul_pos h1 (Nat.mul_pos h2 h3)

end PhyModel.Orders
