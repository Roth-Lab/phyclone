import Mathlib.Data.List.Nodup
import Mathlib.Data.List.Perm.Basic
import PhyModel.Model.Table
/-! Helper lemmas for C12 (result tables): labels of a labelled forest, `uniq`, `group`, the
sample index, generic list-permutation facts. -/
namespace PhyModel.Table
open List

/-! ### labelled forests -/

theorem LF.labels_map_fst (f : LF) : f.labels.map Prod.fst = f.dps := by
  induction f with
  | nil => rfl
  | cons i d k s ihk ihs => simp [LF.labels, LF.dps, ihk, ihs, Function.comp_def]

theorem LF.labels_snd_mem (f : LF) : ∀ p ∈ f.labels, p.2 ∈ f.ids := by
  induction f with
  | nil =>
    intro p hp
    simp [LF.labels] at hp
  | cons i d k s ihk ihs =>
    intro p hp
    simp only [LF.labels, mem_append, mem_map] at hp
    simp only [LF.ids, mem_cons, mem_append]
    rcases hp with ⟨x, _, rfl⟩ | hp | hp
    · exact Or.inl rfl
    · exact Or.inr (Or.inl (ihk p hp))
    · exact Or.inr (Or.inr (ihs p hp))

theorem labelsOf_map_fst (f : LF) (o : List Nat) : (labelsOf f o).map Prod.fst = f.dps ++ o := by
  simp [labelsOf, LF.labels_map_fst, Function.comp_def]

theorem labelsOf_snd (f : LF) (o : List Nat) : ∀ p ∈ labelsOf f o, p.2 ∈ f.ids ∨ p.2 = -1 := by
  intro p hp
  simp only [labelsOf, mem_append, mem_map] at hp
  rcases hp with hp | ⟨x, _, rfl⟩
  · exact Or.inl (LF.labels_snd_mem f p hp)
  · exact Or.inr rfl

theorem labelsOf_fst_mem (f : LF) (o : List Nat) : ∀ p ∈ labelsOf f o, p.1 ∈ f.dps ++ o := by
  intro p hp
  rw [← labelsOf_map_fst]
  exact mem_map_of_mem hp

/-- in a well-formed tree a data point has one label -/
theorem labelsOf_inj (f : LF) (o : List Nat) (h : (f.dps ++ o).Nodup) :
    ∀ p ∈ labelsOf f o, ∀ q ∈ labelsOf f o, p.1 = q.1 → p = q := by
  rw [← labelsOf_map_fst] at h
  exact inj_on_of_nodup_map h

/-! ### `uniq` and `group` -/

theorem mem_uniq (a : String) (l : List String) : a ∈ uniq l ↔ a ∈ l := by
  induction l with
  | nil => simp [uniq]
  | cons b l ih =>
    simp only [uniq, mem_cons, mem_filter, ih, bne_iff_ne, ne_eq]
    constructor
    · rintro (h | ⟨h, _⟩)
      · exact Or.inl h
      · exact Or.inr h
    · intro h
      by_cases hab : a = b
      · exact Or.inl hab
      · rcases h with h | h
        · exact absurd h hab
        · exact Or.inr ⟨h, hab⟩

theorem uniq_of_nodup (l : List String) (h : l.Nodup) : uniq l = l := by
  induction l with
  | nil => rfl
  | cons b l ih =>
    rw [nodup_cons] at h
    simp only [uniq, ih h.2]
    congr 1
    rw [filter_eq_self]
    intro a ha
    simp only [bne_iff_ne, ne_eq]
    rintro rfl
    exact h.1 ha

theorem mem_group (cl : List (String × Int)) (c : Int) (m : String) :
    m ∈ group cl c ↔ (m, c) ∈ cl := by
  unfold group
  rw [mem_uniq]
  simp only [mem_map, mem_filter, beq_iff_eq]
  constructor
  · rintro ⟨⟨m', c'⟩, ⟨h, rfl⟩, rfl⟩
    exact h
  · intro h
    exact ⟨(m, c), ⟨h, rfl⟩, rfl⟩

theorem group_of_nodup (cl : List (String × Int)) (c : Int) (h : (cl.map Prod.fst).Nodup) :
    group cl c = (cl.filter (fun r => r.2 == c)).map Prod.fst := by
  unfold group
  apply uniq_of_nodup
  exact (h.sublist ((filter_sublist).map _))

/-! ### the sample index -/

theorem sampleIdxFrom_some {l : List String} {pos j : Nat} {s : String} (h : sampleIdxFrom l pos s = some j) :
    ∃ i, j = pos + i ∧ l[i]? = some s := by
  induction l generalizing pos with
  | nil => cases h
  | cons a l ih =>
    unfold sampleIdxFrom at h
    split at h
    · next j' hrec =>
      cases h
      obtain ⟨i, rfl, hi⟩ := ih hrec
      exact ⟨i + 1, Nat.add_right_comm pos 1 i, hi⟩
    · split at h
      · next ha =>
        cases h
        exact ⟨0, rfl, congrArg some ha⟩
      · cases h

theorem sampleIdxFrom_isSome {l : List String} (pos : Nat) {s : String} (hs : s ∈ l) :
    ∃ j, sampleIdxFrom l pos s = some j := by
  induction l generalizing pos with
  | nil => cases hs
  | cons a l ih =>
    unfold sampleIdxFrom
    split
    · next j hrec => exact ⟨j, rfl⟩
    · next hrec =>
      rcases mem_cons.mp hs with h | h
      · exact ⟨pos, if_pos h.symm⟩
      · obtain ⟨j, hj⟩ := ih (pos + 1) h
        exact nomatch hrec ▸ hj

/-- for a sample of the list, `sampleIdx` is a position holding that sample -/
theorem sampleIdx_spec (samples : List String) (s : String) (hs : s ∈ samples) :
    samples[sampleIdx samples s]? = some s := by
  obtain ⟨j, hj⟩ := sampleIdxFrom_isSome 0 hs
  obtain ⟨i, rfl, hi⟩ := sampleIdxFrom_some hj
  unfold sampleIdx
  rw [hj, Option.getD_some, Nat.zero_add]
  exact hi

theorem sampleIdx_lt (samples : List String) (s : String) (hs : s ∈ samples) :
    sampleIdx samples s < samples.length := by
  have := sampleIdx_spec samples s hs
  by_contra hc
  rw [getElem?_eq_none (by omega)] at this
  cases this

/-! ### permutation facts -/

/-- a duplicate-free sub-collection followed by the rest is a permutation of the whole -/
theorem append_filter_not_mem_perm {α : Type} [DecidableEq α] (l names : List α)
    (hl : l.Nodup) (hn : names.Nodup) (hsub : ∀ a ∈ l, a ∈ names) :
    (l ++ names.filter (fun m => !(l.contains m))).Perm names := by
  have h1 : (names.filter (fun m => l.contains m)).Perm l := by
    rw [perm_ext_iff_of_nodup (hn.filter _) hl]
    intro a
    simp only [mem_filter, contains_iff_mem]
    exact ⟨fun h => h.2, fun h => ⟨hsub a h, h⟩⟩
  have h2 := filter_append_perm (fun m => l.contains m) names
  exact (Perm.append_right _ h1.symm).trans h2

end PhyModel.Table
