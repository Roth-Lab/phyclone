import PhyModel.Proofs.HoldsProposal
import PhyModel.Proofs.PGRetained
/-! # The SMC sweeps keep every particle well formed

For every outcome of every draw of `SMC.csmc` (conditional SMC: retained path in slot 0, adaptive
resampling, propagation by `Proposal.sampler`) and of `SMC.smc` (the unconditional sweep of the burn-in
sampler), every particle of the swarm after the data point at position `t` is a well-formed tree
holding exactly `σ.take (t+1)`; hence every tree listed by `SMC.pgStep` / `SMC.smcStep` for a complete
well-formed start tree is a complete well-formed tree on the same data. -/

namespace PhyModel.RunOK
open Orders Orders.Forest Proposal PGSpec PG SMC

theorem take_succ_of_get {σ : List ℕ} {t i : ℕ} (h : σ[t]? = some i) : σ.take (t + 1) = σ.take t ++ [i] := by
  rw [List.take_add_one, h]; rfl

theorem not_mem_take {σ : List ℕ} (hnd : σ.Nodup) {t i : ℕ} (h : σ[t]? = some i) : i ∉ σ.take t := by
  obtain ⟨ht, rfl⟩ := List.getElem?_eq_some_iff.1 h
  exact getElem_not_mem_take hnd (Nat.le_refl t) ht

theorem sampleOrder_support (f : DF) (out : List ℕ) :
    AllD (fun σ => σ ∈ allOrders f out) (sampleOrder f out) :=
  allD_bind (P := fun o => o ∈ orders f) (sampleF_support f) fun o ho =>
    allD_bind (allD_uniform fun _ hpo => hpo) fun po hpo =>
      allD_uniform fun _ hσ => List.mem_flatMap.2 ⟨o, ho, List.mem_flatMap.2 ⟨po, hpo, hσ⟩⟩

section sweeps
variable (r : SMC.Run)

/-- all particles of a swarm hold `K` -/
def AllHold (K : List ℕ) (sw : Swarm) : Prop := ∀ pw ∈ sw, Holds r.c K pw.1

/-- a swarm of the conditional sampler: slot 0 exists -/
def SwOK (K : List ℕ) (sw : Swarm) : Prop := sw ≠ [] ∧ AllHold r K sw

theorem swOK_cons {K : List ℕ} {pw : T × ℚ} {l : Swarm} (h : Holds r.c K pw.1) (hl : AllHold r K l) :
    SwOK r K (pw :: l) :=
  ⟨List.cons_ne_nil _ _, List.forall_mem_cons.2 ⟨h, hl⟩⟩

theorem allHold_empty (n : ℕ) (u : ℚ) : AllHold r [] ((List.range n).map fun _ => (T.empty, u)) :=
  List.forall_mem_map.2 fun _ _ => holds_empty r.c

theorem propose_holds (first last : Bool) {K : List ℕ} {p : T} (W : ℚ) {i : ℕ} (hp : Holds r.c K p)
    (hi : i ∉ K) (hb : i < Forest.big) :
    AllD (fun pw => Holds r.c (K ++ [i]) pw.1) (propose r first last p W i) := by
  unfold propose
  exact allD_fmap (sampler_holds r.dt first hp hi hb)

theorem proposeAll_holds (first last : Bool) {K : List ℕ} {i : ℕ} (hi : i ∉ K) (hb : i < Forest.big) :
    ∀ l : List (T × ℚ), AllHold r K l → AllD (AllHold r (K ++ [i])) (proposeAll r first last i l)
  | [], _ => allD_pure (List.forall_mem_nil _)
  | (p, W) :: rest, hl => by
    obtain ⟨hp, hrest⟩ := List.forall_mem_cons.1 hl
    unfold proposeAll
    exact allD_bind (propose_holds r first last W hp hi hb) fun pw' hpw' =>
      allD_fmap ((proposeAll_holds first last hi hb rest hrest).mono fun l' hl' =>
        List.forall_mem_cons.2 ⟨hpw', hl'⟩)

theorem ancestorSeqs_lt (sw : Swarm) : ∀ m : ℕ, AllD (fun anc => ∀ a ∈ anc, a < sw.length) (ancestorSeqs sw m)
  | 0 => allD_pure (List.forall_mem_nil _)
  | m + 1 => by
    unfold ancestorSeqs
    exact allD_bind (P := fun a => a < sw.length)
      (allD_categorical (List.forall_mem_map.2 fun _ hk => List.mem_range.1 hk)) fun a ha =>
        allD_fmap ((ancestorSeqs_lt sw m).mono fun l hl => List.forall_mem_cons.2 ⟨ha, hl⟩)

theorem getD_mem {sw : Swarm} {a : ℕ} (ha : a < sw.length) (d : T × ℚ) : sw.getD a d ∈ sw := by
  simp only [List.getD, List.getElem?_eq_getElem ha, Option.getD_some]
  exact List.getElem_mem ha

/-- both resampling steps only copy particles of the swarm: the slots drawn as ancestors -/
theorem copies_hold {K : List ℕ} {sw : Swarm} (h : AllHold r K sw) {anc : List ℕ}
    (hanc : ∀ a ∈ anc, a < sw.length) (u : ℚ) :
    AllHold r K ((sortNat anc).map fun a => ((sw.getD a (T.empty, 0)).1, u)) :=
  List.forall_mem_map.2 fun a ha => h (sw.getD a _) (getD_mem (hanc a (mem_sortNat.1 ha)) _)

/-- `_resample_swarm` of the conditional sampler: slot 0 keeps the retained particle -/
theorem resample_ok {K : List ℕ} {sw : Swarm} (h : SwOK r K sw) : AllD (SwOK r K) (resample r sw) := by
  unfold resample
  split
  · refine allD_norm (allD_fmap ((ancestorSeqs_lt sw (r.N - 1)).mono fun anc hanc => ?_))
    exact swOK_cons r (h.2 (sw.getD 0 _) (getD_mem (List.length_pos_iff.mpr h.1) _)) (copies_hold r h.2 hanc _)
  · exact allD_pure h

/-- `SMCSampler._resample_swarm` -/
theorem resampleFree_ok {K : List ℕ} {sw : Swarm} (h : AllHold r K sw) :
    AllD (AllHold r K) (resampleFree r sw) := by
  unfold resampleFree
  split
  · exact allD_norm (allD_fmap ((ancestorSeqs_lt sw r.N).mono fun anc hanc => copies_hold r h hanc _))
  · exact allD_pure h

theorem select_ok {K : List ℕ} {sw : Swarm} (h : AllHold r K sw) : AllD (Holds r.c K) (select sw) :=
  allD_categorical h

/-! ### the unconditional sweep along an order `σ` of distinct data points below the sentinel -/

variable {σ : List ℕ} (hnd : σ.Nodup) (hbig : ∀ i ∈ σ, i < Forest.big)
include hnd hbig

theorem sweepFree_ok :
    ∀ (fuel t : ℕ) (d : Dist Swarm), σ.length - t ≤ fuel → AllD (AllHold r (σ.take t)) d →
      AllD (AllHold r σ) (sweepFree r σ fuel t d) := by
  intro fuel
  induction fuel with
  | zero =>
    intro t d hf hd
    rw [List.take_of_length_le (Nat.le_of_sub_eq_zero (Nat.le_zero.1 hf))] at hd
    exact hd
  | succ fuel ih =>
    intro t d hf hd
    unfold sweepFree
    cases hget : σ[t]? with
    | none =>
      rw [List.take_of_length_le (List.getElem?_eq_none_iff.1 hget)] at hd
      exact hd
    | some i =>
      have hupd : AllD (AllHold r (σ.take (t + 1)))
          (Dist.norm (Dist.bind d fun sw => proposeAll r (t == 0) (t + 1 == σ.length) i sw)) := by
        rw [take_succ_of_get hget]
        exact allD_norm (allD_bind hd fun sw hsw =>
          proposeAll_holds r _ _ (not_mem_take hnd hget) (hbig _ (List.mem_of_getElem? hget)) sw hsw)
      refine ih (t + 1) _ (Nat.pred_le_pred hf) (allD_ite (fun _ => hupd) fun _ => ?_)
      exact allD_norm (allD_bind hupd fun sw hsw => resampleFree_ok r hsw)

theorem smc_ok : AllD (AllHold r σ) (smc r σ) :=
  sweepFree_ok r hnd hbig σ.length 0 _ (Nat.sub_le _ _)
    (allD_pure (allHold_empty r _ _))

/-! ### the conditional sweep from a tree `x` reached along `σ` -/

variable {x : T} (hx : x ∈ level r.c σ σ.length)
include hx

theorem retained_holds {t : ℕ} (ht : t ≤ σ.length) : Holds r.c (σ.take t) (restrict x (σ.take t)) := by
  obtain ⟨f, h1, _, h3, _⟩ := exists_path hnd hbig σ.length x hx
  rw [h3 t ht]
  exact ⟨level_wft r.c σ hnd hbig (h1 t ht), (level_inv r.c σ t _ (h1 t ht)).perm⟩

theorem initSwarm_ok (hne : σ ≠ []) : AllD (SwOK r (σ.take 1)) (initSwarm r x σ) := by
  cases σ with
  | nil => exact absurd rfl hne
  | cons i rest =>
    unfold initSwarm
    refine allD_fmap ((proposeAll_holds r true rest.isEmpty (K := []) List.not_mem_nil
      (hbig i List.mem_cons_self) _ (allHold_empty r _ _)).mono fun l hl => ?_)
    exact swOK_cons r (retained_holds r hnd hbig hx (t := 1) (Nat.succ_le_succ (Nat.zero_le _))) hl

theorem update_ok {t : ℕ} (ht : t < σ.length) {sw : Swarm} (h : SwOK r (σ.take t) sw) :
    AllD (SwOK r (σ.take (t + 1))) (update r x σ t sw) := by
  have hget : σ[t]? = some σ[t] := List.getElem?_eq_getElem ht
  unfold update
  rw [hget]
  cases sw with
  | nil => exact absurd rfl h.1
  | cons pw rest =>
    refine allD_fmap ((proposeAll_holds r false _ (not_mem_take hnd hget)
      (hbig _ (List.getElem_mem ht)) rest (List.forall_mem_cons.1 h.2).2).mono fun l hl => ?_)
    rw [← take_succ_of_get hget] at hl
    exact swOK_cons r (retained_holds r hnd hbig hx (t := t + 1) ht) hl

theorem sweep_ok :
    ∀ (fuel t : ℕ) (d : Dist Swarm), σ.length - t ≤ fuel → AllD (SwOK r (σ.take t)) d →
      AllD (SwOK r σ) (SMC.sweep r x σ fuel t d) := by
  intro fuel
  induction fuel with
  | zero =>
    intro t d hf hd
    rw [List.take_of_length_le (Nat.le_of_sub_eq_zero (Nat.le_zero.1 hf))] at hd
    exact hd
  | succ fuel ih =>
    intro t d hf hd
    refine allD_ite (fun h => ?_) (fun h => ?_)
    · rw [List.take_of_length_le h] at hd
      exact hd
    · exact ih (t + 1) _ (Nat.pred_le_pred hf) (allD_norm (allD_bind hd fun sw hsw =>
        allD_bind (resample_ok r hsw) fun sw' hsw' => update_ok r hnd hbig hx (Nat.lt_of_not_le h) hsw'))

/-- every swarm the conditional SMC sweep can end with consists of well-formed trees holding all of `σ` -/
theorem csmc_ok (hne : σ ≠ []) : AllD (SwOK r σ) (csmc r x σ) := by
  have h0 : AllD (SwOK r (σ.take 1)) (Dist.norm (initSwarm r x σ)) := allD_norm (initSwarm_ok r hnd hbig hx hne)
  unfold csmc
  simp only
  split
  · rw [List.take_of_length_le (Nat.le_of_eq ‹_›)] at h0
    exact allD_norm (allD_bind h0 fun sw hsw => resample_ok r hsw)
  · exact sweep_ok r hnd hbig hx σ.length 1 _ (Nat.sub_le _ _) h0

end sweeps

theorem order_ok {c : Cfg} {D : List ℕ} {x : T} (hx : Holds c D x) {σ : List ℕ} (hσ : σ ∈ allOrders x.f x.out) :
    σ.Perm D ∧ σ.Nodup ∧ ∀ i ∈ σ, i < Forest.big :=
  have hperm := (allOrders_sound _ _ _ hσ).1
  ⟨hperm.trans hx.perm, hperm.nodup_iff.mpr hx.wft.nodup, fun i hi => hx.wft.big i (hperm.subset hi)⟩

/-- every swarm of the conditional sweep, for any order the permutation sampler can draw -/
theorem csmc_allHold (r : SMC.Run) {D : List ℕ} {x : T} (hx : Holds r.c D x) {σ : List ℕ}
    (hσ : σ ∈ allOrders x.f x.out) : AllD (AllHold r D) (csmc r x σ) := by
  obtain ⟨hperm, hnd, hbig⟩ := order_ok hx hσ
  by_cases hne : σ = []
  · subst hne
    show AllD _ (Dist.norm (Dist.pure []))
    exact allD_norm (allD_pure (List.forall_mem_nil _))
  · have hlev := (reachable_iff_order r.c σ hnd x hx.wft).mpr hσ
    exact (csmc_ok r hnd hbig hlev hne).mono fun sw hsw pw hpw => (hsw.2 pw hpw).of_perm hperm

theorem smc_allHold (r : SMC.Run) {D : List ℕ} {x : T} (hx : Holds r.c D x) {σ : List ℕ}
    (hσ : σ ∈ allOrders x.f x.out) : AllD (AllHold r D) (smc r σ) := by
  obtain ⟨hperm, hnd, hbig⟩ := order_ok hx hσ
  exact (smc_ok r hnd hbig).mono fun sw hsw pw hpw => (hsw pw hpw).of_perm hperm

/-- **particle Gibbs, whole tree**: every tree listed by `SMC.pgStep` for a well-formed tree `x` holding
the data points `D` is a well-formed tree holding `D` -/
theorem pgStep_holds (r : SMC.Run) {D : List ℕ} {x : T} (hx : Holds r.c D x) :
    AllD (Holds r.c D) (pgStep r x) :=
  allD_norm (allD_bind (allD_norm (sampleOrder_support x.f x.out)) fun _ hσ =>
    allD_bind (csmc_allHold r hx hσ) fun _ hsw => select_ok r hsw)

/-- **burn-in sampler**: every tree listed by `SMC.smcStep` for a well-formed tree `x` holding `D` is a
well-formed tree holding `D` -/
theorem smcStep_holds (r : SMC.Run) {D : List ℕ} {x : T} (hx : Holds r.c D x) :
    AllD (Holds r.c D) (smcStep r x) :=
  allD_norm (allD_bind (allD_norm (sampleOrder_support x.f x.out)) fun _ hσ =>
    allD_bind (smc_allHold r hx hσ) fun _ hsw => select_ok r hsw)

end PhyModel.RunOK
