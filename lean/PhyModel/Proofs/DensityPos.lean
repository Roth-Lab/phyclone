import PhyModel.Proofs.LikPos
import Mathlib.Algebra.Order.Field.Basic
/-! Every factor of the joint density is positive (so both log-densities are finite). -/

namespace PhyModel

theorem rpow_eq_pow (q : ℚ) (n : ℕ) : rpow q n = q ^ n := by
  induction n with
  | zero => simp [rpow]
  | succ n ih => rw [rpow, ih, pow_succ]; ring

theorem rpow_pos {q : ℚ} (h : 0 < q) (n : ℕ) : 0 < rpow q n := by
  rw [rpow_eq_pow]; exact pow_pos h n

theorem fact_pos' (n : ℕ) : 0 < Orders.fact n := by
  induction n with
  | zero => simp [Orders.fact]
  | succ n ih => simp only [Orders.fact]; exact Nat.mul_pos (Nat.succ_pos n) ih

theorem factQ_pos (n : ℕ) : 0 < factQ n := by
  unfold factQ; exact_mod_cast fact_pos' n

namespace Density

theorem sizeTerm_pos (f : DF) : 0 < sizeTerm f := by
  induction f with
  | nil => exact zero_lt_one
  | cons d k s ihk ihs =>
    simp only [sizeTerm]; exact qmul_pos (qmul_pos (factQ_pos _) ihk) ihs

theorem crp_pos {α : ℚ} (hα : 0 < α) (f : DF) : 0 < crp α f :=
  qmul_pos (rpow_pos hα _) (sizeTerm_pos f)

theorem topoMarg_pos (f : DF) : 0 < topoMarg f := by
  unfold topoMarg
  split
  · exact zero_lt_one
  · exact qone_div_pos (rpow_pos (Nat.cast_add_one_pos _) _)

theorem subtreeTerm_pos (f : DF) : 0 < subtreeTerm f := by
  induction f with
  | nil => exact zero_lt_one
  | cons d k s _ ihs =>
    simp only [subtreeTerm]
    refine qmul_pos (qone_div_pos (rpow_pos ?_ _)) ihs
    exact_mod_cast (by omega : 0 < 1 + k.nodes)

theorem rTerm_pos (r : ℕ) : 0 < rTerm r := by
  unfold rTerm
  split
  · exact zero_lt_one
  · rename_i hr
    have hc1 : (1 : ℚ) < cConst := by decide
    have hc : (0 : ℚ) < cConst := zero_lt_one.trans hc1
    have h1 : (1 : ℚ) < rpow cConst r := by
      rw [rpow_eq_pow]
      exact one_lt_pow₀ hc1 hr
    have h2 : 1 / rpow cConst r < 1 := (div_lt_one (zero_lt_one.trans h1)).2 h1
    exact qmul_pos (qone_div_pos (rpow_pos hc _))
      (qdiv_pos (sub_pos.2 ((div_lt_one hc).2 hc1)) (sub_pos.2 h2))

theorem topoOne_pos (f : DF) : 0 < topoOne f := qmul_pos (subtreeTerm_pos f) (rTerm_pos _)

theorem multNodes_pos (f : DF) : 0 < multNodes f := by
  induction f with
  | nil => exact zero_lt_one
  | cons d k s ihk ihs =>
    simp only [multNodes]
    exact qmul_pos (qmul_pos (qone_div_pos (factQ_pos _)) ihk) ihs

theorem mult_pos (f : DF) : 0 < mult f :=
  qmul_pos (qone_div_pos (factQ_pos _)) (multNodes_pos f)

theorem prodL_range_pos (n : ℕ) (F : ℕ → ℚ) (h : ∀ s, s < n → 0 < F s) :
    0 < prodL ((List.range n).map F) :=
  prodL_map_pos _ F fun s hs => h s (List.mem_range.mp hs)

theorem outlierPriorIn_pos (dt : Data) (l : List ℕ) (h : ∀ i ∈ l, dt.opOf i < 1) :
    0 < outlierPriorIn dt l := by
  refine prodL_map_pos _ _ fun i hi => ?_
  split
  · exact zero_lt_one
  · exact rpow_pos (sub_pos.2 (h i hi)) _

theorem outlierPriorOut_pos (dt : Data) (l : List ℕ) (h : ∀ i ∈ l, 0 ≤ dt.opOf i) :
    0 < outlierPriorOut dt l := by
  refine prodL_map_pos _ _ fun i hi => ?_
  split
  · exact zero_lt_one
  · rename_i hne
    exact rpow_pos (lt_of_le_of_ne (h i hi) (Ne.symm hne)) _

theorem dataMarg_pos (dt : Data) (hG : 0 < dt.G) (f : DF)
    (hL : ∀ i ∈ f.all, ∀ s, s < dt.S → ∀ k, k < dt.G → 0 < getQ (dt.L i s) k) :
    0 < dataMarg dt f := by
  unfold dataMarg
  split
  · exact zero_lt_one
  · exact prodL_range_pos _ _ fun s hs => vsum_rootR_pos dt hG s f fun i hi => hL i hi s hs

theorem dataOne_pos (dt : Data) (hG : 0 < dt.G) (f : DF)
    (hL : ∀ i ∈ f.all, ∀ s, s < dt.S → ∀ k, k < dt.G → 0 < getQ (dt.L i s) k) :
    0 < dataOne dt f := by
  unfold dataOne
  split
  · exact zero_lt_one
  · exact prodL_range_pos _ _ fun s hs =>
      rootR_pos' dt hG s f (fun i hi => hL i hi s hs) (dt.G - 1) (by omega)

theorem outlierMarg_pos (dt : Data) (hG : 0 < dt.G) (out : List ℕ)
    (hL : ∀ i ∈ out, ∀ s, s < dt.S → ∀ k, k < dt.G → 0 < getQ (dt.L i s) k) :
    0 < outlierMarg dt out := by
  refine prodL_map_pos _ _ fun i hi => prodL_range_pos _ _ fun s hs =>
    vsum_rootR_pos dt hG s _ fun j hj => ?_
  simp only [Orders.Forest.all, List.nil_append, List.append_nil, List.mem_singleton] at hj
  subst hj
  exact hL j hi s hs

theorem common_pos (dt : Data) {α : ℚ} (hα : 0 < α) (hG : 0 < dt.G) (f : DF) (out : List ℕ)
    (hLo : ∀ i ∈ out, ∀ s, s < dt.S → ∀ k, k < dt.G → 0 < getQ (dt.L i s) k)
    (hopf : ∀ i ∈ f.all, dt.opOf i < 1) (hopo : ∀ i ∈ out, 0 ≤ dt.opOf i) :
    0 < common dt α f out := by
  unfold common
  exact qmul_pos (qmul_pos (qmul_pos (qmul_pos (crp_pos hα f) (mult_pos f))
    (outlierPriorIn_pos dt _ hopf)) (outlierPriorOut_pos dt _ hopo)) (outlierMarg_pos dt hG out hLo)

theorem pOne_pos' (dt : Data) {α : ℚ} (hα : 0 < α) (hG : 0 < dt.G) (f : DF) (out : List ℕ)
    (hLf : ∀ i ∈ f.all, ∀ s, s < dt.S → ∀ k, k < dt.G → 0 < getQ (dt.L i s) k)
    (hLo : ∀ i ∈ out, ∀ s, s < dt.S → ∀ k, k < dt.G → 0 < getQ (dt.L i s) k)
    (hopf : ∀ i ∈ f.all, dt.opOf i < 1) (hopo : ∀ i ∈ out, 0 ≤ dt.opOf i) :
    0 < pOne dt α f out :=
  qmul_pos (qmul_pos (common_pos dt hα hG f out hLo hopf hopo) (topoOne_pos f)) (dataOne_pos dt hG f hLf)

theorem pMarg_pos' (dt : Data) {α : ℚ} (hα : 0 < α) (hG : 0 < dt.G) (f : DF) (out : List ℕ)
    (hLf : ∀ i ∈ f.all, ∀ s, s < dt.S → ∀ k, k < dt.G → 0 < getQ (dt.L i s) k)
    (hLo : ∀ i ∈ out, ∀ s, s < dt.S → ∀ k, k < dt.G → 0 < getQ (dt.L i s) k)
    (hopf : ∀ i ∈ f.all, dt.opOf i < 1) (hopo : ∀ i ∈ out, 0 ≤ dt.opOf i) :
    0 < pMarg dt α f out :=
  qmul_pos (qmul_pos (common_pos dt hα hG f out hLo hopf hopo) (topoMarg_pos f)) (dataMarg_pos dt hG f hLf)

end Density
end PhyModel
