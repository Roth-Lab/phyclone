import PhyModel.Model.SMC
import Mathlib.Data.List.Basic
import Mathlib.Data.Rat.Defs
/-! # Support calculus for the finite `Dist` monad

`AllD P d` says that every outcome *listed* by the finite distribution `d` satisfies `P` — also the
outcomes listed with probability 0, so the statement is about a superset of the support and no
positivity or normalisation hypothesis is ever needed.  One rule per combinator of `Model/Dist.lean`
and `Model/Proposal.lean`. -/

namespace PhyModel.RunOK

/-- every listed outcome of `d` satisfies `P` -/
def AllD {α : Type} (P : α → Prop) (d : Dist α) : Prop := ∀ aq ∈ d, P aq.1

/-- `y` is one of the outcomes the finite distribution `d` lists -/
def Listed {α : Type} (d : Dist α) (y : α) : Prop := ∃ q, (y, q) ∈ d

theorem AllD.listed {α : Type} {P : α → Prop} {d : Dist α} (h : AllD P d) {y : α} (hy : Listed d y) : P y := by
  obtain ⟨q, hq⟩ := hy
  exact h (y, q) hq

theorem listed_of_mem {α : Type} {d : Dist α} {y : α} (h : y ∈ d.map (·.1)) : Listed d y := by
  obtain ⟨⟨_, q⟩, hm, rfl⟩ := List.mem_map.1 h
  exact ⟨q, hm⟩

variable {α β : Type}

theorem AllD.mono {P Q : α → Prop} {d : Dist α} (h : AllD P d) (hpq : ∀ a, P a → Q a) : AllD Q d :=
  fun aq haq => hpq _ (h aq haq)

theorem allD_nil (P : α → Prop) : AllD P ([] : Dist α) := List.forall_mem_nil _

theorem allD_pure {P : α → Prop} {a : α} (h : P a) : AllD P (Dist.pure a) :=
  List.forall_mem_singleton.2 h

theorem allD_map {P : β → Prop} {g : α × ℚ → β × ℚ} {d : Dist α} (h : ∀ aq ∈ d, P (g aq).1) :
    AllD P (d.map g) :=
  List.forall_mem_map.2 h

theorem allD_bind {P : α → Prop} {Q : β → Prop} {d : Dist α} {k : α → Dist β} (hd : AllD P d)
    (hk : ∀ a, P a → AllD Q (k a)) : AllD Q (Dist.bind d k) := by
  intro bq hbq
  obtain ⟨ap, hap, hbq⟩ := List.mem_flatMap.1 hbq
  exact allD_map (g := fun bq => (bq.1, ap.2 * bq.2)) (hk ap.1 (hd ap hap)) bq hbq

theorem allD_bind_any {Q : β → Prop} {d : Dist α} {k : α → Dist β} (hk : ∀ a, AllD Q (k a)) :
    AllD Q (Dist.bind d k) :=
  allD_bind (P := fun _ => True) (fun _ _ => trivial) fun a _ => hk a

theorem allD_fmap {P : β → Prop} {g : α → β} {d : Dist α} (hd : AllD (fun a => P (g a)) d) :
    AllD P (Dist.fmap g d) :=
  allD_map hd

theorem allD_uniform {P : α → Prop} {l : List α} (h : ∀ a ∈ l, P a) : AllD P (Dist.uniform l) :=
  List.forall_mem_map.2 h

theorem allD_categorical {P : α → Prop} {l : List (α × ℚ)} (h : ∀ aw ∈ l, P aw.1) :
    AllD P (Dist.categorical l) :=
  allD_map h

theorem allD_scale {P : α → Prop} {c : ℚ} {d : Dist α} (h : AllD P d) : AllD P (Dist.scale c d) :=
  allD_map h

theorem allD_append {P : α → Prop} {d₁ d₂ : Dist α} (h₁ : AllD P d₁) (h₂ : AllD P d₂) :
    AllD P (d₁ ++ d₂) :=
  List.forall_mem_append.2 ⟨h₁, h₂⟩

theorem allD_addTo [BEq α] {P : α → Prop} {a : α} {q : ℚ} {l : List (α × ℚ)} (ha : P a) (hl : AllD P l) :
    AllD P (Dist.addTo a q l) := by
  induction l with
  | nil => exact List.forall_mem_singleton.2 ha
  | cons bp l ih =>
    obtain ⟨hb, hl'⟩ := List.forall_mem_cons.1 hl
    unfold Dist.addTo
    split
    · exact List.forall_mem_cons.2 ⟨hb, hl'⟩
    · exact List.forall_mem_cons.2 ⟨hb, ih hl'⟩

/-- merging equal outcomes and dropping impossible ones lists no new outcome -/
theorem allD_norm [BEq α] {P : α → Prop} {d : Dist α} (hd : AllD P d) : AllD P (Dist.norm d) := by
  have hfold : ∀ acc : Dist α, AllD P acc →
      AllD P (d.foldl (fun acc aq => Dist.addTo aq.1 aq.2 acc) acc) := by
    induction d with
    | nil => exact fun _ h => h
    | cons x d ih =>
      obtain ⟨hx, hd'⟩ := List.forall_mem_cons.1 hd
      exact fun acc hacc => ih hd' _ (allD_addTo hx hacc)
  exact fun aq haq => hfold [] (allD_nil P) aq (List.mem_of_mem_filter haq)

theorem allD_ite {P : α → Prop} {b : Prop} [Decidable b] {d₁ d₂ : Dist α} (h₁ : b → AllD P d₁)
    (h₂ : ¬ b → AllD P d₂) : AllD P (if b then d₁ else d₂) := by
  split
  · exact h₁ ‹_›
  · exact h₂ ‹_›

end PhyModel.RunOK
