import PhyModel.Proofs.PGReachable
import PhyModel.Proofs.PGPropagate
/-! # C01, stage 3: the retained path.

`SMC.restrictF` — the forest induced on a set of data points — respects forest equivalence, composes, and
preserves well-formedness.  For a tree `x` reached along `σ`, the states `SMC.restrict x (σ.take t)` that
`ConditionalSMCSampler` rebuilds (`_get_constrained_path`) are the ancestors of `x` in the specification:
each is a level-`t` state and the next one is one of its permitted placements (`exists_pathOK`). -/

namespace PhyModel.PG
open Orders Orders.Forest Proposal PGSpec Canon SMC

theorem restrictF_cons_roots (keep : ℕ → Bool) (d : List ℕ) (k s : DF) :
    restrictF keep (.cons d k s) = ofRoots (rr keep (d, k) ++ (restrictF keep s).roots) := by
  simp only [restrictF, rr]
  split
  · rfl
  · simp only [List.singleton_append, ofRoots, ofRoots_roots]

theorem roots_restrictF (keep : ℕ → Bool) (f : DF) :
    (restrictF keep f).roots = f.roots.flatMap (rr keep) := by
  conv_lhs => rw [← ofRoots_roots f, restrictF_ofRoots, roots_ofRoots]

theorem eqv_app_right (l : List (List ℕ × DF)) {g g' : DF} (h : Eqv g g') :
    Eqv (ofRoots (l ++ g.roots)) (ofRoots (l ++ g'.roots)) := by
  induction l with
  | nil => simpa [ofRoots_roots] using h
  | cons a l ih => exact eqv_ofRoots_cons a ih

theorem eqv_app_left (l : List (List ℕ × DF)) {f f' : DF} (h : Eqv f f') :
    Eqv (ofRoots (f.roots ++ l)) (ofRoots (f'.roots ++ l)) := by
  induction h with
  | nil => exact Eqv.refl _
  | cons hd hk _ _ ihs =>
    simp only [roots, List.cons_append, ofRoots]
    exact .cons hd hk ihs
  | swap d₁ k₁ d₂ k₂ s =>
    simp only [roots, List.cons_append, ofRoots]
    exact .swap _ _ _ _ _
  | trans _ _ ih₁ ih₂ => exact ih₁.trans ih₂

theorem eqv_app {f f' g g' : DF} (hf : Eqv f f') (hg : Eqv g g') :
    Eqv (ofRoots (f.roots ++ g.roots)) (ofRoots (f'.roots ++ g'.roots)) :=
  (eqv_app_left g.roots hf).trans (eqv_app_right f'.roots hg)

theorem restrictF_eqv (keep : ℕ → Bool) {f g : DF} (h : Eqv f g) :
    Eqv (restrictF keep f) (restrictF keep g) := by
  induction h with
  | nil => exact Eqv.refl _
  | @cons d d' k k' s s' hd _ _ ihk ihs =>
    have hp : (d.filter keep).Perm (d'.filter keep) := hd.filter keep
    simp only [restrictF, ← hp.isEmpty_eq]
    split
    · exact eqv_app ihk ihs
    · exact .cons hp ihk ihs
  | swap d₁ k₁ d₂ k₂ s =>
    rw [restrictF_cons_roots, restrictF_cons_roots, restrictF_cons_roots, restrictF_cons_roots]
    simp only [roots_ofRoots, ← List.append_assoc]
    exact eqv_ofRoots_perm (List.perm_append_comm.append_right _)
  | trans _ _ ih₁ ih₂ => exact ih₁.trans ih₂

theorem rr_empty (keep : ℕ → Bool) (d : List ℕ) (k : DF) (h : (d.filter keep).isEmpty = true) :
    rr keep (d, k) = (restrictF keep k).roots := by
  unfold rr; rw [if_pos h]

theorem rr_nonempty (keep : ℕ → Bool) (d : List ℕ) (k : DF) (h : ¬ (d.filter keep).isEmpty = true) :
    rr keep (d, k) = [(d.filter keep, restrictF keep k)] := by
  unfold rr; rw [if_neg h]

theorem restrictF_comp (k₁ k₂ : ℕ → Bool) : ∀ f : DF,
    restrictF k₂ (restrictF k₁ f) = restrictF (fun a => k₁ a && k₂ a) f
  | .nil => rfl
  | .cons d k s => by
    have ihk := restrictF_comp k₁ k₂ k
    have ihs := restrictF_comp k₁ k₂ s
    have hff : (d.filter k₁).filter k₂ = d.filter (fun a => k₁ a && k₂ a) := by
      rw [List.filter_filter]; congr 1; funext a; exact Bool.and_comm _ _
    have hrr : (rr k₁ (d, k)).flatMap (rr k₂) = rr (fun a => k₁ a && k₂ a) (d, k) := by
      by_cases he : (d.filter k₁).isEmpty = true
      · have he2 : (d.filter (fun a => k₁ a && k₂ a)).isEmpty = true := by
          rw [← hff, List.isEmpty_iff.mp he]
          rfl
        rw [rr_empty _ _ _ he, rr_empty _ _ _ he2, ← roots_restrictF, ihk]
      · rw [rr_nonempty _ _ _ he]
        simp only [List.flatMap_cons, List.flatMap_nil, List.append_nil]
        by_cases he2 : ((d.filter k₁).filter k₂).isEmpty = true
        · rw [rr_empty _ _ _ he2, rr_empty _ _ _ (hff ▸ he2), ihk]
        · rw [rr_nonempty _ _ _ he2, rr_nonempty _ _ _ (hff ▸ he2), ihk, hff]
    rw [restrictF_cons_roots, restrictF_ofRoots, List.flatMap_append, hrr, ← roots_restrictF, ihs,
      ← restrictF_cons_roots]

theorem restrictF_all (keep : ℕ → Bool) : ∀ f : DF, (restrictF keep f).all = f.all.filter keep
  | .nil => rfl
  | .cons d k s => by
    have ihk := restrictF_all keep k
    have ihs := restrictF_all keep s
    simp only [restrictF]
    split
    · rename_i he
      rw [all_ofRoots, List.flatMap_append, ← all_eq_flatMap_roots, ← all_eq_flatMap_roots, ihk, ihs]
      simp only [Forest.all, List.filter_append]
      rw [List.isEmpty_iff.mp he, List.append_nil]
    · simp only [Forest.all, List.filter_append, ihk, ihs]

theorem restrictF_allNonempty (keep : ℕ → Bool) : ∀ f : DF, AllNonempty (restrictF keep f)
  | .nil => trivial
  | .cons d k s => by
    have ihk := restrictF_allNonempty keep k
    have ihs := restrictF_allNonempty keep s
    simp only [restrictF]
    split
    · rw [allNonempty_ofRoots]
      intro x hx
      rcases List.mem_append.mp hx with hx | hx
      · exact (allNonempty_iff_roots _).mp ihk x hx
      · exact (allNonempty_iff_roots _).mp ihs x hx
    · rename_i he
      refine ⟨?_, ihk, ihs⟩
      intro h0
      exact he (by rw [h0]; rfl)

theorem restrictF_wf (keep : ℕ → Bool) {f : DF} (w : WF f) : WF (restrictF keep f) := by
  refine ⟨?_, (ne_iff _).mp (restrictF_allNonempty keep f), ?_⟩
  · rw [restrictF_all]; exact w.nodup.filter _
  · intro a ha
    rw [restrictF_all] at ha
    exact w.small a (List.mem_filter.mp ha).1

/-! ### the induced trees along an order -/

/-- removing `i` first does not change the forest induced on a set not containing `i` -/
theorem restrict_recover {y : T} (w : WF y.f) {i : ℕ} {K : List ℕ} (hi : i ∉ K) :
    SMC.restrict (recover i y) K = SMC.restrict y K := by
  have hk : (fun a : ℕ => (a != i) && K.contains a) = fun a => K.contains a := by
    funext a
    by_cases ha : a ∈ K
    · have : a ≠ i := by
        rintro rfl
        exact hi ha
      simp [ha, this]
    · simp [ha]
  unfold SMC.restrict recover T.mk'
  congr 1
  ·
    set G := restrictF (fun a => a != i) y.f with hG
    have wG : WF G := restrictF_wf _ w
    have h1 : Eqv (restrictF (fun a => K.contains a) (Forest.canon G)) (restrictF (fun a => K.contains a) G) :=
      restrictF_eqv _ (canon_eqv G)
    rw [canon_congr h1 (restrictF_wf _ (canon_wf wG)), hG, restrictF_comp, hk]
  ·
    show sortNat ((sortNat (y.out.filter fun a => a != i)).filter fun a => K.contains a)
      = sortNat (y.out.filter fun a => K.contains a)
    rw [filter_sortNat, sortNat_idem, List.filter_filter]
    congr 2
    funext a
    rw [Bool.and_comm]
    exact congrFun hk a

variable {c : Cfg} {σ : List ℕ}

theorem restrict_self {t : ℕ} {y : T} (hy : y ∈ level c σ t) : SMC.restrict y (σ.take t) = y := by
  have inv := level_inv c σ t y hy
  unfold SMC.restrict
  have h1 : restrictF (fun i => (σ.take t).contains i) y.f = y.f := by
    apply restrictF_id _ _ inv.ne
    intro a ha
    exact List.contains_iff_mem.mpr (inv.perm.subset (List.mem_append_left _ ha))
  have h2 : y.out.filter (fun i => (σ.take t).contains i) = y.out := by
    apply List.filter_eq_self.mpr
    intro a ha
    exact List.contains_iff_mem.mpr (inv.perm.subset (List.mem_append_right _ ha))
  rw [h1, h2]
  exact inv.canon

theorem restrict_child (hnd : σ.Nodup) (hbig : ∀ i ∈ σ, i < Forest.big) {t : ℕ} {p y : T}
    (hp : p ∈ level c σ t) {i : ℕ} (hi : σ[t]? = some i) (hy : y ∈ children c p i) {s : ℕ} (hs : s ≤ t) :
    SMC.restrict y (σ.take s) = SMC.restrict p (σ.take s) := by
  obtain ⟨hlt, rfl⟩ := List.getElem?_eq_some_iff.mp hi
  have wy := (level_wft c σ hnd hbig (child_mem_level hp hi hy)).wf
  have inv := level_inv c σ t p hp
  obtain ⟨kt, hkt, _, rfl⟩ := mem_children.mp hy
  have hrec : recover σ[t] kt.2 = p := by
    rw [recover_placement_proof p _ (level_wf hnd hbig hp hi) kt hkt]; exact inv.canon
  rw [← restrict_recover wy (getElem_not_mem_take hnd hs hlt), hrec]

theorem restrict_path (hnd : σ.Nodup) (hbig : ∀ i ∈ σ, i < Forest.big) : ∀ (t : ℕ) (y : T), y ∈ level c σ t →
    (∀ s, s ≤ t → SMC.restrict y (σ.take s) ∈ level c σ s) ∧
    (∀ s, s < t → ∀ i, σ[s]? = some i →
      SMC.restrict y (σ.take (s+1)) ∈ children c (SMC.restrict y (σ.take s)) i) := by
  intro t
  induction t with
  | zero =>
    intro y hy
    refine ⟨fun s hs => ?_, fun s hs => absurd hs (Nat.not_lt_zero s)⟩
    obtain rfl := Nat.le_zero.mp hs
    rw [restrict_self hy]
    exact hy
  | succ t ih =>
    intro y hy
    obtain ⟨i, hi, p, hp, hc⟩ := mem_level_succ.mp hy
    obtain ⟨h1, h2⟩ := ih p hp
    have hyp : ∀ s, s ≤ t → SMC.restrict y (σ.take s) = SMC.restrict p (σ.take s) :=
      fun s hs => restrict_child hnd hbig hp hi hc hs
    constructor
    · intro s hs
      rcases Nat.lt_or_eq_of_le hs with hs | rfl
      · rw [hyp s (Nat.le_of_lt_succ hs)]
        exact h1 s (Nat.le_of_lt_succ hs)
      · rw [restrict_self hy]
        exact hy
    · intro s hs j hj
      rcases Nat.lt_or_eq_of_le (Nat.le_of_lt_succ hs) with hs | rfl
      · rw [hyp s (le_of_lt hs), hyp (s+1) hs]
        exact h2 s hs j hj
      · obtain rfl : i = j := Option.some.inj (hi.symm.trans hj)
        rw [hyp s (le_refl s), restrict_self hy, restrict_self hp]
        exact hc

/-- the ancestors of a state of level `t` -/
theorem exists_path (hnd : σ.Nodup) (hbig : ∀ i ∈ σ, i < Forest.big) : ∀ (t : ℕ) (y : T), y ∈ level c σ t →
    ∃ f : ℕ → T, (∀ s, s ≤ t → f s ∈ level c σ s) ∧
      (∀ s, s < t → ∀ i, σ[s]? = some i → f (s+1) ∈ children c (f s) i) ∧
      (∀ s, s ≤ t → SMC.restrict y (σ.take s) = f s) ∧ f t = y := by
  intro t y hy
  obtain ⟨h1, h2⟩ := restrict_path hnd hbig t y hy
  exact ⟨fun s => SMC.restrict y (σ.take s), h1, h2, fun _ _ => rfl, restrict_self hy⟩

/-- **the retained path exists** -/
theorem exists_pathOK {L : List T} (hnd : σ.Nodup) (hbig : ∀ i ∈ σ, i < Forest.big)
    (hL : ∀ x ∈ states c σ, x ∈ L) {x : T} (hx : x ∈ level c σ σ.length) :
    ∃ path : ℕ → St L, PathOK c σ x path ∧ (path σ.length).1 = x := by
  obtain ⟨h1, h2⟩ := restrict_path hnd hbig σ.length x hx
  have hmem : ∀ s, SMC.restrict x (σ.take s) ∈ L := by
    intro s
    rw [List.take_eq_take_min]
    exact level_mem_L hL (h1 _ (Nat.min_le_right _ _))
  refine ⟨fun s => ⟨_, hmem s⟩, ⟨h1, fun t ht => h2 t ht _ (List.getElem?_eq_getElem ht), fun _ _ => rfl⟩, ?_⟩
  show SMC.restrict x (σ.take σ.length) = x
  exact restrict_self hx

end PhyModel.PG
