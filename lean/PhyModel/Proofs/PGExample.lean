import PhyModel.Proofs.PGKernel
import PhyModel.Proofs.C19Example
import Mathlib.Tactic.FinCases
import Mathlib.Tactic.NormNum
/-! Concrete instances for the non-vacuity examples of C01: a three-state abstract specification with a
genuine branching (`ASMC.ValidTo` holds up to the horizon 1), and a PhyClone data set / order on which
the standing hypotheses `PG.Hyp` hold. -/

namespace PhyModel.PG

/-- a root with two children (target masses 1 and 2, each proposed with probability 1/2), one step,
two particles, never resampling -/
def exSpec : ASMC.Spec (m := 1) (Fin 3) where
  q t x x' := if t = 0 ∧ x = 0 ∧ x' ≠ 0 then 1/2 else 0
  g t x := if t = 0 then (if x = 0 then 1 else 0)
    else if t = 1 then (if x = 1 then 1 else if x = 2 then 2 else 0) else 0
  parent _ := 0
  x0 := 0
  rs _ _ := false

/-- beyond `t < 1` everything is a finite statement about three states -/
theorem exSpec_valid : ASMC.ValidTo exSpec 1 where
  g0 := by intro x; rfl
  gnn := by intro t x; simp only [exSpec]; positivity
  qnn := by intro t x x'; simp only [exSpec]; positivity
  qsum := by
    intro t x ht
    obtain rfl : t = 0 := Nat.lt_one_iff.mp ht
    revert x
    decide +kernel
  qparent := by
    intro t x x' ht
    obtain rfl : t = 0 := Nat.lt_one_iff.mp ht
    revert x x'
    decide +kernel
  qsupp := by
    intro t x x' ht
    obtain rfl : t = 0 := Nat.lt_one_iff.mp ht
    revert x x'
    decide +kernel
  gsupp := by
    intro t x' ht
    obtain rfl : t = 0 := Nat.lt_one_iff.mp ht
    revert x'
    decide +kernel
  rssymm := fun _ _ _ => rfl

/-- the last level of `exSpec` has two states of positive mass: the example branches -/
theorem exSpec_branches : 0 < exSpec.g 1 1 ∧ 0 < exSpec.g 1 2 := by
  decide +kernel

/-- two data points on a 2-point grid (the data set of the C19 example), semi-adapted proposal,
outlier proposal probability 1/10, permutation distribution on, order `[1, 0]` -/
def exCfg (k : Proposal.Prop3) : Proposal.Cfg := ⟨k, 1/10, 1, true⟩

theorem exHypD (k : Proposal.Prop3) : HypD Props.C19.exData (exCfg k) [0, 1] where
  hG := by decide
  hα := one_pos
  op0 := by
    show (0 : ℚ) ≤ 1 / 10
    decide +kernel
  op1 := by
    show (1 / 10 : ℚ) < 1
    decide +kernel
  nodup := by decide
  good := by
    intro i hi
    rcases List.mem_pair.mp hi with rfl | rfl
    · exact Props.C19.exGood0
    · exact Props.C19.exGood1
  big := by decide +kernel
  ne := List.cons_ne_nil _ _
  perm := rfl

theorem exHyp (k : Proposal.Prop3) : Hyp Props.C19.exData (exCfg k) [1, 0] :=
  (exHypD k).hyp (by decide +kernel)

/-- data point 0 in a clone above the clone of data point 1 -/
def exChain : T := T.mk' (.cons [0] (.cons [1] .nil .nil) .nil) []

theorem exChain_wft (k : Proposal.Prop3) : WFT (exCfg k) exChain := by
  refine ⟨by decide +kernel, by decide +kernel, by decide +kernel, by decide +kernel, ?_⟩
  intro h
  exact absurd (show (1 / 10 : ℚ) = 0 from h) (by decide +kernel)

end PhyModel.PG
