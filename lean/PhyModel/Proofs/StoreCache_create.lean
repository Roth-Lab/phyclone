import PhyModel.Proofs.StoreCache_addDp
/-! C06, `Tree.create_root_node(children, data)` and the compound
`create_root_node(children)` + `add_data_point_to_node(dp, new)`: the new clone sits on top of whole
top-level trees (whose caches are untouched), gets its `p` from its data and its `r` recomputed. -/
namespace PhyModel.Store.C06

/-! ### `takeRoots`, fresh indices -/

theorem takeRoots_cons (is : List Nat) (n : NodeRec) (k s : SF) :
    SF.takeRoots is (.cons n k s) =
      if is.contains n.idx then (.cons n k (SF.takeRoots is s).1, (SF.takeRoots is s).2)
      else ((SF.takeRoots is s).1, .cons n k (SF.takeRoots is s).2) := rfl

theorem cacheOKsf_takeRoots (dt : Data) (is : List Nat) :
    ∀ f, CacheOKsf dt f → CacheOKsf dt (SF.takeRoots is f).1 ∧ CacheOKsf dt (SF.takeRoots is f).2
  | .nil, _ => ⟨trivial, trivial⟩
  | .cons n k s, ⟨h1, h2, h3, h4⟩ => by
    have ih := cacheOKsf_takeRoots dt is s h4
    rw [takeRoots_cons]
    split
    · exact ⟨⟨h1, h2, h3, ih.1⟩, ih.2⟩
    · exact ⟨ih.1, ⟨h1, h2, h3, ih.2⟩⟩

theorem idxs_takeRoots (is : List Nat) (f : SF) :
    (SF.takeRoots is f).1.idxs ⊆ f.idxs ∧ (SF.takeRoots is f).2.idxs ⊆ f.idxs := by
  have h := ((SF.takeRoots_perm is f).map (·.idx)).subset
  rw [List.map_append] at h
  exact ⟨fun _ e => h (List.mem_append_left _ e), fun _ e => h (List.mem_append_right _ e)⟩

theorem le_maxIdx (f : SF) (j : Nat) (h : j ∈ f.idxs) : j ≤ f.maxIdx := by
  obtain ⟨n, hn, rfl⟩ := SF.mem_idxs.1 h
  exact SF.le_maxIdx hn

theorem fresh_notMem (s : Store) : s.fresh ∉ s.forest.idxs := fun h => by
  have := le_maxIdx _ _ h
  unfold Store.fresh at this
  omega

/-! ### the operation -/

theorem create_inv (dt : Data) (s s' : Store) (ch : List Int) (data : List Nat) (nm : Int)
    (h : s.createRootNode dt ch data = some (s', nm)) :
    ∃ n1 cis, recAdd dt (freshRec dt s.fresh s.numNodes) data = some n1 ∧ nm = s.numNodes ∧
      s'.forest = .cons { n1 with r := recompR dt n1 (SF.takeRoots cis s.forest).1 }
        (SF.takeRoots cis s.forest).1 (SF.takeRoots cis s.forest).2 ∧
      s'.rootR = recompRoot dt s'.forest ∧ s'.nodeIdx = alSet s.nodeIdx nm s.fresh := by
  unfold Store.createRootNode at h
  obtain ⟨n1, hn1, h⟩ := Option.bind_eq_some_iff.1 h
  obtain ⟨cis, _, h⟩ := Option.bind_eq_some_iff.1 h
  by_cases hlen : ((SF.takeRoots cis s.forest).1.rootRecs.length != cis.length) = true
  · rw [if_pos hlen] at h
    cases h
  · rw [if_neg hlen] at h
    obtain ⟨s2, hup, h⟩ := Option.bind_eq_some_iff.1 h
    cases h
    obtain ⟨i, hi, _, rfl⟩ := updatePath_some dt _ _ _ hup
    have hi' : i = s.fresh := Option.some.inj (hi.symm.trans AL.lookup_alSet_self)
    subst hi'
    have hidx : n1.idx = s.fresh := (recAdd_spec dt data _ n1 hn1).1
    refine ⟨n1, cis, hn1, rfl, ?_, rfl, rfl⟩
    show (updPath dt s.fresh (SF.cons n1 _ _)).1 = _
    rw [updPath_cons, if_pos hidx]

/-- **C06, `create_root_node`** -/
theorem cacheOK_create (dt : Data) (s s' : Store) (ch : List Int) (data : List Nat) (nm : Int)
    (hc : CacheOK dt s) (h : s.createRootNode dt ch data = some (s', nm)) : CacheOK dt s' := by
  obtain ⟨n1, cis, hn1, _, hf, hr, _⟩ := create_inv dt s s' ch data nm h
  obtain ⟨_, _, _, h4, _⟩ := recAdd_spec dt data _ n1 hn1
  have htr := cacheOKsf_takeRoots dt cis s.forest hc.1
  refine ⟨?_, fun _ => hr⟩
  rw [hf]
  exact ⟨h4 (freshRec_p dt _ _), rfl, htr.1, htr.2⟩

/-- **C06, `create_root_node(children)` followed by `add_data_point_to_node(dp, new clone)`** -/
theorem cacheOK_createAdd (dt : Data) (s s1 s' : Store) (ch : List Int) (dp : Nat) (nm : Int)
    (hc : CacheOK dt s) (h : s.createRootNode dt ch [] = some (s1, nm))
    (h2 : s1.addDataPointToNode dt dp nm = some s') : CacheOK dt s' := by
  have hc1 := cacheOK_create dt s s1 ch [] nm hc h
  obtain ⟨n1, cis, hn1, _, hf, _, hni⟩ := create_inv dt s s1 ch [] nm h
  have hidx : n1.idx = s.fresh := (recAdd_spec dt [] _ n1 hn1).1
  rcases (addDp_unf h2).2 with ⟨_, rfl⟩ | ⟨i, n, k, n', q, hi, hfs, hn', hq, hup⟩
  · exact hc1
  · have hi' : i = s.fresh := Option.some.inj (hi.symm.trans (hni ▸ AL.lookup_alSet_self))
    subst hi'
    rw [hf, findSub_cons, if_pos hidx] at hfs
    cases hfs
    obtain ⟨h1', _, _, h4', h5'⟩ := recAdd_spec dt [dp] _ n' hn'
    have hf2 : Store.setRec s.fresh (fun _ => n') s1.forest
        = .cons n' (SF.takeRoots cis s.forest).1 (SF.takeRoots cis s.forest).2 := by
      rw [hf, setRec_cons, if_pos hidx,
        setRec_of_notMem _ _ _ fun e => fresh_notMem s ((idxs_takeRoots cis _).1 e),
        setRec_of_notMem _ _ _ fun e => fresh_notMem s ((idxs_takeRoots cis _).2 e)]
    rw [hf2, parentIn_cons, if_pos (h1'.trans hidx)] at hq
    cases hq
    refine cacheOK_updatePath_none dt _ s' ?_ hup
    show CacheOKsf dt (Store.setRec s.fresh (fun _ => n') s1.forest)
    rw [hf2]
    have hc1f := hc1.1
    rw [hf] at hc1f
    exact ⟨h4' hc1f.1, h5' _ hc1f.2.1, hc1f.2.2.1, hc1f.2.2.2⟩

end PhyModel.Store.C06
