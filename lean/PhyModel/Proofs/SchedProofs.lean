import PhyModel.Model.TraceLoop
import PhyModel.Proofs.RunLoopProofs
/-! The schedule of the control-flow skeleton (C15, C19): for some number `m` of executed iterations
`RunLoop.mainFrom` records exactly the iterations `j < m` with `j % thin = 0` (`sched`); `m` is `num_iters`
unless the time limit stopped the loop, in which case the stop fired in iteration `m - 1` and in no earlier
one (`EndsAt`).  The burn-in loop `burninFrom` breaks the same way. -/
namespace PhyModel.TraceLoop

theorem sched_self (thin i : ℕ) : sched thin i i = [] := by
  rw [sched, Nat.sub_self]
  rfl

theorem sched_step (thin i m : ℕ) (h : i + 1 ≤ m) :
    sched thin i m = (if i % thin = 0 then [i] else []) ++ sched thin (i + 1) m := by
  have : m - i = m - (i + 1) + 1 := (Nat.sub_add_cancel (Nat.sub_pos_of_lt h)).symm
  rw [sched, this, List.range'_succ, List.filter_cons]
  by_cases hm : i % thin = 0
  · rw [if_pos hm, if_pos (decide_eq_true hm)]
    rfl
  · rw [if_neg hm, if_neg (by rwa [decide_eq_true_eq])]
    rfl

end PhyModel.TraceLoop

namespace PhyModel.RunLoop
open PhyModel.TraceLoop (sched sched_self sched_step)

/-- A loop over `range(i, i + fuel)` that breaks after the first iteration in which `stop` holds executes
the iterations before `m`: all of them, or it broke in iteration `m - 1` and in no earlier one. -/
def EndsAt (stop : ℕ → Bool) (fuel i m : ℕ) : Prop :=
  i ≤ m ∧ m ≤ i + fuel ∧ (∀ j, i ≤ j → j + 1 < m → stop j = false) ∧ (m < i + fuel → i < m ∧ stop (m - 1) = true)

theorem EndsAt.zero (stop : ℕ → Bool) (i : ℕ) : EndsAt stop 0 i i :=
  ⟨le_refl _, le_refl _, fun _ h1 h2 => absurd (Nat.lt_of_succ_lt h2) (Nat.not_lt.2 h1),
    fun h => absurd h (Nat.lt_irrefl _)⟩

theorem EndsAt.stop {stop : ℕ → Bool} {i : ℕ} (hs : stop i = true) (fuel : ℕ) : EndsAt stop (fuel + 1) i (i + 1) :=
  ⟨Nat.le_succ i, Nat.add_le_add_left (Nat.le_add_left 1 fuel) i,
    fun _ h1 h2 => absurd (Nat.lt_of_succ_lt_succ h2) (Nat.not_lt.2 h1), fun _ => ⟨Nat.lt_succ_self i, hs⟩⟩

theorem EndsAt.next {stop : ℕ → Bool} {fuel i m : ℕ} (hs : stop i = false) (h : EndsAt stop fuel (i + 1) m) :
    EndsAt stop (fuel + 1) i m := by
  obtain ⟨h1, h2, h3, h4⟩ := h
  refine ⟨Nat.le_of_succ_le h1, Nat.add_right_comm i 1 fuel ▸ h2, fun j hj1 hj2 => ?_,
    fun hlt => ⟨h1, (h4 (Nat.add_right_comm i 1 fuel ▸ hlt)).2⟩⟩
  rcases Nat.eq_or_lt_of_le hj1 with rfl | hlt
  · exact hs
  · exact h3 j hlt hj2

theorem EndsAt.never {fuel i m : ℕ} (h : EndsAt (fun _ => false) fuel i m) : m = i + fuel :=
  Nat.le_antisymm h.2.1 (Nat.le_of_not_lt fun hlt => Bool.false_ne_true (h.2.2.2 hlt).2)

theorem burninFrom_succ (pf : ℕ) (hpf : 1 ≤ pf) (stop : ℕ → Bool) (fuel i : ℕ) :
    burninFrom pf stop (fuel + 1) i = if stop i then .ok (i + 1) else burninFrom pf stop fuel (i + 1) := by
  obtain ⟨p, rfl⟩ := Nat.exists_eq_add_one_of_ne_zero (Nat.ne_of_gt hpf)
  rfl

theorem burninFrom_spec (pf : ℕ) (hpf : 1 ≤ pf) (stop : ℕ → Bool) :
    ∀ fuel i, ∃ b, burninFrom pf stop fuel i = .ok b ∧ EndsAt stop fuel i b := by
  intro fuel
  induction fuel with
  | zero => exact fun i => ⟨i, rfl, .zero stop i⟩
  | succ fuel ih =>
    intro i
    rw [burninFrom_succ pf hpf]
    cases hs : stop i with
    | true => exact ⟨i + 1, rfl, .stop hs fuel⟩
    | false =>
      obtain ⟨b, e, h⟩ := ih (i + 1)
      exact ⟨b, e, h.next hs⟩

theorem burninFrom_ok (pf : ℕ) (hpf : 1 ≤ pf) (stop : ℕ → Bool) :
    ∀ fuel i, ∃ b, burninFrom pf stop fuel i = .ok b ∧ i ≤ b ∧ b ≤ i + fuel := by
  intro fuel i
  obtain ⟨b, e, h1, h2, _⟩ := burninFrom_spec pf hpf stop fuel i
  exact ⟨b, e, h1, h2⟩

theorem burninFrom_never (pf : ℕ) (hpf : 1 ≤ pf) :
    ∀ fuel i, burninFrom pf (fun _ => false) fuel i = .ok (i + fuel) := by
  intro fuel i
  obtain ⟨b, e, h⟩ := burninFrom_spec pf hpf (fun _ => false) fuel i
  exact h.never ▸ e

theorem mainFrom_succ (thin pf : ℕ) (hth : 1 ≤ thin) (hpf : 1 ≤ pf) (stop : ℕ → Bool) (fuel i : ℕ)
    (tr : List ℕ) :
    mainFrom thin pf stop (fuel + 1) i tr =
      if stop i then .ok ((if i % thin = 0 then i :: tr else tr).reverse, i + 1)
      else mainFrom thin pf stop fuel (i + 1) (if i % thin = 0 then i :: tr else tr) := by
  -- on successors both `%` guards compute
  obtain ⟨t, rfl⟩ := Nat.exists_eq_add_one_of_ne_zero (Nat.ne_of_gt hth)
  obtain ⟨p, rfl⟩ := Nat.exists_eq_add_one_of_ne_zero (Nat.ne_of_gt hpf)
  rfl

theorem mainFrom_spec (thin pf : ℕ) (hth : 1 ≤ thin) (hpf : 1 ≤ pf) (stop : ℕ → Bool) :
    ∀ fuel i (tr : List ℕ), ∃ m,
      mainFrom thin pf stop fuel i tr = .ok (tr.reverse ++ sched thin i m, m) ∧ EndsAt stop fuel i m := by
  intro fuel
  induction fuel with
  | zero =>
    intro i tr
    refine ⟨i, ?_, .zero stop i⟩
    rw [sched_self, List.append_nil]
    rfl
  | succ fuel ih =>
    intro i tr
    have hrev : ∀ m, i < m →
        (if i % thin = 0 then i :: tr else tr).reverse
            ++ sched thin (i + 1) m
          = tr.reverse ++ sched thin i m := by
      intro m h
      rw [sched_step thin i m h]
      split
      · rw [List.reverse_cons, List.append_assoc]
      · rfl
    rw [mainFrom_succ thin pf hth hpf]
    cases hs : stop i with
    | true =>
      refine ⟨i + 1, ?_, .stop hs fuel⟩
      rw [← hrev (i + 1) (Nat.lt_succ_self i), sched_self, List.append_nil]
      rfl
    | false =>
      obtain ⟨m, e, h⟩ := ih (i + 1) (if i % thin = 0 then i :: tr else tr)
      refine ⟨m, ?_, h.next hs⟩
      rw [← hrev m h.1, ← e]
      rfl

/-- without a time limit the main loop records exactly the thinned schedule -/
theorem mainFrom_never (thin pf : ℕ) (hth : 1 ≤ thin) (hpf : 1 ≤ pf) :
    ∀ fuel i (tr : List ℕ),
      mainFrom thin pf (fun _ => false) fuel i tr
        = .ok (tr.reverse ++ ((List.range fuel).map (· + i)).filter (fun j => j % thin = 0), i + fuel) := by
  intro fuel i tr
  obtain ⟨m, e, h⟩ := mainFrom_spec thin pf hth hpf (fun _ => false) fuel i tr
  obtain rfl := h.never
  rw [e, sched, Nat.add_sub_cancel_left, List.range'_eq_map_range]
  simp only [Nat.add_comm]

end PhyModel.RunLoop
