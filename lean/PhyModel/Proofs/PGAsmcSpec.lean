import PhyModel.Proofs.PGLevel
import PhyModel.Proofs.PropSumOne
import PhyModel.Proofs.PropWeights
import PhyModel.Proofs.ASMCExch
import Mathlib.Data.Fintype.Sets
/-! # C01 instance: PhyClone's conditional SMC along a fixed order as an `ASMC.Spec`.

`tprob tab x` is the probability a proposal table gives to the tree `x`.  Every entry of a proposal table
is a permitted placement with positive probability (`table_entry`); every permitted placement has
positive probability (`qT_pos`, from C08 `support_complete`).  `spec` packs the level targets `gT`, the
proposal `qT`, the parent map `parentT` and the ESS rule into an `ASMC.Spec`; the rest are the facts
about one level that `ASMC.ValidTo` needs. -/

namespace PhyModel.PG
open Orders Proposal PGSpec

/-- probability a table gives to a tree -/
def tprob (tab : List (T × ℚ)) (x : T) : ℚ := lsum tab (fun tq => if tq.1 = x then tq.2 else 0)

theorem mem_outL {c : Cfg} {p : T} {i : ℕ} {x : T} : x ∈ outL c p i ↔ c.op ≠ 0 ∧ x = outT p i := by
  unfold outL
  split_ifs with ho
  · rw [List.mem_singleton, and_iff_right ho]
  · simp only [List.not_mem_nil, ho, false_and]

theorem mem_children_iff_cands {c : Cfg} {p : T} {i : ℕ} {x : T} :
    x ∈ children c p i ↔ x ∈ exL p i ++ newL p i ++ outL c p i := by
  simp only [mem_children_cases, exL, newL, mem_outL, List.mem_append, List.mem_map, List.mem_range, or_assoc,
    eq_comm (a := x)]

/-- every entry of a proposal table is a permitted placement and has positive probability -/
theorem table_entry (dt : Data) (c : Cfg) (first : Bool) (p : T) (i : ℕ)
    (hop0 : 0 ≤ c.op) (hop1 : c.op < 1)
    (hpos : ∀ kt ∈ placements p i, 0 < pMargT dt c kt.2)
    (tq : T × ℚ) (htq : tq ∈ table dt c first p i) : 0 < tq.2 ∧ tq.1 ∈ children c p i :=
  (table_entry_pos dt c first p i hop0 hop1 (fun _ => hpos) tq htq).imp_right mem_children_iff_cands.mpr

theorem tprob_cons (a : T × ℚ) (tab : List (T × ℚ)) (x : T) :
    tprob (a :: tab) x = (if a.1 = x then a.2 else 0) + tprob tab x :=
  lsum_cons _ _ _

theorem tprob_eq_zero (tab : List (T × ℚ)) (x : T) (h : x ∉ tab.map (·.1)) : tprob tab x = 0 := by
  induction tab with
  | nil => rfl
  | cons a tab ih =>
    rw [List.map_cons, List.mem_cons, not_or] at h
    rw [tprob_cons, if_neg (fun e => h.1 e.symm), ih h.2, add_zero]

theorem tprob_nonneg (tab : List (T × ℚ)) (h : ∀ tq ∈ tab, 0 ≤ tq.2) (x : T) : 0 ≤ tprob tab x := by
  refine List.sum_nonneg fun a ha => ?_
  obtain ⟨tq, htq, rfl⟩ := List.mem_map.mp ha
  split_ifs
  · exact h tq htq
  · exact le_refl _

theorem tprob_pos_of_mem (tab : List (T × ℚ)) (h : ∀ tq ∈ tab, 0 ≤ tq.2) (x : T) (q : ℚ) (hq : 0 < q)
    (hm : (x, q) ∈ tab) : 0 < tprob tab x := by
  induction tab with
  | nil => exact absurd hm List.not_mem_nil
  | cons a tab ih =>
    have hrest := tprob_nonneg tab (fun tq htq => h tq (List.mem_cons_of_mem _ htq)) x
    rw [tprob_cons]
    rcases List.mem_cons.mp hm with rfl | hm
    · rw [if_pos rfl]
      exact add_pos_of_pos_of_nonneg hq hrest
    · refine add_pos_of_nonneg_of_pos ?_ (ih (fun tq htq => h tq (List.mem_cons_of_mem _ htq)) hm)
      split_ifs
      · exact h a List.mem_cons_self
      · exact le_refl _

/-- a tree with positive table probability is listed in the table -/
theorem mem_of_tprob_pos (tab : List (T × ℚ)) (x : T) (h : 0 < tprob tab x) : ∃ q, (x, q) ∈ tab := by
  by_contra hx
  refine absurd (tprob_eq_zero tab x fun hm => ?_) (ne_of_gt h)
  obtain ⟨tq, htq, rfl⟩ := List.mem_map.mp hm
  exact hx ⟨tq.2, htq⟩

/-- standing hypotheses: positive likelihoods, `α > 0`, outlier proposal probability in `[0,1)`,
distinct data indices below the sentinel of the canonical order -/
structure Hyp (dt : Data) (c : Cfg) (σ : List ℕ) : Prop where
  hG : 0 < dt.G
  hα : 0 < c.α
  op0 : 0 ≤ c.op
  op1 : c.op < 1
  nodup : σ.Nodup
  good : ∀ i ∈ σ, C19P.GoodIdx dt i
  big : ∀ i ∈ σ, i < Forest.big

/-- unnormalised target of level `t`: point mass at the empty tree, then `κ · pMarg · pdf`, and
`κ · pOne · pdf` at the last level.  The constant `κ > 0` is immaterial for the invariance statement;
with `κ = 1/N` the abstract particle weights are literally those of the code, whose swarm starts with
weights `1/N` where the abstract one starts with weights 1. -/
def gT (dt : Data) (c : Cfg) (σ : List ℕ) (κ : ℚ) (t : ℕ) (x : T) : ℚ :=
  if x ∈ level c σ t then
    (if t = 0 then 1
     else κ * (if t = σ.length then pOneT dt c x * pdfOf c x else pMargT dt c x * pdfOf c x))
  else 0

/-- proposal probability of `x'` from the level-`t` state `x` -/
def qT (dt : Data) (c : Cfg) (σ : List ℕ) (t : ℕ) (x x' : T) : ℚ :=
  if x ∈ level c σ t then
    match σ[t]? with
    | some i => tprob (table dt c (t == 0) x i) x'
    | none => 0
  else 0

/-- removal of the last-placed data point -/
def parentT (σ : List ℕ) (x : T) : T :=
  match lev x with
  | 0 => x
  | t+1 =>
    match σ[t]? with
    | some i => recover i x
    | none => x

/-- `relative_ess ≤ threshold`, never before the first step -/
def essRule (θ : ℚ) (m : ℕ) (t : ℕ) (w : Fin (m+1) → ℚ) : Bool :=
  t != 0 && decide ((∑ i, w i) * (∑ i, w i) / (((m : ℚ) + 1) * ∑ i, w i * w i) ≤ θ)

theorem essRule_symm (θ : ℚ) (m t : ℕ) (w : Fin (m+1) → ℚ) (τ : Equiv.Perm (Fin (m+1))) :
    essRule θ m t (w ∘ τ) = essRule θ m t w := by
  unfold essRule
  have h1 : ∑ i, (w ∘ τ) i = ∑ i, w i := Equiv.sum_comp τ w
  have h2 : ∑ i, (w ∘ τ) i * (w ∘ τ) i = ∑ i, w i * w i := Equiv.sum_comp τ (fun i => w i * w i)
  rw [h1, h2]

abbrev St (L : List T) := {x : T // x ∈ L}

theorem empty_mem_states (c : Cfg) (σ : List ℕ) : T.empty ∈ states c σ :=
  mem_states.mpr ⟨0, Nat.zero_le _, by simp [level]⟩

/-- the specification; `L` is any list of trees containing the states met along `σ` -/
def spec (dt : Data) (c : Cfg) (σ : List ℕ) (κ : ℚ) (L : List T) (hL : ∀ x ∈ states c σ, x ∈ L) (θ : ℚ)
    (m : ℕ) : ASMC.Spec (m := m) (St L) where
  q t x x' := qT dt c σ t x.1 x'.1
  g t x := gT dt c σ κ t x.1
  parent x := if h : parentT σ x.1 ∈ L then ⟨_, h⟩ else x
  x0 := ⟨T.empty, hL _ (empty_mem_states c σ)⟩
  rs := essRule θ m

/-! ### one level -/

variable {dt : Data} {c : Cfg} {σ : List ℕ} {κ : ℚ}

theorem level_good (h : Hyp dt c σ) {t : ℕ} {x : T} (hx : x ∈ level c σ t) : C19P.Good dt x.f x.out := by
  intro j hj
  have := (level_inv c σ t x hx).perm.subset hj
  exact h.good j (List.mem_of_mem_take this)

theorem level_pMarg_pos (h : Hyp dt c σ) {t : ℕ} {x : T} (hx : x ∈ level c σ t) : 0 < pMargT dt c x :=
  C19P.Density.pMarg_pos dt h.hG c.α h.hα x.f x.out (level_good h hx)

theorem level_pOne_pos (h : Hyp dt c σ) {t : ℕ} {x : T} (hx : x ∈ level c σ t) : 0 < pOneT dt c x :=
  C19P.Density.pOne_pos dt h.hG c.α h.hα x.f x.out (level_good h hx)

theorem gT_of_mem {t : ℕ} {x : T} (hx : x ∈ level c σ t) : gT dt c σ κ t x =
    if t = 0 then 1 else κ * ((if t = σ.length then pOneT dt c x else pMargT dt c x) * pdfOf c x) := by
  unfold gT
  rw [if_pos hx, ite_mul]

theorem gT_of_not_mem {t : ℕ} {x : T} (hx : x ∉ level c σ t) : gT dt c σ κ t x = 0 :=
  if_neg hx

theorem qT_of_mem {t : ℕ} {x : T} (hx : x ∈ level c σ t) {i : ℕ} (hi : σ[t]? = some i) (x' : T) :
    qT dt c σ t x x' = tprob (table dt c (t == 0) x i) x' := by
  unfold qT
  rw [if_pos hx, hi]

theorem gT_pos (h : Hyp dt c σ) (hκ : 0 < κ) {t : ℕ} {x : T} (hx : x ∈ level c σ t) :
    0 < gT dt c σ κ t x := by
  rw [gT_of_mem hx]
  split_ifs
  · exact one_pos
  · exact Rat.mul_pos hκ (Rat.mul_pos (level_pOne_pos h hx) (pdfOf_pos c x))
  · exact Rat.mul_pos hκ (Rat.mul_pos (level_pMarg_pos h hx) (pdfOf_pos c x))

theorem gT_nonneg (h : Hyp dt c σ) (hκ : 0 < κ) (t : ℕ) (x : T) : 0 ≤ gT dt c σ κ t x := by
  by_cases hx : x ∈ level c σ t
  · exact le_of_lt (gT_pos h hκ hx)
  · exact le_of_eq (gT_of_not_mem hx).symm

theorem mem_of_gT_pos {t : ℕ} {x : T} (hg : 0 < gT dt c σ κ t x) : x ∈ level c σ t := by
  by_contra hx
  exact ne_of_gt hg (gT_of_not_mem hx)

/-- the next data point is fresh for a level-`t` state, which is a well-formed parent -/
theorem level_wf (hnd : σ.Nodup) (hbig : ∀ i ∈ σ, i < Forest.big) {t : ℕ} {x : T} (hx : x ∈ level c σ t)
    {i : ℕ} (hi : σ[t]? = some i) : WFParent x i := by
  have inv := level_inv c σ t x hx
  obtain ⟨hlt, rfl⟩ := List.getElem?_eq_some_iff.mp hi
  have hfresh : σ[t] ∉ x.f.all ++ x.out := fun hm =>
    getElem_not_mem_take hnd (le_refl t) hlt (inv.perm.subset hm)
  have hnd' : (x.f.all ++ x.out).Nodup := inv.perm.nodup_iff.mpr (hnd.sublist (List.take_sublist _ _))
  apply wfParent_of_nodup x _ (List.nodup_append.mp hnd').1 inv.ne
  · intro a ha
    exact hbig a (List.mem_of_mem_take (inv.perm.subset (List.mem_append_left _ ha)))
  · exact fun hm => hfresh (List.mem_append_left _ hm)
  · exact fun hm => hfresh (List.mem_append_right _ hm)

theorem level_placements_pos (h : Hyp dt c σ) {t : ℕ} {x : T} (hx : x ∈ level c σ t) {i : ℕ}
    (hi : σ[t]? = some i) : ∀ kt ∈ placements x i, 0 < pMargT dt c kt.2 := by
  intro kt hkt
  obtain ⟨hlt, rfl⟩ := List.getElem?_eq_some_iff.mp hi
  exact C19P.Density.pMarg_pos dt h.hG c.α h.hα _ _
    (placements_good dt x _ (level_good h hx) (h.good _ (List.getElem_mem hlt)) kt hkt)

theorem level_first {t : ℕ} {x : T} (hx : x ∈ level c σ t) : (t == 0) = true → x.f.numRoots = 0 := by
  intro ht
  obtain rfl : t = 0 := beq_iff_eq.mp ht
  rw [List.mem_singleton.mp hx]
  rfl

theorem child_mem_level {t : ℕ} {x x' : T} (hx : x ∈ level c σ t) {i : ℕ} (hi : σ[t]? = some i)
    (hc : x' ∈ children c x i) : x' ∈ level c σ (t+1) :=
  mem_level_succ.mpr ⟨i, hi, x, hx, hc⟩

/-- removing the last-placed data point of a child gives back the parent -/
theorem parentT_child (h : Hyp dt c σ) {t : ℕ} {x x' : T} (hx : x ∈ level c σ t) {i : ℕ}
    (hi : σ[t]? = some i) (hc : x' ∈ children c x i) : parentT σ x' = x := by
  have hlev := (level_inv c σ (t+1) x' (child_mem_level hx hi hc)).lev
  obtain ⟨kt, hkt, _, rfl⟩ := mem_children.mp hc
  unfold parentT
  rw [hlev]
  simp only [hi]
  rw [recover_placement_proof x i (level_wf h.nodup h.big hx hi) kt hkt]
  exact (level_inv c σ t x hx).canon

theorem table_nonneg (h : Hyp dt c σ) {t : ℕ} {x : T} (hx : x ∈ level c σ t) {i : ℕ}
    (hi : σ[t]? = some i) (b : Bool) : ∀ tq ∈ table dt c b x i, 0 ≤ tq.2 :=
  fun tq htq => le_of_lt (table_entry dt c b x i h.op0 h.op1 (level_placements_pos h hx hi) tq htq).1

theorem qT_nonneg (h : Hyp dt c σ) (t : ℕ) (x x' : T) : 0 ≤ qT dt c σ t x x' := by
  unfold qT
  split_ifs with hx
  · cases hi : σ[t]? with
    | none => exact le_refl _
    | some i => exact tprob_nonneg _ (table_nonneg h hx hi _) x'
  · exact le_refl _

/-- a positive proposal probability means: `x` is a level-`t` state and `x'` one of its children -/
theorem of_qT_pos (h : Hyp dt c σ) {t : ℕ} {x x' : T} (hq : 0 < qT dt c σ t x x') :
    x ∈ level c σ t ∧ ∃ i, σ[t]? = some i ∧ x' ∈ children c x i := by
  unfold qT at hq
  split_ifs at hq with hx
  · refine ⟨hx, ?_⟩
    cases hi : σ[t]? with
    | none => rw [hi] at hq; exact absurd hq (lt_irrefl _)
    | some i =>
      rw [hi] at hq
      obtain ⟨q, hm⟩ := mem_of_tprob_pos _ _ hq
      exact ⟨i, rfl, (table_entry dt c _ x i h.op0 h.op1 (level_placements_pos h hx hi) _ hm).2⟩
  · exact absurd hq (lt_irrefl _)

/-- every child is proposed with positive probability -/
theorem qT_pos (h : Hyp dt c σ) {t : ℕ} {x x' : T} (hx : x ∈ level c σ t) {i : ℕ}
    (hi : σ[t]? = some i) (hc : x' ∈ children c x i) : 0 < qT dt c σ t x x' := by
  rw [qT_of_mem hx hi]
  obtain ⟨kt, hkt, hp, rfl⟩ := mem_children.mp hc
  obtain ⟨q, hq, hm⟩ := support_complete_proof dt c (t == 0) x i h.op0 h.op1
    (fun _ => level_placements_pos h hx hi) kt hkt hp
  exact tprob_pos_of_mem _ (table_nonneg h hx hi _) _ q hq hm

end PhyModel.PG
