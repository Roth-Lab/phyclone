import PhyModel.Model.Framing
/-! Helper lemmas for C20: the serialiser is sound, complete and prefix-free. -/
namespace PhyModel.Framing

theorem enc_ne_nil (v : Val) : enc v ≠ [] := by
  cases v <;> simp [enc]

theorem size_le_enc_length (v : Val) : v.size ≤ (enc v).length := by
  induction v with
  | nil => exact Nat.le_refl 1
  | num n r ih =>
    rw [Val.size, Nat.add_comm]
    exact Nat.succ_le_succ (Nat.le_succ_of_le ih)
  | sub v r ihv ihr =>
    rw [Val.size, enc, List.length_cons, List.length_append, Nat.add_comm 1, Nat.add_right_comm]
    exact Nat.succ_le_succ (Nat.add_le_add ihv ihr)
/-- a successful parse consumed exactly the encoding of what it returns -/
theorem decAux_sound : ∀ (f : Nat) (s : List Sym) (v : Val) (r : List Sym),
    decAux f s = some (v, r) → s = enc v ++ r := by
  intro f s
  fun_induction decAux f s <;> grind [enc]

/-- with enough fuel the encoding of `v` followed by anything parses to `v` and leaves the rest -/
theorem decAux_complete (v : Val) : ∀ (f : Nat) (r : List Sym),
    v.size ≤ f → decAux f (enc v ++ r) = some (v, r) := by
  induction v with
  | nil =>
    intro f r hf
    obtain ⟨f, rfl⟩ := Nat.exists_eq_add_of_le' hf
    rfl
  | num n w ih =>
    intro f r hf
    rw [Val.size] at hf
    obtain ⟨f, rfl⟩ := Nat.exists_eq_add_of_le' (Nat.le_of_add_right_le hf)
    rw [enc, List.cons_append, List.cons_append, decAux, if_neg Nat.one_ne_zero, if_pos rfl,
      ih f r (Nat.le_of_add_le_add_left (Nat.add_comm f 1 ▸ hf))]
  | sub v w ihv ihw =>
    intro f r hf
    rw [Val.size, Nat.add_assoc] at hf
    obtain ⟨f, rfl⟩ := Nat.exists_eq_add_of_le' (Nat.le_of_add_right_le hf)
    have hf' : v.size + w.size ≤ f := Nat.le_of_add_le_add_left (Nat.add_comm f 1 ▸ hf)
    rw [enc, List.cons_append, List.append_assoc]
    -- one step of `decAux`, by computation (its equations want the tail of the stream in cons form)
    refine (if_neg (by decide)).trans ((if_neg (by decide)).trans ((if_pos rfl).trans ?_))
    rw [ihv f _ (Nat.le_of_add_right_le hf')]
    dsimp only
    rw [ihw f r (Nat.le_of_add_left_le hf')]

/-- unique parse: no encoding is a proper prefix of another one -/
theorem enc_inj (v : Val) : ∀ (w : Val) (a b : List Sym), enc v ++ a = enc w ++ b → v = w ∧ a = b := by
  -- the first symbols are opcodes: equal streams have the same constructor, then compare the rest
  induction v with
  | nil =>
    intro w a b h
    cases w with
    | nil => exact ⟨rfl, List.tail_eq_of_cons_eq h⟩
    | num m r' => exact absurd (List.head_eq_of_cons_eq h) (by decide)
    | sub v' r' => exact absurd (List.head_eq_of_cons_eq h) (by decide)
  | num n r ih =>
    intro w a b h
    cases w with
    | nil => exact absurd (List.head_eq_of_cons_eq h) (by decide)
    | num m r' =>
      have h' := List.tail_eq_of_cons_eq h
      obtain ⟨e1, e2⟩ := ih r' a b (List.tail_eq_of_cons_eq h')
      exact ⟨by rw [List.head_eq_of_cons_eq h', e1], e2⟩
    | sub v' r' => exact absurd (List.head_eq_of_cons_eq h) (by decide)
  | sub v r ihv ihr =>
    intro w a b h
    cases w with
    | nil => exact absurd (List.head_eq_of_cons_eq h) (by decide)
    | num m r' => exact absurd (List.head_eq_of_cons_eq h) (by decide)
    | sub v' r' =>
      have h' : (enc v ++ enc r) ++ a = (enc v' ++ enc r') ++ b := List.tail_eq_of_cons_eq h
      rw [List.append_assoc, List.append_assoc] at h'
      obtain ⟨e1, h2⟩ := ihv v' _ _ h'
      obtain ⟨e2, e3⟩ := ihr r' a b h2
      exact ⟨by rw [e1, e2], e3⟩
end PhyModel.Framing
