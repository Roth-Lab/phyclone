import PhyModel.Proofs.GraphOfPayload
import PhyModel.Proofs.GraphRemove
import PhyModel.Proofs.GraphGetSub
import PhyModel.Proofs.StoreWF_rmSub
import PhyModel.Proofs.StoreCache_rmSub
/-! The structural `SF.removeSub` of the store model is a correct abstraction of the graph-level
`remove_subtree` (`gRemoveSubtree`): in the graph of a structural forest with distinct non-zero
indices, what is reachable from clone `i` is exactly the structural subtree `findSub i`
(`reach_graphOf_iff`), and removing it leaves the graph of `removeSub i` (`graph_removeSub`); so
`Store.removeSubtree` on a well-formed store is `gRemoveSubtree` at the index registered for the root of
the subtree (`graph_store_removeSubtree`). -/
namespace PhyModel.Graph
open PhyModel.Store

/-! ### edges of a forest, by target -/

theorem nodup_edgesOf {f : SF} (hn : f.idxs.Nodup) (par : Nat) : (Store.edgesOf par f).Nodup :=
  List.Nodup.of_map (·.2) (by rw [edgesOf_map_snd]; exact hn)

/-- when the edges of `g` (under `par'`) are edges of `f`, an edge of `f` into a clone of `g` is an edge
of `g` -/
theorem mem_edgesOf_of_sub {f g : SF} {par par' : Nat} (hn : f.idxs.Nodup)
    (hsub : ∀ e ∈ Store.edgesOf par' g, e ∈ Store.edgesOf par f) {e : Nat × Nat}
    (he : e ∈ Store.edgesOf par f) (ht : e.2 ∈ g.idxs) : e ∈ Store.edgesOf par' g := by
  -- the edge of `g` with the same target; in `f` an edge is determined by its target
  obtain ⟨e', he', h⟩ := List.mem_map.1 (edgesOf_map_snd g par' ▸ ht)
  rw [List.inj_on_of_nodup_map (f := (·.2)) (edgesOf_map_snd f par ▸ hn) he (hsub e' he') h.symm]
  exact he'

/-! ### the two structural operations only select edges -/

/-- the edges below the node found by `findSub` are edges of the forest -/
theorem edgesOf_findSub_sub : ∀ {f : SF} {i : Nat} {x : NodeRec × SF} (par : Nat), f.findSub i = some x →
    ∀ e ∈ Store.edgesOf i x.2, e ∈ Store.edgesOf par f
  | .nil, _, _, _, h => by simp [SF.findSub] at h
  | .cons n k s, i, x, par, h => by
    intro e he
    simp only [SF.findSub] at h
    simp only [edgesOf_cons, List.mem_cons, List.mem_append]
    by_cases hni : n.idx = i
    · simp only [hni, if_true, Option.some.injEq] at h
      subst h
      exact .inr (.inl (hni ▸ he))
    · simp only [hni, if_false] at h
      cases hk : k.findSub i with
      | some y =>
        rw [hk] at h; simp only [Option.some.injEq] at h; subst h
        exact .inr (.inl (edgesOf_findSub_sub n.idx hk e he))
      | none =>
        rw [hk] at h
        exact .inr (.inr (edgesOf_findSub_sub par h e he))

/-- the edges of what `removeSub` leaves are edges of the forest -/
theorem edgesOf_removeSub_sub (i : Nat) : ∀ (f : SF) (par : Nat),
    ∀ e ∈ Store.edgesOf par (f.removeSub i), e ∈ Store.edgesOf par f
  | .nil, _, e, he => by simp [SF.removeSub] at he
  | .cons n k s, par, e, he => by
    simp only [SF.removeSub] at he
    simp only [edgesOf_cons, List.mem_cons, List.mem_append]
    split at he
    · exact .inr (.inr he)
    · simp only [edgesOf_cons, List.mem_cons, List.mem_append] at he
      rcases he with he | he | he
      · exact .inl he
      · exact .inr (.inl (edgesOf_removeSub_sub i k n.idx e he))
      · exact .inr (.inr (edgesOf_removeSub_sub i s par e he))

/-! ### the index set splits into the subtree and the rest -/

theorem idxs_removeSub_perm {f : SF} {i : Nat} {x : NodeRec × SF} (hn : f.idxs.Nodup)
    (hx : f.findSub i = some x) : f.idxs.Perm ((i :: x.2.idxs) ++ (f.removeSub i).idxs) := by
  have := (SF.removeSub_perm hn hx).map (·.idx)
  simpa [SF.idxs, (SF.findSub_some hx).1] using this

/-- membership form of `idxs_removeSub_perm`: a clone is in the subtree or in the rest, not both -/
theorem mem_idxs_split {f : SF} {i : Nat} {x : NodeRec × SF} (hn : f.idxs.Nodup)
    (hx : f.findSub i = some x) :
    (∀ v, v ∈ f.idxs ↔ (v = i ∨ v ∈ x.2.idxs) ∨ v ∈ (f.removeSub i).idxs) ∧
    (∀ v, v = i ∨ v ∈ x.2.idxs → v ∉ (f.removeSub i).idxs) ∧
    (i :: x.2.idxs).Nodup ∧ (f.removeSub i).idxs.Nodup := by
  have hp := idxs_removeSub_perm hn hx
  have hnd := (List.Perm.nodup_iff hp).1 hn
  rw [List.nodup_append] at hnd
  refine ⟨fun v => ?_, fun v hv hv' => ?_, hnd.1, hnd.2.1⟩
  · rw [hp.mem_iff, List.mem_append, List.mem_cons]
  · exact hnd.2.2 v (List.mem_cons.2 hv) v hv' rfl

/-! ### reachability is the structural subtree -/

/-- **what is reachable from clone `i` in the graph of a structural forest is `i` and the clones of
the child forest `findSub` returns** -/
theorem reach_graphOf_iff {f : SF} {i : Nat} {x : NodeRec × SF} (hn : f.idxs.Nodup) (h0 : 0 ∉ f.idxs)
    (hx : f.findSub i = some x) (v : Nat) : Reach (graphOf f) i v ↔ v = i ∨ v ∈ x.2.idxs := by
  obtain ⟨hm, hdis, -, -⟩ := mem_idxs_split hn hx
  constructor
  · intro h
    induction h with
    | refl => exact .inl rfl
    | @step b c _ he ih =>
      have he : (b, c) ∈ Store.edgesOf 0 f := he
      rcases (hm c).1 (edgesOf_snd he) with hc | hc
      · exact hc
      · exfalso
        have he' := mem_edgesOf_of_sub hn (edgesOf_removeSub_sub i f 0) he hc
        rcases edgesOf_fst he' with hb | hb
        · have hb : b = 0 := hb
          subst hb
          exact h0 ((hm 0).2 (.inl ih))
        · exact hdis b ih hb
  · rintro (rfl | hv)
    · exact .refl _
    · exact reach_edgesOf x.2 i (edgesOf_findSub_sub 0 hx) v hv

/-! ### `remove_subtree` -/

/-- **the structural `removeSub` is the graph-level `remove_subtree`**: on the graph of a structural
forest the graph operation succeeds and returns the graph of `removeSub i` -/
theorem graph_removeSub {f : SF} {i : Nat} (hn : f.idxs.Nodup) (h0 : 0 ∉ f.idxs) (hi : i ∈ f.idxs) :
    ∃ g', gRemoveSubtree (graphOf f) i = some g' ∧
      g'.nodes.Perm (graphOf (f.removeSub i)).nodes ∧ g'.edges.Perm (graphOf (f.removeSub i)).edges := by
  obtain ⟨x, hx⟩ := SF.findSub_isSome_of_mem hi
  obtain ⟨hm, hdis, -, hnr⟩ := mem_idxs_split hn hx
  have hr : i ∈ (graphOf f).nodes := List.mem_cons_of_mem _ hi
  obtain ⟨g', hg'⟩ := Option.isSome_iff_exists.1 (gRemoveSubtree_isSome hr)
  obtain ⟨-, D, hD, rfl⟩ := gRemoveSubtree_spec hg'
  have hD' : ∀ v, v ∈ D ↔ v = i ∨ v ∈ x.2.idxs := fun v => (hD v).trans (reach_graphOf_iff hn h0 hx v)
  have h0D : 0 ∉ D := fun h => h0 ((hm 0).2 (.inl ((hD' 0).1 h)))
  have h0r : 0 ∉ (f.removeSub i).idxs := fun h => h0 ((hm 0).2 (.inr h))
  refine ⟨_, hg', ?_, ?_⟩
  · refine (List.perm_ext_iff_of_nodup (l₁ := ((graphOf f).removeNodesFrom D).nodes)
      ((List.nodup_cons.2 ⟨h0, hn⟩).filter fun v => !D.contains v) (List.nodup_cons.2 ⟨h0r, hnr⟩)).2 fun v => ?_
    rw [mem_removeNodesFrom_nodes, hD']
    simp only [graphOf_nodes, List.mem_cons, hm]
    constructor
    · rintro ⟨rfl | (h | h), hv⟩
      · exact .inl rfl
      · exact absurd h hv
      · exact .inr h
    · rintro (rfl | h)
      · exact ⟨.inl rfl, fun h => h0D ((hD' 0).2 h)⟩
      · exact ⟨.inr (.inr h), fun h' => hdis v h' h⟩
  · refine (List.perm_ext_iff_of_nodup (l₁ := ((graphOf f).removeNodesFrom D).edges)
      ((nodup_edgesOf hn 0).filter fun e : Nat × Nat => !D.contains e.1 && !D.contains e.2) (nodup_edgesOf hnr 0)).2 fun e => ?_
    rw [mem_removeNodesFrom_edges, hD', hD']
    constructor
    · rintro ⟨he, -, h2⟩
      rcases (hm e.2).1 (edgesOf_snd he) with h | h
      · exact absurd h h2
      · exact mem_edgesOf_of_sub hn (edgesOf_removeSub_sub i f 0) he h
    · intro he
      refine ⟨edgesOf_removeSub_sub i f 0 e he, fun h => ?_, fun h => hdis _ h (edgesOf_snd he)⟩
      rcases edgesOf_fst he with h1 | h1
      · exact h0D ((hD' 0).2 (h1 ▸ h))
      · exact hdis _ h h1

/-! ### the whole `Store.removeSubtree` -/

/-- **`Tree.remove_subtree` of the store model is `gRemoveSubtree`** (or `self.__init__` when the
subtree is the whole tree): the root `r` of the removed subtree is a clone. -/
theorem graph_store_removeSubtree {dt : Data} {s sub s' : Store} (hwf : WF s)
    (h : s.removeSubtree dt sub = some s') :
    (Store.keyEq sub s = true ∧ graphOf s'.forest = gInit) ∨
      ∃ r g', gRemoveSubtree (graphOf s.forest) r = some g' ∧ r ≠ 0 ∧ GEquiv g' (graphOf s'.forest) := by
  cases he : Store.keyEq sub s with
  | true => exact .inl ⟨rfl, by rw [removeSubtree_eq_init h he]; rfl⟩
  | false =>
    obtain ⟨r, par, i, s1, _, _, hi, hs1, h⟩ := removeSubtree_unf h he
    have hf : s1.forest = s.forest :=
      C06.foldlM_inv (fun a b : Store => b.forest = a.forest) (fun _ => rfl) (fun _ _ _ h1 h2 => h2.trans h1)
        rmStep (fun a x b hab => by obtain ⟨ci, _, rfl⟩ := rmStep_spec hab; rfl) _ _ _ hs1
    obtain ⟨n, hn, -, hni⟩ := (hwf.nodeIdx_iff _ i).1 (AL.mem_of_lookup hi)
    have him : i ∈ s.forest.idxs := SF.mem_idxs.2 ⟨n, hn, hni⟩
    obtain ⟨g', hg, hn, he'⟩ := graph_removeSub hwf.idxs_nodup (WF.zero_notMem hwf) him
    refine .inr ⟨i, g', hg, fun h0 => WF.zero_notMem hwf (h0 ▸ him), ?_⟩
    rw [graphOf_updatePathToRoot h]
    show GEquiv g' (graphOf (s1.forest.removeSub i))
    rw [hf]
    exact ⟨hn, he'⟩

/-! ### non-vacuity: five clones, depth 3; clone 2 has the child 1, its parent 4 also has the child 3 -/

private def nr (i : Nat) : NodeRec := { idx := i, name := i, dps := [i], p := [], r := [] }

private def f5 : SF :=
  .cons (nr 4) (.cons (nr 2) (.cons (nr 1) .nil .nil) (.cons (nr 3) .nil .nil)) (.cons (nr 5) .nil .nil)

/-- the hypotheses of `graph_removeSub` hold for `f5` and clone 4 (resp. 2), and this is what the graph
operation and the structural operation evaluate to -/
example : f5.idxs.Nodup ∧ 0 ∉ f5.idxs ∧ 4 ∈ f5.idxs ∧ 2 ∈ f5.idxs ∧
    graphOf f5 = { nodes := [0, 4, 2, 1, 3, 5], edges := [(0, 4), (4, 2), (2, 1), (4, 3), (0, 5)] } ∧
    gRemoveSubtree (graphOf f5) 4 = some { nodes := [0, 5], edges := [(0, 5)] } ∧
    graphOf (f5.removeSub 4) = { nodes := [0, 5], edges := [(0, 5)] } ∧
    gRemoveSubtree (graphOf f5) 2 = some { nodes := [0, 4, 3, 5], edges := [(0, 4), (4, 3), (0, 5)] } ∧
    graphOf (f5.removeSub 2) = { nodes := [0, 4, 3, 5], edges := [(0, 4), (4, 3), (0, 5)] } ∧
    ((f5.findSub 4).map fun x => x.2.idxs) = some [2, 1, 3] ∧
    ((f5.findSub 2).map fun x => x.2.idxs) = some [1] := by
  decide +kernel

end PhyModel.Graph
