import PhyModel.Proofs.StoreCache_addDp
import PhyModel.Proofs.StoreCache_relabel
import PhyModel.Proofs.StoreWF_rmSub
/-! C06, `Tree.remove_subtree`: the subtree below (and including) one clone is cut out; only the
equations on the path from its former parent to the top can break, and that path is recomputed. -/
namespace PhyModel.Store.C06

/-! ### `removeSub` -/

theorem removeSub_cons (j : Nat) (n : NodeRec) (k s : SF) :
    SF.removeSub j (.cons n k s) =
      if n.idx = j then s else .cons n (SF.removeSub j k) (SF.removeSub j s) := rfl

theorem POK_removeSub (dt : Data) (j : Nat) : ∀ f : SF, POK dt f → POK dt (SF.removeSub j f)
  | .nil, _ => trivial
  | .cons n k s, ⟨h1, h2, h3⟩ => by
    rw [removeSub_cons]
    split
    · exact h3
    · exact ⟨h1, POK_removeSub dt j k h2, POK_removeSub dt j s h3⟩

/-- cutting out the subtree at `j` leaves everything in order when `j` was a top-level clone, and
otherwise everything except the path to the former parent of `j` (which is still present) -/
theorem ROK_removeSub_parent (dt : Data) (j : Nat) (f : SF) :
    ∀ (par : Option NodeRec) (q : Option NodeRec),
    f.idxs.Nodup → ROK dt f → SF.parentIn j par f = some q →
    (q = par ∧ ROK dt (SF.removeSub j f)) ∨
    (∃ p, q = some p ∧ p ∈ f.recs ∧ p.idx ∈ (SF.removeSub j f).idxs ∧
      ROKx dt p.idx (SF.removeSub j f)) := by
  induction f with
  | nil => exact fun _ _ _ _ h => nomatch h
  | cons n k s ihk ihs =>
    intro par q hnd h hq
    obtain ⟨_, _, hk, hs, hks⟩ := nodup_cons_idxs hnd
    rw [ROK_cons] at h
    rw [removeSub_cons]
    rcases parentIn_cons_some hq with ⟨h1, rfl⟩ | ⟨h1, hjk, hpk⟩ | ⟨h1, hjk, hq⟩
    · rw [if_pos h1]
      exact Or.inl ⟨rfl, h.2.2⟩
    · rw [if_neg h1, SF.removeSub_of_not_mem (hks j hjk)]
      refine Or.inr ?_
      rcases ihk (some n) q hk h.2.1 hpk with
        ⟨rfl, hkOK⟩ | ⟨p, rfl, hp, hpi, hpx⟩
      · exact ⟨n, rfl, List.mem_cons_self, mem_idxs_cons.2 (Or.inl rfl), ROKx_cons.2
          ⟨Or.inl (Or.inl rfl), hkOK.toROKx _, h.2.2.toROKx _⟩⟩
      · exact ⟨p, rfl, List.mem_cons_of_mem _ (List.mem_append_left _ hp),
          mem_idxs_cons.2 (Or.inr (Or.inl hpi)),
          ROKx_cons.2 ⟨Or.inl (Or.inr hpi), hpx, h.2.2.toROKx _⟩⟩
    · rw [if_neg h1, SF.removeSub_of_not_mem hjk]
      rcases ihs par q hs h.2.2 hq with
        ⟨rfl, hsOK⟩ | ⟨p, rfl, hp, hpi, hpx⟩
      · exact Or.inl ⟨rfl, ROK_cons.2 ⟨h.1, h.2.1, hsOK⟩⟩
      · exact Or.inr ⟨p, rfl, List.mem_cons_of_mem _ (List.mem_append_right _ hp),
          mem_idxs_cons.2 (Or.inr (Or.inr hpi)),
          ROKx_cons.2 ⟨Or.inr h.1, h.2.1.toROKx _, hpx⟩⟩

/-! ### deleting bookkeeping entries -/

theorem lookup_alDel_some {κ ν : Type} [BEq κ] [LawfulBEq κ] (m : List (κ × ν)) (k k' : κ) (v : ν)
    (h : (alDel m k').lookup k = some v) : m.lookup k = some v := by
  rw [AL.lookup_alDel] at h
  split at h
  · cases h
  · exact h

theorem foldlM_inv {σ α} (P : σ → σ → Prop) (hrefl : ∀ a, P a a)
    (htrans : ∀ a b c, P a b → P b c → P a c) (stp : σ → α → Option σ)
    (hstp : ∀ a x b, stp a x = some b → P a b) (l : List α) :
    ∀ a b : σ, List.foldlM stp a l = some b → P a b := by
  induction l with
  | nil =>
    intro a b h
    cases h
    exact hrefl a
  | cons x l ih =>
    intro a b h
    rw [List.foldlM_cons] at h
    obtain ⟨c, hc, h⟩ := Option.bind_eq_some_iff.1 h
    exact htrans a c b (hstp a x c hc) (ih c b h)

/-- what the bookkeeping loop of `remove_subtree` preserves -/
def RmInv (a b : Store) : Prop :=
  b.forest = a.forest ∧ b.rootR = a.rootR ∧
    ∀ nm i, b.nodeIdx.lookup nm = some i → a.nodeIdx.lookup nm = some i

/-- C06 for `Tree.remove_subtree`: the bookkeeping loop leaves the forest alone (`RmInv`), cutting the subtree
out breaks at most the path to its former parent (`ROK_removeSub_parent`), and `updatePath` from that parent
recomputes it; removing the whole tree gives the empty tree -/
theorem cacheOK_rmSub (dt : Data) (s sub s' : Store) (hw : WFc s) (hc : CacheOK dt s)
    (h : s.removeSubtree dt sub = some s') : CacheOK dt s' := by
  rcases Bool.eq_false_or_eq_true (Store.keyEq sub s) with hkey | hkey
  · rw [removeSubtree_eq_init h hkey]
    exact cacheOK_init dt
  · obtain ⟨_, par, j, s1, _, hpar, hj, hfold, hup⟩ := removeSubtree_unf h hkey
    have hinv : RmInv s s1 := by
      refine foldlM_inv RmInv (fun a => ⟨rfl, rfl, fun _ _ h => h⟩)
        (fun a b c h1 h2 => ⟨h2.1.trans h1.1, h2.2.1.trans h1.2.1,
          fun nm i h => h1.2.2 nm i (h2.2.2 nm i h)⟩) _ ?_ _ _ _ hfold
      intro a nm b hab
      obtain ⟨ci, _, rfl⟩ := rmStep_spec hab
      exact ⟨rfl, rfl, fun nm' i h => lookup_alDel_some _ _ _ _ h⟩
    obtain ⟨hf1, _, hlk⟩ := hinv
    obtain ⟨i2, q, hi2, hq, rfl⟩ := getParent_some hpar
    have : i2 = j := Option.some.inj (hi2.symm.trans hj)
    subst this
    obtain ⟨hp, hr⟩ := (cacheOKsf_iff dt _).1 hc.1
    rw [hf1] at hup
    have hp2 := POK_removeSub dt i2 s.forest hp
    have hnd2 : (SF.removeSub i2 s.forest).idxs.Nodup :=
      ((SF.removeSub_sublist i2 s.forest).map _).nodup hw.idxs_nodup
    rcases ROK_removeSub_parent dt i2 s.forest none q hw.idxs_nodup hr hq with
      ⟨rfl, hrok⟩ | ⟨p, rfl, hpm, _, hpx⟩
    · exact cacheOK_updatePath_none dt _ s' ((cacheOKsf_iff dt _).2 ⟨hp2, hrok⟩) hup
    · refine cacheOK_updatePath_some dt _ s' p.name hnd2 hp2 ?_ hup
      intro i hi
      have : i = p.idx := hw.lookup_idx p hpm i (hlk _ _ hi)
      rw [this]
      exact hpx

end PhyModel.Store.C06
