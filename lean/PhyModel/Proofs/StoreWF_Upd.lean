import PhyModel.Proofs.StoreWF_Facts
/-! The data-point edits (C07, C15) all rewrite the data points of one key by a list function `f`, in
`_data` and in the payload of that name (`DpsEdit`): `WF.edit` shows that this keeps `WF`, and `Full`,
`Dense`, `Aligned` follow from the shape alone.  `addDataPointToNode`, `removeDataPointFromNode` and
`removeDataPointFromOutliers` are such edits (`f` appends or erases `dp`), so each preserves the invariant,
keeps the clone names and changes `_data` by exactly `dp`.  Also what `recAdd` / `recRemove` return. -/
namespace PhyModel.Store
open Store.Store SF AL

/-- `recAdd` keeps index and name and appends the data points -/
theorem recAdd_fields {dt : Data} {n n' : NodeRec} {dps : List Nat} (h : recAdd dt n dps = some n') :
    n'.idx = n.idx ∧ n'.name = n.name ∧ n'.dps = n.dps ++ dps := by
  unfold recAdd at h
  induction dps generalizing n with
  | nil => cases h; exact ⟨rfl, rfl, (List.append_nil _).symm⟩
  | cons d l ih =>
    simp only [List.foldlM_cons, Option.bind_eq_bind, Option.bind_eq_some_iff] at h
    obtain ⟨m, hm, h⟩ := h
    split at hm
    · cases hm
    · simp only [Option.some.injEq] at hm; subst hm
      obtain ⟨h1, h2, h3⟩ := ih h
      exact ⟨h1, h2, by simp [h3]⟩

theorem recRemove_fields {dt : Data} {n n' : NodeRec} {dp : Nat} (h : recRemove dt n dp = some n') :
    n'.idx = n.idx ∧ n'.name = n.name ∧ n'.dps = n.dps.erase dp ∧ dp ∈ n.dps := by
  unfold recRemove at h
  split at h
  · rename_i hc
    simp only [Option.some.injEq] at h; subst h
    exact ⟨rfl, rfl, rfl, by simpa using hc⟩
  · cases h

/-! ### rewriting the data points of one key -/

/-- `s'` is `s` with the data points of `node` rewritten by `f`, in `_data` and in the payload of that name -/
structure DpsEdit (s s' : Store) (node : Int) (f : List Nat → List Nat) : Prop where
  names : s'.forest.names = s.forest.names
  data : s'.data = alSet s.data node (f (s.dataOf node))
  recs : ∀ n' ∈ s'.forest.recs, ∃ m ∈ s.forest.recs, n'.name = m.name ∧
    n'.dps = if m.name = node then f m.dps else m.dps

namespace DpsEdit
variable {s s' : Store} {node : Int} {f : List Nat → List Nat}

theorem mem (h : DpsEdit s s' node f) {n : NodeRec} (hn : n ∈ s'.forest.recs) :
    ∃ m ∈ s.forest.recs, m.name = n.name := mem_names.1 (h.names ▸ mem_names.2 ⟨n, hn, rfl⟩)

/-- the edited key exists afterwards: enough that all *other* clones have theirs -/
theorem full (h : DpsEdit s s' node f) (hf : ∀ n ∈ s.forest.recs, n.name ≠ node → n.name ∈ keys s.data) :
    Full s' := by
  intro n hn
  obtain ⟨m, hm, hmn⟩ := h.mem hn
  show n.name ∈ keys s'.data
  rw [h.data, mem_keys_alSet]
  by_cases hc : n.name = node
  · exact Or.inl hc
  · exact Or.inr (hmn ▸ hf m hm (hmn ▸ hc))

theorem dense (h : DpsEdit s s' node f) (hd : Dense s) : Dense s' := dense_of_names h.names hd

theorem aligned (h : DpsEdit s s' node f) (ha : Aligned s) : Aligned s' := by
  intro n' hn'
  obtain ⟨m, hm, h1, h2⟩ := h.recs n' hn'
  rw [h2, dataOf_eq, h.data, h1]
  by_cases hc : m.name = node
  · rw [if_pos hc, hc, dOf_alSet_self, ← hc, ha m hm]
  · rw [if_neg hc, dOf_alSet_ne hc]; exact ha m hm

end DpsEdit

theorem WF.edit {s s' : Store} {node : Int} {f : List Nat → List Nat} {g : NodeRec → NodeRec} (hw : WF s)
    (hf : ∀ m ∈ s.forest.recs, m.name = node → (f m.dps).Perm (f (s.dataOf node)))
    (hg : ∀ m ∈ s.forest.recs, (g m).name = m.name ∧ (g m).idx = m.idx ∧
      (g m).dps = if m.name = node then f m.dps else m.dps)
    (hkey : node = outKey ∨ node ∈ s.forest.names)
    (hnd : (f (s.dataOf node) ++ vals (alDel s.data node)).Nodup)
    (hc : s'.forest.cores = (s.forest.recs.map g).map core) (h1 : s'.nodeIdx = s.nodeIdx)
    (h2 : s'.nodeIdxRev = s.nodeIdxRev) (hd : s'.data = alSet s.data node (f (s.dataOf node))) :
    WF s' ∧ DpsEdit s s' node f := by
  have hp : s'.forest.recs.map (fun n => (n.name, n.idx)) = s.forest.recs.map fun n => (n.name, n.idx) :=
    (sameCore_of_cores hc).pairs.trans (by
      rw [List.map_map]; exact List.map_congr_left fun m hm => Prod.ext (hg m hm).1 (hg m hm).2.1)
  have hn : s'.forest.names = s.forest.names := by
    have := congrArg (List.map Prod.fst) hp; rwa [List.map_map, List.map_map] at this
  have hr : ∀ n' ∈ s'.forest.recs, ∃ m ∈ s.forest.recs, n'.name = m.name ∧
      n'.dps = if m.name = node then f m.dps else m.dps := fun n' hn' => by
    obtain ⟨a, ha, _, e1, e2⟩ := mem_of_cores_eq hc hn'
    obtain ⟨m, hm, rfl⟩ := List.mem_map.1 ha
    exact ⟨m, hm, e1.trans (hg m hm).1, e2.trans (hg m hm).2.2⟩
  refine ⟨?_, hn, hd, hr⟩
  rw [wf_iff, h1, h2, hd]
  refine ⟨hw.g.of_pairs hp, hw.m.of_pairs hp, nodup_keys_alSet _ hw.d.data_keys, fun k hk => ?_, fun n' hn' => ?_,
    (vals_alSet_perm hw.d.data_keys node _).nodup_iff.2 hnd⟩
  · rcases (mem_keys_alSet _).1 hk with rfl | hk
    · exact hkey.imp id fun h => (hn.symm ▸ h : _ ∈ s'.forest.names)
    · exact (hw.d.data_sub k hk).imp id fun h => (hn.symm ▸ h : k ∈ s'.forest.names)
  · obtain ⟨m, hm, e1, e2⟩ := hr n' hn'
    rw [e1, e2]
    by_cases hmn : m.name = node
    · rw [if_pos hmn, hmn, dOf_alSet_self]; exact hf m hm hmn
    · rw [if_neg hmn, dOf_alSet_ne hmn]; exact hw.payload_data m hm

theorem WF.edit_out {s s' : Store} {f : List Nat → List Nat} (hw : WF s)
    (hnd : (f s.outliers ++ vals (alDel s.data outKey)).Nodup)
    (hf : s'.forest = s.forest) (h1 : s'.nodeIdx = s.nodeIdx) (h2 : s'.nodeIdxRev = s.nodeIdxRev)
    (hd : s'.data = alSet s.data outKey (f s.outliers)) : WF s' ∧ DpsEdit s s' outKey f :=
  hw.edit (g := id) (fun _ hm h => absurd h (hw.name_ne_outKey hm))
    (fun _ hm => ⟨rfl, rfl, (if_neg (hw.name_ne_outKey hm)).symm⟩) (Or.inl rfl) hnd
    (by rw [hf, List.map_id]; rfl) h1 h2 hd

theorem WF.edit_clone {dt : Data} {s s2 s' : Store} {node : Int} {f : List Nat → List Nat} {i : Nat}
    {x : NodeRec × SF} {n' : NodeRec} {src : Option Int} (hw : WF s)
    (hf : ∀ {l l' : List Nat}, l.Perm l' → (f l).Perm (f l'))
    (hnd : (f (s.dataOf node) ++ vals (alDel s.data node)).Nodup)
    (hi : s.nodeIdx.lookup node = some i) (hx : s.forest.findSub i = some x)
    (hn' : n'.idx = x.1.idx ∧ n'.name = x.1.name ∧ n'.dps = f x.1.dps)
    (hu : updatePathToRoot dt s2 src = some s')
    (hf2 : s2.forest = setRec i (fun _ => n') s.forest) (h1 : s2.nodeIdx = s.nodeIdx)
    (h2 : s2.nodeIdxRev = s.nodeIdxRev) (hd : s2.data = alSet s.data node (f (s.dataOf node))) :
    WF s' ∧ DpsEdit s s' node f := by
  obtain ⟨hxm, hxn, hxi⟩ := hw.findSub_of_lookup hi hx
  obtain ⟨hc, h1', h2', h3', _⟩ := updatePathToRoot_spec hu
  refine hw.edit (g := fun m => if m.idx = i then n' else m)
    (fun m hm hmn => hf (hmn ▸ hw.payload_data m hm)) (fun m hm => ?_)
    (Or.inr (mem_names.2 ⟨x.1, hxm, hxn⟩)) hnd (by rw [hc, hf2, SF.cores, recs_setRec])
    (h1'.trans h1) (h2'.trans h2) (h3'.trans hd)
  by_cases hmi : m.idx = i
  · have : m = x.1 := hw.g.eq_of_idx hm hxm (hmi.trans hxi.symm)
    subst this
    rw [if_pos hmi, if_pos hxn]; exact ⟨hn'.2.1, hn'.1, hn'.2.2⟩
  · have hne : m.name ≠ node := fun hc' =>
      hmi ((congrArg NodeRec.idx (hw.g.eq_of_name hm hxm (hc'.trans hxn.symm))).trans hxi)
    rw [if_neg hmi, if_neg hne]; exact ⟨rfl, rfl, rfl⟩

/-! ### `addDataPointToNode` -/

theorem getParent_some {s : Store} {name : Int} {par : Option Int}
    (h : s.getParent name = some par) :
    ∃ i q, s.nodeIdx.lookup name = some i ∧ SF.parentIn i none s.forest = some q ∧
      par = q.map (·.name) := by
  unfold Store.getParent at h
  obtain ⟨i, hi, h⟩ := Option.bind_eq_some_iff.1 h
  obtain ⟨q, hq, h⟩ := Option.bind_eq_some_iff.1 h
  cases h
  exact ⟨i, q, hi, hq, rfl⟩

theorem addDp_unf {dt : Data} {s s' : Store} {dp : Nat} {node : Int}
    (h : s.addDataPointToNode dt dp node = some s') :
    s.isDataPointInTree dp = false ∧
    ((node = outKey ∧ s' = { s with data := s.appendData node [dp], last := some node }) ∨
    ∃ i n k n' q, s.nodeIdx.lookup node = some i ∧ s.forest.findSub i = some (n, k) ∧
      recAdd dt n [dp] = some n' ∧
      SF.parentIn i none (setRec i (fun _ => n') s.forest) = some q ∧
      updatePathToRoot dt
        { s with forest := setRec i (fun _ => n') s.forest, data := s.appendData node [dp],
                 last := some node } (q.map (·.name)) = some s') := by
  unfold addDataPointToNode at h
  by_cases hin : s.isDataPointInTree dp = true
  · rw [if_pos hin] at h
    cases h
  · rw [if_neg hin] at h
    refine ⟨Bool.not_eq_true _ ▸ hin, ?_⟩
    by_cases hout : (node == outKey) = true
    · rw [if_pos hout] at h
      cases h
      exact Or.inl ⟨beq_iff_eq.1 hout, rfl⟩
    · rw [if_neg hout] at h
      obtain ⟨i, hi, h⟩ := Option.bind_eq_some_iff.1 h
      obtain ⟨n, hn, h⟩ := Option.bind_eq_some_iff.1 h
      obtain ⟨n', hn', h⟩ := Option.bind_eq_some_iff.1 h
      obtain ⟨par, hpar, hup⟩ := Option.bind_eq_some_iff.1 h
      obtain ⟨k, hf⟩ := recAt_some hn
      obtain ⟨i2, q, hi2, hq, rfl⟩ := getParent_some hpar
      cases Option.some.inj (hi2.symm.trans hi)
      exact Or.inr ⟨i, n, k, n', q, hi, hf, hn', hq, hup⟩

theorem addDp_spec {dt : Data} {s s' : Store} {dp : Nat} {node : Int}
    (h : s.addDataPointToNode dt dp node = some s') (hw : WF s) :
    (WF s' ∧ DpsEdit s s' node (· ++ [dp])) ∧ dp ∉ vals s.data := by
  obtain ⟨hin, h⟩ := addDp_unf h
  have hdp : dp ∉ vals s.data := hw.not_in_tree hin
  have hnd := nodup_add_dp hw.d.data_keys hw.d.data_nodup hdp node
  refine ⟨?_, hdp⟩
  rcases h with ⟨rfl, rfl⟩ | ⟨i, n, k, n', q, hi, hx, hn', _, h⟩
  · exact hw.edit_out (f := (· ++ [dp])) hnd rfl rfl rfl rfl
  · exact hw.edit_clone (List.Perm.append_right [dp]) hnd hi hx (recAdd_fields hn') h rfl rfl rfl rfl

theorem addDp_wf {dt : Data} {s s' : Store} {dp : Nat} {node : Int}
    (h : s.addDataPointToNode dt dp node = some s') (hw : WF s) : WF s' := (addDp_spec h hw).1.1

/-- the target clone gets its `_data` key: enough that all *other* clones have theirs -/
theorem addDp_full {dt : Data} {s s' : Store} {dp : Nat} {node : Int}
    (h : s.addDataPointToNode dt dp node = some s') (hw : WF s)
    (hf : ∀ n ∈ s.forest.recs, n.name ≠ node → n.name ∈ keys s.data) : Full s' :=
  (addDp_spec h hw).1.2.full hf

theorem addDp_inv {dt : Data} {s s' : Store} {dp : Nat} {node : Int}
    (h : s.addDataPointToNode dt dp node = some s') (hs : Inv0 s) : Inv0 s' :=
  ⟨addDp_wf h hs.1, addDp_full h hs.1 fun n hn _ => hs.2 n hn⟩

theorem addDp_dense {dt : Data} {s s' : Store} {dp : Nat} {node : Int}
    (h : s.addDataPointToNode dt dp node = some s') (hw : WF s) (hd : Dense s) : Dense s' :=
  (addDp_spec h hw).1.2.dense hd

/-- data conservation: exactly `dp` is added -/
theorem addDp_data {dt : Data} {s s' : Store} {dp : Nat} {node : Int}
    (h : s.addDataPointToNode dt dp node = some s') (hw : WF s) : (vals s'.data).Perm (dp :: vals s.data) := by
  rw [(addDp_spec h hw).1.2.data]
  exact (vals_alSet_perm hw.d.data_keys node _).trans (perm_add_dp hw.d.data_keys dp node)

theorem addDp_aligned {dt : Data} {s s' : Store} {dp : Nat} {node : Int}
    (h : s.addDataPointToNode dt dp node = some s') (hw : WF s) (ha : Aligned s) : Aligned s' :=
  (addDp_spec h hw).1.2.aligned ha

/-! ### `removeDataPointFromNode` -/

theorem rmDp_unf {dt : Data} {s s' : Store} {dp : Nat} {node : Int}
    (h : s.removeDataPointFromNode dt dp node = some s') :
    dp ∈ s.dataOf node ∧
    ((node = outKey ∧ s' = { s with data := alSet s.data node ((s.dataOf node).erase dp) }) ∨
      ∃ i n k n', s.nodeIdx.lookup node = some i ∧ s.forest.findSub i = some (n, k) ∧
        recRemove dt n dp = some n' ∧
        updatePathToRoot dt { s with data := alSet s.data node ((s.dataOf node).erase dp),
                                     forest := setRec i (fun _ => n') s.forest } (some node) = some s') := by
  unfold removeDataPointFromNode at h
  by_cases hin : (!(s.dataOf node).contains dp) = true
  · rw [if_pos hin] at h; cases h
  rw [if_neg hin] at h
  refine ⟨by simpa using hin, ?_⟩
  by_cases hout : (node == outKey) = true
  · rw [if_pos hout] at h
    cases h
    exact Or.inl ⟨beq_iff_eq.1 hout, rfl⟩
  · rw [if_neg hout] at h
    obtain ⟨i, hi, h⟩ := Option.bind_eq_some_iff.1 h
    obtain ⟨n, hn, h⟩ := Option.bind_eq_some_iff.1 h
    obtain ⟨n', hn', h⟩ := Option.bind_eq_some_iff.1 h
    obtain ⟨k, hx⟩ := recAt_some hn
    exact Or.inr ⟨i, n, k, n', hi, hx, hn', h⟩

theorem rmDp_spec {dt : Data} {s s' : Store} {dp : Nat} {node : Int}
    (h : s.removeDataPointFromNode dt dp node = some s') (hw : WF s) :
    (WF s' ∧ DpsEdit s s' node (·.erase dp)) ∧ dp ∈ s.dataOf node := by
  obtain ⟨hin, h⟩ := rmDp_unf h
  refine ⟨?_, hin⟩
  have hnd := nodup_erase_dp hw.d.data_keys hw.d.data_nodup dp node
  rcases h with ⟨rfl, rfl⟩ | ⟨i, n, k, n', hi, hx, hn', h⟩
  · exact hw.edit_out (f := (·.erase dp)) hnd rfl rfl rfl rfl
  · obtain ⟨h1, h2, h3, _⟩ := recRemove_fields hn'
    exact hw.edit_clone (List.Perm.erase dp) hnd hi hx ⟨h1, h2, h3⟩ h rfl rfl rfl rfl

theorem rmDp_inv {dt : Data} {s s' : Store} {dp : Nat} {node : Int}
    (h : s.removeDataPointFromNode dt dp node = some s') (hs : Inv0 s) : Inv0 s' :=
  ⟨(rmDp_spec h hs.1).1.1, (rmDp_spec h hs.1).1.2.full fun n hn _ => hs.2 n hn⟩

theorem rmDp_dense {dt : Data} {s s' : Store} {dp : Nat} {node : Int}
    (h : s.removeDataPointFromNode dt dp node = some s') (hw : WF s) (hd : Dense s) : Dense s' :=
  (rmDp_spec h hw).1.2.dense hd

/-- data conservation: exactly `dp` is removed -/
theorem rmDp_data {dt : Data} {s s' : Store} {dp : Nat} {node : Int}
    (h : s.removeDataPointFromNode dt dp node = some s') (hw : WF s) :
    (vals s.data).Perm (dp :: vals s'.data) := by
  rw [(rmDp_spec h hw).1.2.data]; exact perm_of_erase_entry hw.d.data_keys (rmDp_spec h hw).2

theorem rmDp_aligned {dt : Data} {s s' : Store} {dp : Nat} {node : Int}
    (h : s.removeDataPointFromNode dt dp node = some s') (hw : WF s) (ha : Aligned s) : Aligned s' :=
  (rmDp_spec h hw).1.2.aligned ha

/-! ### `removeDataPointFromOutliers` -/

theorem rmOut_unf {s s' : Store} {dp : Nat} (h : s.removeDataPointFromOutliers dp = some s') :
    s' = { s with data := alSet s.data outKey (s.outliers.erase dp) } ∧ dp ∈ s.outliers := by
  unfold removeDataPointFromOutliers at h
  split at h
  · cases h
  · rename_i hc
    exact ⟨(Option.some.inj h).symm, by simpa using hc⟩

theorem rmOut_spec {s s' : Store} {dp : Nat} (h : s.removeDataPointFromOutliers dp = some s') (hw : WF s) :
    WF s' ∧ DpsEdit s s' outKey (·.erase dp) := by
  rw [(rmOut_unf h).1]
  exact hw.edit_out (f := (·.erase dp)) (nodup_erase_dp hw.d.data_keys hw.d.data_nodup dp outKey) rfl rfl rfl rfl

theorem rmOut_inv {s s' : Store} {dp : Nat} (h : s.removeDataPointFromOutliers dp = some s') (hs : Inv0 s) :
    Inv0 s' :=
  ⟨(rmOut_spec h hs.1).1, (rmOut_spec h hs.1).2.full fun n hn _ => hs.2 n hn⟩

theorem rmOut_dense {s s' : Store} {dp : Nat} (h : s.removeDataPointFromOutliers dp = some s')
    (hd : Dense s) : Dense s' := by
  rw [(rmOut_unf h).1]; exact hd

theorem rmOut_data {s s' : Store} {dp : Nat} (h : s.removeDataPointFromOutliers dp = some s') (hw : WF s) :
    (vals s.data).Perm (dp :: vals s'.data) := by
  rw [(rmOut_unf h).1]; exact perm_of_erase_entry hw.d.data_keys (rmOut_unf h).2

theorem rmOut_aligned {s s' : Store} {dp : Nat} (h : s.removeDataPointFromOutliers dp = some s')
    (hw : WF s) (ha : Aligned s) : Aligned s' :=
  (rmOut_spec h hw).2.aligned ha

end PhyModel.Store
