import PhyModel.Proofs.ConcDensity
import PhyModel.Proofs.GibbsTwoStage
/-! Measure-theoretic helper lemmas for the Gibbs-invariance instance of C13: joint measurability of
the Escobar–West joint and of the Gamma mixture density; integration against Mathlib's `betaMeasure`,
`gammaMeasure` and two-component Gamma mixtures in terms of the densities on `(0,1)` / `(0,∞)`; the
two sections of the joint as multiples of probability densities, in the form `GibbsTwoStage` takes;
finite total mass of the joint (for the measure with density `target` in C13). -/
open Real ProbabilityTheory MeasureTheory Set
open scoped ENNReal

namespace PhyModel.ConcDensity

lemma measurable_jointR (a b k n : ℝ) : Measurable (Function.uncurry (jointR a b k n)) := by
  unfold Function.uncurry jointR
  fun_prop

lemma measurable_gammaPDFReal_rate (s b : ℝ) :
    Measurable fun p : ℝ × ℝ => gammaPDFReal s (b - log p.1) p.2 := by
  unfold gammaPDFReal
  refine Measurable.ite (measurableSet_le measurable_const measurable_snd) ?_ measurable_const
  fun_prop

lemma measurable_mixR (a b k n : ℝ) : Measurable (Function.uncurry (mixR a b k n)) := by
  have h1 := measurable_gammaPDFReal_rate (a + k) b
  have h2 := measurable_gammaPDFReal_rate (a + k - 1) b
  unfold Function.uncurry mixR wR
  fun_prop

lemma lintegral_withDensity_ofReal {p : ℝ → ℝ} (hp : Measurable p) {S : Set ℝ}
    (hS : ∀ x ∉ S, p x = 0) (G : ℝ → ℝ≥0∞) :
    ∫⁻ x, G x ∂volume.withDensity (fun x => ENNReal.ofReal (p x))
      = ∫⁻ x in S, ENNReal.ofReal (p x) * G x := by
  rw [lintegral_withDensity_eq_lintegral_mul_non_measurable _ hp.ennreal_ofReal
    (ae_of_all _ fun _ => ENNReal.ofReal_lt_top)]
  refine (setLIntegral_eq_of_support_subset fun x hx => ?_).symm
  by_contra h
  refine hx ?_
  show ENNReal.ofReal (p x) * G x = 0
  rw [hS x h, ENNReal.ofReal_zero, zero_mul]

/-- `∫ G d Beta(α, β) = ∫_{(0,1)} betaPDF · G`, for every `G` -/
lemma lintegral_betaMeasure (α β : ℝ) (G : ℝ → ℝ≥0∞) :
    ∫⁻ η, G η ∂betaMeasure α β = ∫⁻ η in Ioo (0 : ℝ) 1, betaPDF α β η * G η :=
  lintegral_withDensity_ofReal (measurable_betaPDFReal α β) (fun _ h => if_neg h) G

/-- `∫ f d Gamma(s, r) = ∫_{(0,∞)} gammaPDF · f`, for every `f` -/
lemma lintegral_gammaMeasure (s r : ℝ) (f : ℝ → ℝ≥0∞) :
    ∫⁻ x, f x ∂gammaMeasure s r = ∫⁻ x in Ioi (0 : ℝ), gammaPDF s r x * f x :=
  (lintegral_withDensity_ofReal (measurable_gammaPDFReal s r) (fun _ h => if_neg h) f).trans
    (setLIntegral_congr Ioi_ae_eq_Ici).symm

/-- the Beta density integrates to 1 over the open unit interval -/
lemma lintegral_betaPDFReal_Ioo {α β : ℝ} (hα : 0 < α) (hβ : 0 < β) :
    ∫⁻ η in Ioo (0 : ℝ) 1, ENNReal.ofReal (betaPDFReal α β η) = 1 := by
  have := isProbabilityMeasureBeta hα hβ
  have h := lintegral_betaMeasure α β fun _ => 1
  simp only [lintegral_one, measure_univ, mul_one] at h
  exact h.symm

lemma integral_betaPDFReal_Ioo {α β : ℝ} (hα : 0 < α) (hβ : 0 < β) :
    ∫ η in Ioo (0 : ℝ) 1, betaPDFReal α β η = 1 := by
  rw [integral_eq_lintegral_of_nonneg_ae
    (ae_restrict_of_forall_mem measurableSet_Ioo fun η hη => (betaPDFReal_pos hη.1 hη.2 hα hβ).le)
    (measurable_betaPDFReal α β).aestronglyMeasurable, lintegral_betaPDFReal_Ioo hα hβ,
    ENNReal.toReal_one]

lemma joint_eta_integral {P α n : ℝ} (hα : 0 < α) (hn : 0 < n) :
    ∫ η in Ioo (0 : ℝ) 1, P * η ^ α * (1 - η) ^ (n - 1) = P * beta (α + 1) n := by
  rw [setIntegral_congr_fun measurableSet_Ioo fun η hη => joint_eta hα hn hη.1 hη.2,
    integral_const_mul, integral_betaPDFReal_Ioo (by linarith) hn, mul_one]

lemma gammaMixture_univ {w s₁ s₂ r : ℝ} (hw0 : 0 ≤ w) (hw1 : w ≤ 1) (hs₁ : 0 < s₁)
    (hs₂ : 0 < s₂) (hr : 0 < r) :
    (ENNReal.ofReal w • gammaMeasure s₁ r + ENNReal.ofReal (1 - w) • gammaMeasure s₂ r) univ
      = 1 := by
  have := isProbabilityMeasure_gammaMeasure hs₁ hr
  have := isProbabilityMeasure_gammaMeasure hs₂ hr
  rw [Measure.add_apply, Measure.smul_apply, Measure.smul_apply, measure_univ, measure_univ,
    smul_eq_mul, smul_eq_mul, mul_one, mul_one, ← ENNReal.ofReal_add hw0 (sub_nonneg.mpr hw1),
    add_sub_cancel, ENNReal.ofReal_one]

/-- integration against the two-component Gamma mixture measure -/
lemma lintegral_gammaMixture {w s₁ s₂ r : ℝ} (hw0 : 0 ≤ w) (hw1 : w ≤ 1) (hs₁ : 0 < s₁)
    (hs₂ : 0 < s₂) (hr : 0 < r) (f : ℝ → ℝ≥0∞) (hf : Measurable f) :
    ∫⁻ x, f x ∂(ENNReal.ofReal w • gammaMeasure s₁ r + ENNReal.ofReal (1 - w) • gammaMeasure s₂ r)
      = ∫⁻ x in Ioi (0 : ℝ),
          ENNReal.ofReal (w * gammaPDFReal s₁ r x + (1 - w) * gammaPDFReal s₂ r x) * f x := by
  have hw' : 0 ≤ 1 - w := sub_nonneg.mpr hw1
  have hm : Measurable fun a => gammaPDF s₁ r a * f a :=
    (measurable_gammaPDFReal s₁ r).ennreal_ofReal.mul hf
  rw [lintegral_add_measure, lintegral_smul_measure, lintegral_smul_measure,
    lintegral_gammaMeasure, lintegral_gammaMeasure, smul_eq_mul, smul_eq_mul,
    ← lintegral_const_mul' _ _ ENNReal.ofReal_ne_top,
    ← lintegral_const_mul' _ _ ENNReal.ofReal_ne_top,
    ← lintegral_add_left (hm.const_mul _)]
  refine lintegral_congr fun x => ?_
  rw [ENNReal.ofReal_add (mul_nonneg hw0 (gammaPDFReal_nonneg hs₁ hr x))
    (mul_nonneg hw' (gammaPDFReal_nonneg hs₂ hr x)), ENNReal.ofReal_mul hw0,
    ENNReal.ofReal_mul hw', gammaPDF, gammaPDF, add_mul, mul_assoc, mul_assoc]

lemma lintegral_mixR_Ioi {a b k n η : ℝ} (hs : 0 < a + k - 1) (hr : 0 < b - log η)
    (hn : 0 < n) : ∫⁻ x in Ioi (0 : ℝ), ENNReal.ofReal (mixR a b k n η x) = 1 := by
  obtain ⟨hw0, hw1⟩ := wR_mem hs hr hn
  have hs1 := hs.trans (sub_one_lt _)
  have h := lintegral_gammaMixture hw0 hw1 hs1 hs hr (fun _ => 1) measurable_const
  simp only [lintegral_one, mul_one] at h
  exact h.symm.trans (gammaMixture_univ hw0 hw1 hs1 hs hr)

/-- the hypothesis of `GibbsTwoStage.lintegral_of_factor`, for the section at `x > 0` -/
lemma eta_section (a b k : ℝ) {n x : ℝ} (hx : 0 < x) (hn : 0 < n) :
    ∫⁻ η in Ioo (0 : ℝ) 1, betaPDF (x + 1) n η = 1 ∧
    ∀ η ∈ Ioo (0 : ℝ) 1, ENNReal.ofReal (jointR a b k n x η)
      = ENNReal.ofReal (Gamma n * (gammaPDFReal a b x * (x ^ k * Gamma x / Gamma (x + n))))
        * betaPDF (x + 1) n η := by
  have hx1 : 0 < x + 1 := by linarith
  refine ⟨lintegral_betaPDFReal_Ioo hx1 hn, fun η hη => ?_⟩
  rw [jointR, joint_eta hx hn hη.1 hη.2, eta_const hx hn,
    ENNReal.ofReal_mul' (betaPDFReal_pos hη.1 hη.2 hx1 hn).le]
  rfl

lemma alpha_section {a b k n η : ℝ} (ha : 0 < a) (hb : 0 < b) (hk : 1 ≤ k) (hn : 0 < n)
    (h0 : 0 < η) (h1 : η < 1) :
    ∫⁻ x in Ioi (0 : ℝ), ENNReal.ofReal (mixR a b k n η x) = 1 ∧
    ∀ x ∈ Ioi (0 : ℝ), ENNReal.ofReal (jointR a b k n x η)
      = ENNReal.ofReal (b ^ a / Gamma a * (1 - η) ^ (n - 1) / mixConst (a + k - 1) (b - log η) n)
        * ENNReal.ofReal (mixR a b k n η x) :=
  have hs := shape_pos ha hk
  have hr := rate_pos hb h0 h1.le
  ⟨lintegral_mixR_Ioi hs hr hn, fun x hx => by
    rw [joint_alpha ha hb hk hn h0 h1 hx, ENNReal.ofReal_mul' (mixR_nonneg hs hr hn x)]⟩

/-- for `n ≥ 1` the joint is at most `prior(x) x^(k-1) (x+n)`, a constant multiple of the mixture
density at `η = 1` -/
lemma lintegral_jointR_lt_top {a b k n : ℝ} (ha : 0 < a) (hb : 0 < b) (hk : 1 ≤ k) (hn : 1 ≤ n) :
    ∫⁻ x in Ioi (0 : ℝ), ∫⁻ η in Ioo (0 : ℝ) 1, ENNReal.ofReal (jointR a b k n x η) < ⊤ := by
  have hn0 : 0 < n := one_pos.trans_le hn
  have hs := shape_pos ha hk
  have hr := rate_pos hb one_pos le_rfl
  have hle : ∀ x ∈ Ioi (0 : ℝ), ∫⁻ η in Ioo (0 : ℝ) 1, ENNReal.ofReal (jointR a b k n x η)
      ≤ ENNReal.ofReal (b ^ a / Gamma a / mixConst (a + k - 1) (b - log 1) n)
        * ENNReal.ofReal (mixR a b k n 1 x) := fun x hx => by
    have h := prior_mul_eta hs hr hn0 one_pos hx
    rw [one_rpow, mul_one] at h
    rw [← ENNReal.ofReal_mul' (mixR_nonneg hs hr hn0 x), ← h]
    refine (setLIntegral_mono' measurableSet_Ioo fun η hη =>
      ENNReal.ofReal_le_ofReal (jointR_le ha hb hn hx hη.1 hη.2)).trans_eq ?_
    rw [setLIntegral_const, Real.volume_Ioo, sub_zero, ENNReal.ofReal_one, mul_one]
  refine (setLIntegral_mono' measurableSet_Ioi hle).trans_lt ?_
  rw [lintegral_const_mul' _ _ ENNReal.ofReal_ne_top,
    lintegral_mixR_Ioi hs hr hn0, mul_one]
  exact ENNReal.ofReal_lt_top

end PhyModel.ConcDensity
