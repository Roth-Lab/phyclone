import PhyModel.Proofs.MovesEqv
/-! The clone list `nodesOf` of a well-formed forest: every data point sits in exactly one clone,
so keys in the same clone select the same clone, and lists indexed by the head keys of the clones
are duplicate-free. -/
namespace PhyModel
open Orders Moves

namespace Canon

/-! ### clones of a forest -/

theorem mem_nodesOf_cons {d : List Nat} {k s : DF} {nd : List Nat × DF} :
    nd ∈ nodesOf (.cons d k s) ↔ nd = (d, k) ∨ nd ∈ nodesOf k ∨ nd ∈ nodesOf s := by
  simp only [nodesOf, List.mem_cons, List.mem_append]

theorem nodesOf_kids_sub {d : List Nat} {k s : DF} {nd : List Nat × DF} (h : nd ∈ nodesOf k) :
    nd ∈ nodesOf (.cons d k s) := mem_nodesOf_cons.mpr (Or.inr (Or.inl h))

theorem nodesOf_sibs_sub {d : List Nat} {k s : DF} {nd : List Nat × DF} (h : nd ∈ nodesOf s) :
    nd ∈ nodesOf (.cons d k s) := mem_nodesOf_cons.mpr (Or.inr (Or.inr h))

theorem exists_mem_nodesOf_cons {d : List Nat} {k s : DF} {p : List Nat × DF → Prop} :
    (∃ nd ∈ nodesOf (.cons d k s), p nd) ↔
      p (d, k) ∨ (∃ nd ∈ nodesOf k, p nd) ∨ ∃ nd ∈ nodesOf s, p nd := by
  simp only [nodesOf, List.exists_mem_cons_iff, List.mem_append, or_and_right, exists_or]

theorem length_nodesOf (f : DF) : (nodesOf f).length = f.nodes := by
  induction f with
  | nil => rfl
  | cons d k s ihk ihs =>
    simp only [nodesOf, Forest.nodes, List.length_cons, List.length_append, ihk, ihs]
    rw [Nat.add_comm 1, Nat.add_right_comm]

/-- the data of a forest is the data of its clones -/
theorem all_perm_nodes (f : DF) : f.all.Perm ((nodesOf f).flatMap (·.1)) := by
  induction f with
  | nil => exact List.Perm.refl _
  | cons d k s ihk ihs =>
    simp only [Forest.all, nodesOf, List.flatMap_cons, List.flatMap_append]
    refine (List.Perm.append_right _ List.perm_append_comm).trans ?_
    rw [List.append_assoc]
    exact (List.Perm.refl d).append (ihk.append ihs)

theorem mem_all_iff {f : DF} {a : Nat} : a ∈ f.all ↔ ∃ nd ∈ nodesOf f, a ∈ nd.1 := by
  rw [(all_perm_nodes f).mem_iff, List.mem_flatMap]

theorem node_ne {f : DF} (h : NE f) : ∀ nd ∈ nodesOf f, nd.1 ≠ [] := by
  induction f with
  | nil => exact fun _ hnd => absurd hnd List.not_mem_nil
  | cons d k s ihk ihs =>
    intro nd hnd
    rcases mem_nodesOf_cons.mp hnd with rfl | hk | hs
    · exact h.1
    · exact ihk h.2.1 nd hk
    · exact ihs h.2.2 nd hs

theorem nodes_nodup_pairwise {f : DF} (hn : f.all.Nodup) :
    (∀ nd ∈ nodesOf f, nd.1.Nodup) ∧ (nodesOf f).Pairwise (fun a b => List.Disjoint a.1 b.1) :=
  List.nodup_flatMap.mp ((all_perm_nodes f).nodup_iff.mp hn)

theorem nodes_pairwise {f : DF} (w : WF f) :
    (nodesOf f).Pairwise (fun a b => List.Disjoint a.1 b.1) := (nodes_nodup_pairwise w.nodup).2

/-- a data point sits in exactly one clone -/
theorem node_unique {f : DF} (w : WF f) {nd₁ nd₂ : List Nat × DF} (h₁ : nd₁ ∈ nodesOf f)
    (h₂ : nd₂ ∈ nodesOf f) {a : Nat} (a₁ : a ∈ nd₁.1) (a₂ : a ∈ nd₂.1) : nd₁ = nd₂ := by
  by_contra hne
  have hsymm : Std.Symm (fun a b : List Nat × DF => List.Disjoint a.1 b.1) :=
    ⟨fun _ _ h => h.symm⟩
  exact (nodes_pairwise w).forall h₁ h₂ hne a₁ a₂

theorem nodesOf_nodup {f : DF} (w : WF f) : (nodesOf f).Nodup := by
  have hne := node_ne w.ne
  refine (nodes_pairwise w).imp_of_mem ?_
  intro a b ha _ hd e
  subst e
  obtain ⟨x, hx⟩ := List.exists_mem_of_ne_nil _ (hne a ha)
  exact hd hx hx

theorem headD_mem {l : List Nat} (h : l ≠ []) : l.headD 0 ∈ l := by
  cases l with
  | nil => exact absurd rfl h
  | cons a l => simp

/-- two keys in the same clone select the same clone everywhere -/
theorem same_node_iff {f : DF} (w : WF f) {nd₀ : List Nat × DF} (h₀ : nd₀ ∈ nodesOf f) {a b : Nat}
    (ha : a ∈ nd₀.1) (hb : b ∈ nd₀.1) : ∀ nd ∈ nodesOf f, a ∈ nd.1 ↔ b ∈ nd.1 := by
  intro nd hnd
  constructor
  · intro h; rw [node_unique w hnd h₀ h ha]; exact hb
  · intro h; rw [node_unique w hnd h₀ h hb]; exact ha

theorem key_iff_cons {d : List Nat} {k s : DF} {a b : Nat}
    (h : ∀ nd ∈ nodesOf (.cons d k s), a ∈ nd.1 ↔ b ∈ nd.1) :
    d.contains a = d.contains b ∧ (∀ nd ∈ nodesOf k, a ∈ nd.1 ↔ b ∈ nd.1) ∧
      ∀ nd ∈ nodesOf s, a ∈ nd.1 ↔ b ∈ nd.1 := by
  refine ⟨?_, fun nd hnd => h nd (nodesOf_kids_sub hnd), fun nd hnd => h nd (nodesOf_sibs_sub hnd)⟩
  simp only [List.contains_eq_mem, h (d, k) (mem_nodesOf_cons.mpr (Or.inl rfl))]

theorem addDpAt_congr_key {f : DF} {a b : Nat} (i : Nat) (h : ∀ nd ∈ nodesOf f, a ∈ nd.1 ↔ b ∈ nd.1) :
    addDpAt a i f = addDpAt b i f := by
  induction f with
  | nil => rfl
  | cons d k s ihk ihs =>
    obtain ⟨hd, hk, hs⟩ := key_iff_cons h
    simp only [addDpAt, hd, ihk hk, ihs hs]

theorem attachUnder_congr_key {f : DF} {a b : Nat} (sd : List Nat) (sk : DF)
    (h : ∀ nd ∈ nodesOf f, a ∈ nd.1 ↔ b ∈ nd.1) :
    attachUnder a sd sk f = attachUnder b sd sk f := by
  induction f with
  | nil => rfl
  | cons d k s ihk ihs =>
    obtain ⟨hd, hk, hs⟩ := key_iff_cons h
    simp only [attachUnder, hd, ihk hk, ihs hs]

/-! ### "in the same clone" -/

/-- some clone holds both `a` and `b` -/
def together (a b : Nat) : DF → Bool
  | .nil => false
  | .cons d k s => (d.contains a && d.contains b) || together a b k || together a b s

theorem together_eqv (a b : Nat) {f g : DF} (h : Eqv f g) : together a b f = together a b g := by
  induction h with
  | nil => rfl
  | cons hd _ _ ihk ihs => simp only [together, hd.contains_eq, ihk, ihs]
  | swap d₁ k₁ d₂ k₂ s => exact Bool.or_left_comm _ _ _
  | trans _ _ ih₁ ih₂ => exact ih₁.trans ih₂

theorem together_iff {a b : Nat} {f : DF} :
    together a b f = true ↔ ∃ nd ∈ nodesOf f, a ∈ nd.1 ∧ b ∈ nd.1 := by
  induction f with
  | nil => exact ⟨fun h => Bool.noConfusion h, fun ⟨_, h, _⟩ => nomatch h⟩
  | cons d k s ihk ihs =>
    rw [exists_mem_nodesOf_cons, ← ihk, ← ihs]
    simp only [together, Bool.or_eq_true, Bool.and_eq_true, List.contains_iff_mem, or_assoc]

/-! ### lists indexed by the head keys of the clones -/

theorem mem_map_headD {β : Type} {f : DF} (w : WF f) (F : Nat → β)
    (hF : ∀ nd ∈ nodesOf f, ∀ a ∈ nd.1, ∀ b ∈ nd.1, F a = F b) {t : β} :
    t ∈ (nodesOf f).map (fun nd => F (nd.1.headD 0)) ↔ ∃ a ∈ f.all, t = F a := by
  rw [List.mem_map]
  constructor
  · rintro ⟨nd, hnd, rfl⟩
    exact ⟨_, mem_all_iff.mpr ⟨nd, hnd, headD_mem (node_ne w.ne nd hnd)⟩, rfl⟩
  · rintro ⟨a, ha, rfl⟩
    obtain ⟨nd, hnd, hand⟩ := mem_all_iff.mp ha
    exact ⟨nd, hnd, hF nd hnd _ (headD_mem (node_ne w.ne nd hnd)) a hand⟩

/-- The trees `F a`, for `a` the head keys of the clones, are pairwise different as soon as some
test `D` that is invariant under equivalence reads off from `F a` which points share a clone with
`a`. -/
theorem nodup_map_headD {f : DF} (w : WF f) (F : Nat → DF) (out : List Nat) (D : Nat → DF → Bool)
    (hD : ∀ b {g g' : DF}, Eqv g g' → D b g = D b g') (hF : ∀ a ∈ f.all, WF (F a))
    (hDF : ∀ a ∈ f.all, ∀ b ∈ f.all, D b (F a) = together a b f) :
    ((nodesOf f).map fun nd => T.mk' (F (nd.1.headD 0)) out).Nodup := by
  refine List.Nodup.map_on ?_ (nodesOf_nodup w)
  intro nd₁ h₁ nd₂ h₂ e
  have k₁ := headD_mem (node_ne w.ne nd₁ h₁)
  have k₂ := headD_mem (node_ne w.ne nd₂ h₂)
  have m₁ := mem_all_iff.mpr ⟨nd₁, h₁, k₁⟩
  have ht := hD (nd₁.1.headD 0) ((canon_eq_iff (hF _ m₁)).mp (congrArg T.f e))
  rw [hDF _ m₁ _ m₁, hDF _ (mem_all_iff.mpr ⟨nd₂, h₂, k₂⟩) _ m₁,
    together_iff.mpr ⟨nd₁, h₁, k₁, k₁⟩] at ht
  obtain ⟨nd, hnd, a₂, a₁⟩ := together_iff.mp ht.symm
  exact (node_unique w hnd h₁ a₁ k₁).symm.trans (node_unique w hnd h₂ a₂ k₂)

end Canon
end PhyModel
