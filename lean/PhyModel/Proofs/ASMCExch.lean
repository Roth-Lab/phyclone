import PhyModel.Proofs.ASMCLaw
/-! # Abstract conditional SMC: exchangeability.

`PhiM` is `M` reweighted by total weight over weight of slot 0 (the size-biased measure): this undoes
the special role of slot 0.  One step of its recursion is symmetric in the slots (`PhiM_succ`), so
`PhiM` is exchangeable at every level (`PhiM_exch`). -/

namespace ASMC

variable {X : Type} [Fintype X] [DecidableEq X] {m : ℕ}
variable {sp : Spec (m := m) X} {u : ℚ}

variable (sp) (u) in
/-- size-biased measure: M reweighted by (total weight / weight of slot 0) -/
def PhiM (t : ℕ) (f : Sys X m → ℚ) : ℚ := M sp u t (fun S => f S * (tot S / (S 0).2))

variable (sp) in
def H (t : ℕ) (f : Sys X m → ℚ) (S : Sys X m) : ℚ := propS sp t S (fun T => f T * tot T)

theorem PhiM_lin (t : ℕ) : Lin (PhiM sp u t) :=
  (M_lin t).comp fun _ => ⟨fun _ _ => add_mul _ _ _, fun _ _ => mul_assoc _ _ _⟩

theorem PhiM_congr {T : ℕ} (hv : ValidTo sp T) (hu : 0 < u) (t : ℕ) (ht : t ≤ T) {f f' : Sys X m → ℚ}
    (h : ∀ S, GoodW sp t S → f S = f' S) : PhiM sp u t f = PhiM sp u t f' := by
  unfold PhiM
  apply M_congr hv hu t ht
  intro S hS; rw [h S hS]

theorem H_perm (t : ℕ) (f : Sys X m → ℚ) (σ : Equiv.Perm (Fin (m+1))) (S : Sys X m) :
    H sp t (fun T => f (T ∘ σ)) S = H sp t f (S ∘ σ) := by
  unfold H
  rw [propS_perm]
  congr 1; funext T
  rw [tot_perm]

theorem propS_congr {T : ℕ} (hv : ValidTo sp T) (t : ℕ) (S : Sys X m) {F F' : Sys X m → ℚ}
    (h : ∀ y : Fin (m+1) → X, (∀ i, 0 < sp.q t (S i).1 (y i)) →
      F (fun i => ext sp t (S i) (y i)) = F' (fun i => ext sp t (S i) (y i))) :
    propS sp t S F = propS sp t S F' :=
  sum_prod_mul_congr (fun (y : Fin (m+1) → X) i => sp.q t (S i).1 (y i)) (fun _ _ => hv.qnn _ _ _) h

theorem propS_lin (t : ℕ) (S : Sys X m) : Lin (propS sp t S) := Lin.weighted _ _

/-- the marginal propagation of a ratio-weighted test function is the symmetric propagation -/
theorem margP_ratio {T : ℕ} (hv : ValidTo sp T) {t : ℕ} (ht : t < T) {S : Sys X m} (hS : GoodW sp t S) (f : Sys X m → ℚ) :
    margP sp t S (fun T => f T * (tot T / (T 0).2)) = H sp t f S / (S 0).2 := by
  unfold margP coef
  rw [propC_sum]
  unfold H
  rw [div_eq_mul_inv, ← (propS_lin t S).smul_right]
  apply propS_congr hv
  intro y hy
  simp only [ext]
  -- the incremental weight of slot 0 cancels
  rw [← div_div, mul_left_comm, mul_div_cancel₀ _ (ne_of_gt (incr_pos hv ht (hS 0).2 (hy 0))),
    ← mul_div_assoc, div_eq_mul_inv]

variable (sp) in
def c1 (t : ℕ) (S : Sys X m) : ℚ := if sp.rs t (wts S) then 1 else 0

theorem c1_perm {T : ℕ} (hv : ValidTo sp T) (t : ℕ) (σ : Equiv.Perm (Fin (m+1))) (S : Sys X m) :
    c1 sp t (S ∘ σ) = c1 sp t S := by
  unfold c1
  have : wts (S ∘ σ) = wts S ∘ σ := rfl
  rw [this, hv.rssymm]

theorem ite_rs (t : ℕ) (S : Sys X m) (a b : ℚ) :
    (if sp.rs t (wts S) then a else b) = c1 sp t S * a + (1 - c1 sp t S) * b := by
  unfold c1
  split <;> ring

/-- one step of the recursion for the size-biased measure, in symmetric form -/
theorem PhiM_succ {T : ℕ} (hv : ValidTo sp T) (hu : 0 < u) (t : ℕ) (ht : t < T) (hex : Exch (PhiM sp u t)) (f : Sys X m → ℚ) :
    PhiM sp u (t+1) f
      = (u * ((m : ℚ) + 1))⁻¹ *
          PhiM sp u t (fun S => c1 sp t S * ∑ b : Fin (m+1) → Fin (m+1), Fterm u (H sp t f) S b)
        + PhiM sp u t (fun S => (1 - c1 sp t S) * (H sp t f S / tot S)) := by
  have hlin := PhiM_lin (sp := sp) (u := u) t
  have hm : ((m : ℚ) + 1) ≠ 0 := Nat.cast_add_one_ne_zero m
  have e1 : PhiM sp u (t+1) f
      = PhiM sp u t (fun S => u⁻¹ * (c1 sp t S * Gsum u (H sp t f) S 0)
          + (1 - c1 sp t S) * (H sp t f S / tot S)) := by
    unfold PhiM
    rw [M_succ hv hu t ht]
    refine M_congr hv hu t (Nat.le_of_lt ht) fun S hS => ?_
    have hw : (S 0).2 ≠ 0 := ne_of_gt (hS 0).1
    have htot : tot S ≠ 0 := ne_of_gt (tot_pos hS)
    -- after resampling the weight of slot 0 is `u`
    have hres : resC u S (fun S1 => margP sp t S1 (fun T => f T * (tot T / (T 0).2)))
        = resC u S (H sp t f) * u⁻¹ := by
      rw [← (resC_lin S).smul_right]
      exact resC_congr fun b _ => (margP_ratio hv ht (reset_good hu hS b) f).trans (div_eq_mul_inv _ _)
    -- the size-biasing factor is the inverse of the normalised weight of slot 0
    have hG : Gsum u (H sp t f) S 0 * (tot S / (S 0).2) = resC u S (H sp t f) := by
      rw [← resC_eq_Gsum, wbar, mul_right_comm, div_mul_div_cancel₀ htot, div_self hw, one_mul]
    beta_reduce
    unfold stepM
    rw [ite_rs, hres, margP_ratio hv ht hS, ← hG,
      ← div_mul_div_cancel₀ (a := H sp t f S) (c := (S 0).2) htot]
    ring
  rw [e1, hlin.add, hlin.smul, ← resample_symm (PhiM sp u t) hlin hex (c1 sp t) (c1_perm hv t) u (H sp t f),
    mul_inv, mul_assoc, inv_mul_cancel_left₀ hm]

theorem PhiM_exch {T : ℕ} (hv : ValidTo sp T) (hu : 0 < u) : ∀ t : ℕ, t ≤ T → Exch (PhiM sp u t) := by
  intro t
  induction t with
  | zero =>
    intro _ σ h
    unfold PhiM M
    apply Finset.sum_congr rfl
    intro x _
    simp only [C]
    have : (S0 sp : Sys X m) ∘ σ = S0 sp := by funext i; rfl
    rw [this]
  | succ t ih' =>
    intro ht σ h
    have ih := ih' (Nat.le_of_succ_le ht)
    -- every function is written out: left to `congr`, the unifier compares the two sides of `PhiM_succ` by unfolding them
    have hH : H sp t (fun T => h (T ∘ σ)) = fun S => H sp t h (S ∘ σ) := funext (H_perm t h σ)
    have e1 : (fun S => c1 sp t S * ∑ b : Fin (m+1) → Fin (m+1), Fterm u (fun S => H sp t h (S ∘ σ)) S b)
        = fun S => c1 sp t S * ∑ b, Fterm u (H sp t h) S b :=
      funext fun S => by rw [full_sum_perm u (H sp t h) σ S]
    have e2 : (fun S => (1 - c1 sp t S) * (H sp t h (S ∘ σ) / tot S))
        = fun S => (fun S => (1 - c1 sp t S) * (H sp t h S / tot S)) (S ∘ σ) :=
      funext fun S => by simp only [c1_perm hv, tot_perm]
    rw [PhiM_succ hv hu t ht ih, PhiM_succ hv hu t ht ih, hH, e1, e2,
      ih σ fun S => (1 - c1 sp t S) * (H sp t h S / tot S)]

variable (sp) (u) in
/-- final selection: pick slot k with probability proportional to its weight, report its state -/
def sel (S : Sys X m) (y : X) : ℚ := ∑ k, wbar S k * (if (S k).1 = y then 1 else 0)

variable (sp) (u) in
/-- the conditional-SMC Markov kernel on level-T states -/
def kernel (T : ℕ) (x y : X) : ℚ := C sp u T x (fun S => sel S y)

theorem PhiM_wbar0 {T : ℕ} (hv : ValidTo sp T) (hu : 0 < u) (f : Sys X m → ℚ) :
    PhiM sp u T (fun S => f S * wbar S 0) = M sp u T f := by
  unfold PhiM
  apply M_congr hv hu T (le_refl T)
  intro S hS
  beta_reduce
  rw [wbar, mul_assoc, div_mul_div_cancel₀ (ne_of_gt (tot_pos hS)), div_self (ne_of_gt (hS 0).1), mul_one]

end ASMC
