import PhyModel.Proofs.StoreWF_Facts
/-! C07, `Tree.remove_subtree`: the bookkeeping loop deletes exactly the `_data` / `_node_indices` /
`_node_indices_rev` entries of the subtree's names (`rmFold_spec`), the graph loses the subtree
(`removeSub`), and the result satisfies the invariant again (`removeSubtree_inv`); what happens to the
data (`removeSubtree_data`), the clone names (`removeSubtree_names`) and the outliers
(`removeSubtree_outliers`).  `Dense` is not preserved. -/
namespace PhyModel.Store
open Store.Store SF AL

theorem WFG.sublist {rs rs' : List NodeRec} (hsl : rs'.Sublist rs) (h : WFG rs) : WFG rs' :=
  ⟨h.names_nodup.sublist (hsl.map _), h.idxs_nodup.sublist (hsl.map _),
    fun n hn => h.idx_pos n (hsl.subset hn), fun n hn => h.name_nonneg n (hsl.subset hn)⟩

/-- list level: the payloads `rs` split into the removed ones `sb` (whose names are `nms`) and the
remaining ones `rs'`; filtering the three maps by "name not in `nms`" re-establishes the three parts -/
theorem rm_lists {rs sb rs' : List NodeRec} {nms : List Int} {ni : List (Int × Nat)} {nir : List (Nat × Int)}
    {data : List (Int × List Nat)} (hp : rs.Perm (sb ++ rs')) (hn : nms.Perm (sb.map (·.name)))
    (hg : WFG rs) (hm : WFM rs ni nir) (hd : WFD rs data) :
    WFG rs' ∧ WFM rs' (ni.filter fun e => !nms.contains e.1) (nir.filter fun e => !nms.contains e.2) ∧
      WFD rs' (data.filter fun e => !nms.contains e.1) ∧
      (∀ n ∈ rs', n.name ∉ nms) ∧ (∀ n ∈ rs, n.name ∉ nms → n ∈ rs') := by
  have hg2 : WFG (sb ++ rs') := hg.perm hp.symm
  have hg' : WFG rs' := hg2.sublist (List.sublist_append_right _ _)
  have hin : ∀ n ∈ sb, n.name ∈ nms := fun n h => hn.symm.subset (List.mem_map_of_mem h)
  have hout : ∀ n ∈ rs', n.name ∉ nms := by
    intro n h hc
    have hnd := hg2.names_nodup
    rw [List.map_append, List.nodup_append] at hnd
    exact hnd.2.2 _ (hn.subset hc) _ (List.mem_map_of_mem h) rfl
  have hback : ∀ n ∈ rs, n.name ∉ nms → n ∈ rs' := by
    intro n h hc
    rcases List.mem_append.1 (hp.subset h) with h1 | h1
    · exact absurd (hin n h1) hc
    · exact h1
  have hfilt : (rs.filter fun n => !nms.contains n.name).Perm rs' := by
    refine (hp.filter _).trans ?_
    rw [List.filter_append]
    have h1 : sb.filter (fun n => !nms.contains n.name) = [] := by
      rw [List.filter_eq_nil_iff]; intro n h; simp [hin n h]
    have h2 : rs'.filter (fun n => !nms.contains n.name) = rs' := by
      rw [List.filter_eq_self]; intro n h; simp [hout n h]
    rw [h1, h2]; exact List.Perm.refl _
  refine ⟨hg', ⟨?_, ?_⟩, ⟨?_, ?_, ?_, ?_⟩, hout, hback⟩
  · refine (hm.1.filter _).trans ?_
    rw [List.filter_map]
    exact hfilt.map _
  · refine (hm.2.filter _).trans ?_
    rw [List.filter_map]
    exact hfilt.map _
  · rw [keys_filter data (fun k => !nms.contains k)]; exact hd.data_keys.filter _
  · intro k hk
    rw [keys_filter data (fun k => !nms.contains k), List.mem_filter] at hk
    rcases hd.data_sub k hk.1 with h | h
    · exact Or.inl h
    · right
      obtain ⟨n, hn', rfl⟩ := List.mem_map.1 h
      exact List.mem_map.2 ⟨n, hback n hn' (by simpa using hk.2), rfl⟩
  · intro n hn'
    rw [dOf_filter data (fun k => !nms.contains k) (by simpa using hout n hn')]
    exact hd.payload_data n (hp.symm.subset (List.mem_append_right _ hn'))
  · have hv := List.nodup_flatMap.1 hd.data_nodup
    exact List.nodup_flatMap.2 ⟨fun e he => hv.1 e (List.mem_filter.1 he).1, hv.2.sublist List.filter_sublist⟩

/-! ### the bookkeeping loop -/

/-- one iteration of the bookkeeping loop of `removeSubtree` -/
def rmStep (st : Store) (nm : Int) : Option Store := do
  if !alHas st.data nm then none
  let ci ← st.nodeIdx.lookup nm
  if !alHas st.nodeIdxRev ci then none
  pure { st with data := alDel st.data nm, nodeIdx := alDel st.nodeIdx nm,
                 nodeIdxRev := alDel st.nodeIdxRev ci }

theorem rmStep_spec {st st' : Store} {nm : Int} (h : rmStep st nm = some st') :
    ∃ ci, st.nodeIdx.lookup nm = some ci ∧
      st' = { st with data := alDel st.data nm, nodeIdx := alDel st.nodeIdx nm,
                      nodeIdxRev := alDel st.nodeIdxRev ci } := by
  unfold rmStep at h
  by_cases hc : (!alHas st.data nm) = true
  · rw [if_pos hc] at h; cases h
  · rw [if_neg hc] at h
    obtain ⟨ci, hci, h⟩ := Option.bind_eq_some_iff.1 h
    by_cases hc' : (!alHas st.nodeIdxRev ci) = true
    · rw [if_pos hc'] at h; cases h
    · rw [if_neg hc'] at h; exact ⟨ci, hci, (Option.some.inj h).symm⟩

/-- the two index maps are inverse relations with unique keys -/
structure MapsOK (ni : List (Int × Nat)) (nir : List (Nat × Int)) : Prop where
  k1 : (keys ni).Nodup
  k2 : (keys nir).Nodup
  bij : ∀ nm i, (nm, i) ∈ ni ↔ (i, nm) ∈ nir

theorem WF.mapsOK {s : Store} (h : WF s) : MapsOK s.nodeIdx s.nodeIdxRev :=
  ⟨h.nodeIdx_keys, h.nodeIdxRev_keys, fun nm i => by rw [h.nodeIdx_iff, h.nodeIdxRev_iff]⟩

theorem MapsOK.alDel_rev {ni nir} (h : MapsOK ni nir) {nm : Int} {ci : Nat} (hl : ni.lookup nm = some ci) :
    alDel nir ci = nir.filter (fun e => !(e.2 == nm)) := by
  unfold alDel
  apply List.filter_congr
  rintro ⟨i, nm'⟩ he
  have hci : (ci, nm) ∈ nir := (h.bij _ _).1 (mem_of_lookup hl)
  have : i = ci ↔ nm' = nm := by
    constructor
    · rintro rfl
      have h1 := lookup_of_mem h.k2 he
      have h2 := lookup_of_mem h.k2 hci
      rw [h1] at h2; exact Option.some.inj h2
    · rintro rfl
      have h1 := lookup_of_mem h.k1 ((h.bij _ _).2 he)
      rw [h1] at hl; exact Option.some.inj hl
  by_cases hi : i = ci
  · simp [hi, this.1 hi]
  · have : nm' ≠ nm := fun hc => hi (this.2 hc)
    simp [hi, this]

theorem MapsOK.filter {ni nir} (h : MapsOK ni nir) (p : Int → Bool) :
    MapsOK (ni.filter (fun e => p e.1)) (nir.filter (fun e => p e.2)) := by
  refine ⟨h.k1.sublist (List.filter_sublist.map _), h.k2.sublist (List.filter_sublist.map _), fun nm i => ?_⟩
  simp only [List.mem_filter, h.bij]

/-- the loop leaves the graph alone and filters the three maps by "name not in `nms`" -/
theorem rmFold_spec {nms : List Int} {st s1 : Store} (hm : MapsOK st.nodeIdx st.nodeIdxRev)
    (h : nms.foldlM rmStep st = some s1) :
    s1 = { st with data := st.data.filter (fun e => !nms.contains e.1),
                   nodeIdx := st.nodeIdx.filter (fun e => !nms.contains e.1),
                   nodeIdxRev := st.nodeIdxRev.filter (fun e => !nms.contains e.2) } := by
  induction nms generalizing st with
  | nil => simp at h; subst h; simp
  | cons a l ih =>
    simp only [List.foldlM_cons, Option.bind_eq_bind, Option.bind_eq_some_iff] at h
    obtain ⟨st', h1, h2⟩ := h
    obtain ⟨ci, hci, rfl⟩ := rmStep_spec h1
    have hm' : MapsOK (alDel st.nodeIdx a) (alDel st.nodeIdxRev ci) := by
      rw [hm.alDel_rev hci]; exact hm.filter (fun k => !(k == a))
    rw [ih hm' h2, hm.alDel_rev hci]
    simp only [alDel, List.filter_filter, List.contains_cons, Bool.not_or, Bool.and_comm]

theorem removeSubtree_unf {dt : Data} {s sub s' : Store} (h : s.removeSubtree dt sub = some s')
    (hne : Store.keyEq sub s = false) :
    ∃ r par i s1, sub.roots.head? = some r ∧ s.getParent r = some par ∧ s.nodeIdx.lookup r = some i ∧
      sub.nodes.foldlM rmStep s = some s1 ∧
      updatePathToRoot dt { s1 with forest := s1.forest.removeSub i } par = some s' := by
  unfold removeSubtree at h
  rw [if_neg (hne ▸ Bool.false_ne_true)] at h
  by_cases hc : (sub.forest.rootRecs.length != 1) = true
  · rw [if_pos hc] at h; cases h
  · rw [if_neg hc] at h
    obtain ⟨r, hr, h⟩ := Option.bind_eq_some_iff.1 h
    obtain ⟨par, hpar, h⟩ := Option.bind_eq_some_iff.1 h
    obtain ⟨i, hi, h⟩ := Option.bind_eq_some_iff.1 h
    obtain ⟨s1, hs1, h⟩ := Option.bind_eq_some_iff.1 h
    exact ⟨r, par, i, s1, hr, hpar, hi, hs1, h⟩

/-! ### the theorems -/

/-- the side condition of `Legal (.rmSub ..)` for a pair of stores -/
def RmLegal (s sub : Store) : Prop :=
  Store.keyEq sub s = false →
    ∃ r i x, sub.roots = [r] ∧ s.nodeIdx.lookup r = some i ∧ s.forest.findSub i = some x ∧
      sub.nodes.Perm (SF.cons x.1 x.2 .nil).names

/-- the store `removeSubtree` builds before it refreshes the cached vectors -/
def rmResult (s : Store) (i : Nat) (nms : List Int) : Store :=
  { s with forest := s.forest.removeSub i,
           data := s.data.filter (fun e => !nms.contains e.1),
           nodeIdx := s.nodeIdx.filter (fun e => !nms.contains e.1),
           nodeIdxRev := s.nodeIdxRev.filter (fun e => !nms.contains e.2) }

/-- shape of the non-degenerate branch -/
theorem removeSubtree_shape {dt : Data} {s sub s' : Store} (h : s.removeSubtree dt sub = some s')
    (hs : Inv0 s) (hleg : RmLegal s sub) (hne : Store.keyEq sub s = false) :
    ∃ i x par, s.forest.findSub i = some x ∧ sub.nodes.Perm ((x.1 :: x.2.recs).map (·.name)) ∧
      updatePathToRoot dt (rmResult s i sub.nodes) par = some s' := by
  obtain ⟨r, i, x, hr, hi, hx, hp⟩ := hleg hne
  obtain ⟨r', par, i', s1, hr', _, hi', hs1, h⟩ := removeSubtree_unf h hne
  rw [hr] at hr'; simp only [List.head?_cons, Option.some.injEq] at hr'; subst hr'
  rw [hi] at hi'; simp only [Option.some.injEq] at hi'; subst hi'
  have := rmFold_spec hs.1.mapsOK hs1
  subst this
  refine ⟨i, x, par, hx, ?_, h⟩
  simpa [SF.names] using hp

theorem removeSubtree_eq_init {dt : Data} {s sub s' : Store} (h : s.removeSubtree dt sub = some s')
    (he : Store.keyEq sub s = true) : s' = Store.init dt := by
  unfold removeSubtree at h
  rw [if_pos he] at h
  exact (Option.some.inj h).symm

theorem rmResult_inv {s : Store} {i : Nat} {x : NodeRec × SF} {nms : List Int} (hs : Inv0 s)
    (hx : s.forest.findSub i = some x) (hp : nms.Perm ((x.1 :: x.2.recs).map (·.name))) :
    Inv0 (rmResult s i nms) := by
  obtain ⟨hg, hm, hd, hout, hback⟩ :=
    rm_lists (removeSub_perm hs.1.idxs_nodup hx) hp hs.1.g hs.1.m hs.1.d
  refine ⟨(wf_iff _).2 ⟨hg, hm, hd⟩, fun n hn => ?_⟩
  show n.name ∈ keys ((s.data.filter (fun e => !nms.contains e.1)))
  rw [keys_filter s.data (fun k => !nms.contains k), List.mem_filter]
  exact ⟨hs.2 n ((removeSub_sublist i s.forest).subset hn), by simpa using hout n hn⟩

theorem removeSubtree_inv {dt : Data} {s sub s' : Store} (h : s.removeSubtree dt sub = some s')
    (hs : Inv0 s) (hleg : RmLegal s sub) : Inv0 s' := by
  rcases Bool.eq_false_or_eq_true (Store.keyEq sub s) with he | he
  · rw [removeSubtree_eq_init h he]; exact inv_init dt
  · obtain ⟨i, x, par, hx, hp, h⟩ := removeSubtree_shape h hs hleg he
    have hi := rmResult_inv hs hx hp
    have := updatePathToRoot_inv h
    exact ⟨this.1 hi.1, this.2.1 hi.2⟩

/-- data: in the non-degenerate branch exactly the `_data` entries of the subtree's names disappear -/
theorem removeSubtree_data {dt : Data} {s sub s' : Store} (h : s.removeSubtree dt sub = some s')
    (hs : Inv0 s) (hleg : RmLegal s sub) (hne : Store.keyEq sub s = false) :
    (vals s.data).Perm (sub.nodes.flatMap s.dataOf ++ vals s'.data) := by
  obtain ⟨i, x, par, hx, hp, h⟩ := removeSubtree_shape h hs hleg hne
  have hnd : sub.nodes.Nodup :=
    hp.nodup_iff.2 (hs.1.names_nodup.sublist ((findSub_some hx).2.map _))
  rw [(updatePathToRoot_spec h).2.2.2.1]
  exact vals_perm_filter hs.1.data_keys hnd

/-- graph: the clones of the subtree disappear, the others stay -/
theorem removeSubtree_names {dt : Data} {s sub s' : Store} (h : s.removeSubtree dt sub = some s')
    (hs : Inv0 s) (hleg : RmLegal s sub) (hne : Store.keyEq sub s = false) :
    s.forest.names.Perm (sub.nodes ++ s'.forest.names) := by
  obtain ⟨i, x, par, hx, hp, h⟩ := removeSubtree_shape h hs hleg hne
  have hc := (updatePathToRoot_spec h).1
  have hn : s'.forest.names = (s.forest.removeSub i).names :=
    (sameCore_of_cores hc).map_eq (·.name) fun _ _ _ h => h
  rw [hn]
  have := (removeSub_perm hs.1.idxs_nodup hx).map (·.name)
  rw [List.map_append] at this
  exact this.trans (List.Perm.append_right _ hp.symm)

theorem removeSubtree_outliers {dt : Data} {s sub s' : Store} (h : s.removeSubtree dt sub = some s')
    (hs : Inv0 s) (hleg : RmLegal s sub) (hne : Store.keyEq sub s = false) :
    s'.outliers = s.outliers := by
  obtain ⟨i, x, par, hx, hp, h⟩ := removeSubtree_shape h hs hleg hne
  have hout : outKey ∉ sub.nodes := by
    intro hc
    obtain ⟨n, hn, hnm⟩ := List.mem_map.1 (hp.subset hc)
    exact hs.1.name_ne_outKey ((findSub_some hx).2.subset hn) hnm
  simp only [Store.outliers, Store.dataOf, (updatePathToRoot_spec h).2.2.2.1, rmResult]
  rw [lookup_filter_key (fun k => !sub.nodes.contains k)]
  simp [hout]

/-- the surviving payloads are payloads of the old tree, and the bookkeeping loop leaves their `_data` entries alone -/
theorem removeSubtree_aligned {dt : Data} {s sub s' : Store} (h : s.removeSubtree dt sub = some s')
    (hs : Inv0 s) (hleg : RmLegal s sub) (ha : Aligned s) : Aligned s' := by
  rcases Bool.eq_false_or_eq_true (Store.keyEq sub s) with he | he
  · rw [removeSubtree_eq_init h he]; intro n hn; simp [Store.init] at hn
  · obtain ⟨i, x, par, hx, hp, h⟩ := removeSubtree_shape h hs hleg he
    obtain ⟨hc, _, _, hd, _⟩ := updatePathToRoot_spec h
    obtain ⟨_, _, _, hout, _⟩ := rm_lists (removeSub_perm hs.1.idxs_nodup hx) hp hs.1.g hs.1.m hs.1.d
    intro n hn
    have hcn : core n ∈ (rmResult s i sub.nodes).forest.cores := hc ▸ List.mem_map.2 ⟨n, hn, rfl⟩
    obtain ⟨b, hb, hbn⟩ := List.mem_map.1 hcn
    simp only [core, Prod.mk.injEq] at hbn
    have hb' : b ∈ (s.forest.removeSub i).recs := hb
    rw [← hbn.2.1, ← hbn.2.2, ha b ((removeSub_sublist i s.forest).subset hb'), dataOf_eq, dataOf_eq, hd]
    exact (dOf_filter s.data (fun k => !sub.nodes.contains k) (by simpa using hout b hb')).symm

end PhyModel.Store
