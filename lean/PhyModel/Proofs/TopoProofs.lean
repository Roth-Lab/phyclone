import PhyModel.Proofs.TraceProofs
/-! The topology dictionary of C11 (`count_topology` folded over the scan order): one step bumps the
row of a known tree in place or appends a fresh row (`countTopo_spec`), and this keeps the invariant
`Inv` — one row per tree, each row with the exact count, the maximal score and a pointer attaining it,
counts summing to the number of scanned records.  `Inv` does not depend on the order of the rows, so it
passes to the sorted table. -/
namespace PhyModel.Trace

section
variable {κ σ : Type} [LinearOrder σ]

/-- what `count_topology` does to the row of an already known tree -/
def bump (r : Rec κ σ) (w : Row κ σ) : Row κ σ :=
  if w.score < r.score then ⟨w.key, w.count + 1, r.score, r.chain, r.iter⟩
  else { w with count := w.count + 1 }

/-- the row of a tree seen for the first time -/
def fresh (r : Rec κ σ) : Row κ σ := ⟨r.key, 1, r.score, r.chain, r.iter⟩

theorem bump_key (r : Rec κ σ) (w : Row κ σ) : (bump r w).key = w.key := by
  unfold bump; split <;> rfl

theorem bump_count (r : Rec κ σ) (w : Row κ σ) : (bump r w).count = w.count + 1 := by
  unfold bump; split <;> rfl

theorem le_bump_score (r : Rec κ σ) (w : Row κ σ) :
    w.score ≤ (bump r w).score ∧ r.score ≤ (bump r w).score := by
  unfold bump
  split
  · next hlt => exact ⟨le_of_lt hlt, le_refl _⟩
  · next hlt => exact ⟨le_refl _, not_lt.mp hlt⟩

/-! ### the two orders of the table -/

theorem scoreGe_iff (a b : Row κ σ) : scoreGe a b = true ↔ b.score ≤ a.score := by
  unfold scoreGe
  rw [Bool.not_eq_true', decide_eq_false_iff_not, not_lt]

end

theorem countGe_iff {κ σ : Type} (a b : Row κ σ) : countGe a b = true ↔ b.count ≤ a.count :=
  decide_eq_true_iff

variable {κ σ : Type} [DecidableEq κ] [LinearOrder σ]

theorem countTopo_cons (r : Rec κ σ) (w : Row κ σ) (ws : List (Row κ σ)) :
    countTopo r (w :: ws) = if w.key = r.key then bump r w :: ws else w :: countTopo r ws := rfl

theorem countTopo_spec (r : Rec κ σ) (d : List (Row κ σ)) :
    (∃ d₁ w d₂, d = d₁ ++ w :: d₂ ∧ w.key = r.key ∧ countTopo r d = d₁ ++ bump r w :: d₂) ∨
      ((∀ v ∈ d, v.key ≠ r.key) ∧ countTopo r d = d ++ [fresh r]) := by
  induction d with
  | nil => exact Or.inr ⟨fun _ h => (nomatch h), rfl⟩
  | cons w ws ih =>
    rw [countTopo_cons]
    split
    · next hk => exact Or.inl ⟨[], w, ws, rfl, hk, rfl⟩
    · next hk =>
      rcases ih with ⟨d₁, v, d₂, rfl, hv, h⟩ | ⟨hno, h⟩
      · exact Or.inl ⟨w :: d₁, v, d₂, rfl, hv, congrArg (w :: ·) h⟩
      · exact Or.inr ⟨List.forall_mem_cons.mpr ⟨hk, hno⟩, congrArg (w :: ·) h⟩

/-- what a row must say about the scanned records `l` -/
structure Good (l : List (Rec κ σ)) (w : Row κ σ) : Prop where
  count_eq : w.count = l.countP (fun r => decide (r.key = w.key))
  ge : ∀ r ∈ l, r.key = w.key → r.score ≤ w.score
  att : ∃ r ∈ l, r.key = w.key ∧ r.score = w.score ∧ r.chain = w.chain ∧ r.iter = w.iter

/-- invariant of the fold -/
structure Inv (l : List (Rec κ σ)) (d : List (Row κ σ)) : Prop where
  nodup : (d.map (·.key)).Nodup
  good : ∀ w ∈ d, Good l w
  cover : ∀ r ∈ l, r.key ∈ d.map (·.key)
  sum : (d.map (·.count)).sum = l.length

variable {l : List (Rec κ σ)} {d : List (Row κ σ)} {w : Row κ σ} {r : Rec κ σ}

theorem good_other (h : Good l w) (hk : w.key ≠ r.key) : Good (l ++ [r]) w := by
  refine ⟨?_, List.forall_mem_append.mpr ⟨h.ge, List.forall_mem_singleton.mpr fun e => absurd e.symm hk⟩, ?_⟩
  · rw [h.count_eq, List.countP_append, List.countP_singleton,
      if_neg fun e => hk (of_decide_eq_true e).symm]
    rfl
  · obtain ⟨x, hx, h1⟩ := h.att
    exact ⟨x, List.mem_append_left _ hx, h1⟩

theorem good_bump (h : Good l w) (hk : w.key = r.key) : Good (l ++ [r]) (bump r w) := by
  have hbk := bump_key r w
  refine ⟨?_, List.forall_mem_append.mpr ⟨fun x hx hxk => ?_, List.forall_mem_singleton.mpr fun _ => ?_⟩, ?_⟩
  · rw [bump_count, hbk, h.count_eq, List.countP_append, List.countP_singleton,
      if_pos (decide_eq_true hk.symm)]
  · exact le_trans (h.ge x hx (hxk.trans hbk)) (le_bump_score r w).1
  · exact (le_bump_score r w).2
  · unfold bump
    split
    · exact ⟨r, List.mem_append_right _ (List.mem_singleton_self r), hk.symm, rfl, rfl, rfl⟩
    · obtain ⟨x, hx, h1⟩ := h.att
      exact ⟨x, List.mem_append_left _ hx, h1⟩

theorem good_fresh (hno : ∀ x ∈ l, x.key ≠ r.key) : Good (l ++ [r]) (fresh r) := by
  refine ⟨?_, List.forall_mem_append.mpr ⟨fun x hx hxk => absurd hxk (hno x hx),
    List.forall_mem_singleton.mpr fun _ => le_refl _⟩,
    ⟨r, List.mem_append_right _ (List.mem_singleton_self r), rfl, rfl, rfl, rfl⟩⟩
  have : l.countP (fun x => decide (x.key = r.key)) = 0 :=
    List.countP_eq_zero.mpr fun x hx e => hno x hx (of_decide_eq_true e)
  show 1 = (l ++ [r]).countP (fun x => decide (x.key = r.key))
  rw [List.countP_append, this, List.countP_singleton, if_pos (decide_eq_true rfl)]

theorem Inv.perm {d' : List (Row κ σ)} (h : Inv l d) (hp : d.Perm d') : Inv l d' where
  nodup := (hp.map _).nodup_iff.mp h.nodup
  good := fun w hw => h.good w (hp.mem_iff.mpr hw)
  cover := fun r hr => (hp.map _).mem_iff.mp (h.cover r hr)
  sum := (hp.map _).sum_nat.symm.trans h.sum

theorem inv_bump (h : Inv l (w :: d)) (hk : w.key = r.key) : Inv (l ++ [r]) (bump r w :: d) := by
  obtain ⟨hw, _⟩ := List.nodup_cons.mp h.nodup
  obtain ⟨gw, gd⟩ := List.forall_mem_cons.mp h.good
  have hne : ∀ v ∈ d, v.key ≠ r.key := fun v hv e =>
    hw (List.mem_map.mpr ⟨v, hv, e.trans hk.symm⟩)
  have hkeys : (bump r w :: d).map (·.key) = (w :: d).map (·.key) := congrArg (· :: _) (bump_key r w)
  refine ⟨hkeys ▸ h.nodup, ?_, fun x hx => ?_, ?_⟩
  · exact List.forall_mem_cons.mpr ⟨good_bump gw hk, fun v hv => good_other (gd v hv) (hne v hv)⟩
  · rw [hkeys]
    rcases List.mem_append.mp hx with hx | hx
    · exact h.cover x hx
    · rw [List.mem_singleton.mp hx, ← hk]
      exact List.mem_cons_self
  · rw [List.map_cons, List.sum_cons, bump_count, List.length_append, ← h.sum, List.map_cons, List.sum_cons]
    exact Nat.add_right_comm _ _ _

theorem inv_fresh (h : Inv l d) (hno : ∀ v ∈ d, v.key ≠ r.key) : Inv (l ++ [r]) (fresh r :: d) := by
  have hnew : ∀ x ∈ l, x.key ≠ r.key := fun x hx e => by
    obtain ⟨w, hw, hwk⟩ := List.mem_map.mp (h.cover x hx)
    exact hno w hw (hwk.trans e)
  refine ⟨List.nodup_cons.mpr ⟨fun hm => ?_, h.nodup⟩, ?_, fun x hx => ?_, ?_⟩
  · obtain ⟨v, hv, e⟩ := List.mem_map.mp hm
    exact hno v hv e
  · exact List.forall_mem_cons.mpr ⟨good_fresh hnew, fun v hv => good_other (h.good v hv) (hno v hv)⟩
  · rcases List.mem_append.mp hx with hx | hx
    · exact List.mem_cons_of_mem _ (h.cover x hx)
    · rw [List.mem_singleton.mp hx]
      exact List.mem_cons_self
  · rw [List.map_cons, List.sum_cons, h.sum, List.length_append, Nat.add_comm]
    rfl

theorem inv_step (h : Inv l d) (r : Rec κ σ) : Inv (l ++ [r]) (countTopo r d) := by
  rcases countTopo_spec r d with ⟨d₁, w, d₂, rfl, hk, heq⟩ | ⟨hno, heq⟩
  · rw [heq]
    exact (inv_bump (h.perm List.perm_middle) hk).perm List.perm_middle.symm
  · rw [heq]
    exact (inv_fresh h hno).perm (List.perm_append_singleton _ _).symm

theorem inv_foldl (suf : List (Rec κ σ)) {pre : List (Rec κ σ)} (h : Inv pre d) :
    Inv (pre ++ suf) (suf.foldl (fun d r => countTopo r d) d) := by
  induction suf generalizing pre d with
  | nil => rwa [List.append_nil]
  | cons r suf ih =>
    rw [List.append_cons]
    exact ih (inv_step h r)

/-- the dictionary built from the scan order satisfies the invariant -/
theorem inv_topoDict (l : List (Rec κ σ)) : Inv l (topoDict l) :=
  inv_foldl l (pre := []) ⟨List.nodup_nil, fun _ h => (nomatch h), fun _ h => (nomatch h), rfl⟩

theorem inv_topoTable (tr : Trace κ σ) : Inv (flat tr) (topoTable tr) :=
  (inv_topoDict (flat tr)).perm (sortBy_perm scoreGe _).symm

end PhyModel.Trace
