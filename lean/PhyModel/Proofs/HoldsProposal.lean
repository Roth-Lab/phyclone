import PhyModel.Proofs.DistSupport
import PhyModel.Proofs.PGReachable
import PhyModel.Proofs.PropSampler
/-! # One proposal step keeps a partial tree well formed

`Holds c K x`: `x` is a well-formed tree (`PG.WFT`: canonical, no empty clone, distinct data indices
below the sentinel, no outliers when outlier modelling is off) holding exactly the data points `K`.
Every outcome listed by `Proposal.sampler` — the mirror of `sample()` of the three proposal
distributions — for a fresh data point `i` on a parent holding `K` holds `K ++ [i]`. -/

namespace PhyModel.RunOK
open Orders Proposal PG

/-- a well-formed tree holding exactly the data points `K` -/
structure Holds (c : Cfg) (K : List ℕ) (x : T) : Prop where
  wft : WFT c x
  perm : (x.f.all ++ x.out).Perm K

theorem Holds.of_perm {c : Cfg} {K K' : List ℕ} {x : T} (h : Holds c K x) (hp : K.Perm K') : Holds c K' x :=
  ⟨h.wft, h.perm.trans hp⟩

theorem Holds.nodupD {c : Cfg} {D : List ℕ} {x : T} (h : Holds c D x) : D.Nodup :=
  h.perm.nodup_iff.mp h.wft.nodup

theorem Holds.bigD {c : Cfg} {D : List ℕ} {x : T} (h : Holds c D x) : ∀ a ∈ D, a < Forest.big :=
  fun a ha => h.wft.big a (h.perm.symm.subset ha)

/-- `Holds` depends on the configuration only through "outlier modelling is off" -/
theorem Holds.congr {c c' : Cfg} (h : c'.op = 0 → c.op = 0) {D : List ℕ} {x : T} (hx : Holds c D x) :
    Holds c' D x :=
  ⟨⟨hx.wft.canon, hx.wft.ne, hx.wft.nodup, hx.wft.big, fun h0 => hx.wft.out (h h0)⟩, hx.perm⟩

theorem holds_empty (c : Cfg) : Holds c [] T.empty :=
  ⟨⟨rfl, trivial, List.nodup_nil, List.forall_mem_nil _, fun _ => rfl⟩, List.Perm.nil⟩

/-- `chooseK` splits the list it is given -/
theorem chooseK_perm {α : Type} [BEq α] : ∀ (k : ℕ) (l : List α),
    AllD (fun cr => (cr.1 ++ cr.2).Perm l) (chooseK k l) := by
  intro k
  induction k with
  | zero => intro l; exact allD_pure (by simp)
  | succ k ih =>
    intro l
    unfold chooseK
    refine allD_bind_any fun j => ?_
    cases h : l[j]? with
    | none => exact allD_nil _
    | some a =>
      refine allD_fmap ?_
      refine (ih (l.eraseIdx j)).mono ?_
      rintro ⟨ch, r⟩ hp
      obtain ⟨hj, rfl⟩ := List.getElem?_eq_some_iff.1 h
      exact (List.Perm.cons _ hp).trans (List.getElem_cons_eraseIdx_perm hj)

/-- what one placement has to satisfy -/
structure Placed (c : Cfg) (p : T) (i : ℕ) (y : T) : Prop where
  perm : (y.f.all ++ y.out).Perm (p.f.all ++ p.out ++ [i])
  ne : AllNonempty y.f
  canon : T.mk' y.f y.out = y
  out : c.op = 0 → y.out = []

section placed
variable {c : Cfg} {p : T} {i : ℕ} (w : WFT c p)
include w

theorem placed_of_placement {kt : Kind × T} (hkt : kt ∈ placements p i) (hk : kt.1 = .outlier → c.op ≠ 0) :
    Placed c p i kt.2 := by
  refine ⟨placement_perm p i kt hkt, placement_allNonempty p i w.ne kt hkt, placement_canon p i kt hkt, ?_⟩
  intro h0
  rcases mem_placements.mp hkt with ⟨j, _, rfl⟩ | ⟨cr, _, rfl⟩ | rfl
  · simp only [exT, T.mk', w.out h0]; rfl
  · simp only [newT, T.mk', w.out h0]; rfl
  · exact absurd h0 (hk rfl)

theorem placed_exT {j : ℕ} (hj : j < p.f.roots.length) : Placed c p i (exT p i j) :=
  placed_of_placement (kt := (.existing j, exT p i j)) w (mem_placements.mpr (.inl ⟨j, hj, rfl⟩))
    Kind.noConfusion

theorem placed_outT (ho : c.op ≠ 0) : Placed c p i (outT p i) :=
  placed_of_placement (kt := (.outlier, outT p i)) w (mem_placements.mpr (.inr (.inr rfl))) fun _ => ho

/-- a new clone above any sub-multiset of the top-level clones, in any order (the order in which
`choice(..., replace=False)` returns them) -/
theorem placed_newT {cr : List (List ℕ × DF) × List (List ℕ × DF)} (hcr : (cr.1 ++ cr.2).Perm p.f.roots) :
    Placed c p i (newT p i cr) := by
  have hroots := (allNonempty_iff_roots p.f).mp w.ne
  refine ⟨?_, ?_, mk'_idem _ _, ?_⟩
  · refine (mk'_perm _ _).trans ?_
    rw [all_ofRoots, List.flatMap_cons, all_ofRoots, all_eq_flatMap_roots p.f]
    refine List.Perm.trans ?_ (((hcr.flatMap_right _).append_right _).append_right _)
    -- `A ++ [i] ++ B ++ out` against `A ++ B ++ out ++ [i]`
    simp only [List.flatMap_append, List.append_assoc, List.singleton_append, List.perm_append_left_iff]
    rw [← List.append_assoc]
    exact (List.perm_append_singleton i _).symm
  · simp only [newT, T.mk']
    apply allNonempty_canon
    rw [allNonempty_ofRoots]
    intro y hy
    rcases List.mem_cons.1 hy with rfl | hy
    · refine ⟨by simp, (allNonempty_ofRoots _).mpr (fun z hz => hroots z ?_)⟩
      exact hcr.subset (List.mem_append_left _ hz)
    · exact hroots y (hcr.subset (List.mem_append_right _ hy))
  · intro h0
    simp only [newT, T.mk', w.out h0]; rfl

theorem allD_newNodeD : AllD (Placed c p i) (newNodeD p i) :=
  allD_bind_any fun ch =>
    allD_fmap ((chooseK_perm ch p.f.roots).mono fun _ hcr => placed_newT w hcr)

theorem allD_existingD : AllD (Placed c p i) (existingD p i) :=
  allD_fmap (allD_uniform fun _ hj => placed_exT w (List.mem_range.1 hj))

theorem all_exL : ∀ t ∈ exL p i, Placed c p i t :=
  List.forall_mem_map.2 fun _ hj => placed_exT w (List.mem_range.1 hj)

theorem all_newL : ∀ t ∈ newL p i, Placed c p i t :=
  List.forall_mem_map.2 fun _ hcr => placed_newT w (splits_perm _ _ hcr)

theorem all_outL : ∀ t ∈ outL c p i, Placed c p i t := by
  unfold outL
  split
  · exact List.forall_mem_singleton.2 (placed_outT w ‹_›)
  · exact List.forall_mem_nil _

theorem allD_outOpt : AllD (Placed c p i) (outOpt c p i) := by
  unfold outOpt
  split
  · exact List.forall_mem_singleton.2 (placed_outT w ‹_›)
  · exact allD_nil _

omit w in
theorem allD_wts (dt : Data) {L : List T} (h : ∀ t ∈ L, Placed c p i t) :
    AllD (Placed c p i) (Dist.categorical (wts dt c L)) :=
  allD_categorical (List.forall_mem_map.2 h)

/-- every tree listed by the sampler of any of the three proposals is a placement of `i` on `p` -/
theorem allD_sampler (dt : Data) (first : Bool) : AllD (Placed c p i) (sampler dt c first p i) := by
  have hN := allD_newNodeD (i := i) w
  have hO := allD_outOpt (i := i) w
  cases hk : c.kind with
  | bootstrap =>
    rw [sampler_bootstrap dt c first p i hk]
    split
    · exact allD_append (allD_scale hN) hO
    · exact allD_append (allD_append (allD_scale (allD_existingD w)) (allD_scale hN)) hO
  | semi =>
    by_cases hr : p.f.roots.length = 0
    · rw [sampler_semi0 dt c first p i hk hr]
      refine allD_wts dt (List.forall_mem_append.2 ⟨all_outL w, List.forall_mem_singleton.2 ?_⟩)
      exact placed_newT w (by rw [List.length_eq_zero_iff.mp hr]; exact List.Perm.refl _)
    · rw [sampler_semi dt c first p i hk hr]
      exact allD_append (allD_scale (allD_wts dt (List.forall_mem_append.2 ⟨all_exL w, all_outL w⟩)))
        (allD_scale hN)
  | full =>
    have : sampler dt c first p i = table dt c first p i := by
      unfold sampler
      simp only [hk]
    rw [this, table_full dt c first p i hk]
    exact allD_wts dt
      (List.forall_mem_append.2 ⟨List.forall_mem_append.2 ⟨all_exL w, all_newL w⟩, all_outL w⟩)

end placed

theorem holds_of_placed {c : Cfg} {K : List ℕ} {p y : T} {i : ℕ} (hp : Holds c K p) (hi : i ∉ K)
    (hb : i < Forest.big) (h : Placed c p i y) : Holds c (K ++ [i]) y := by
  have hperm : (y.f.all ++ y.out).Perm (K ++ [i]) := h.perm.trans (hp.perm.append_right _)
  refine ⟨⟨h.canon, h.ne, hperm.nodup_iff.mpr ?_, ?_, h.out⟩, hperm⟩
  · exact List.nodup_append.mpr ⟨hp.nodupD, List.nodup_singleton i, fun a ha b hb' hab =>
      hi (hab.trans (List.mem_singleton.1 hb') ▸ ha)⟩
  · intro a ha
    rcases List.mem_append.1 (hperm.subset ha) with h1 | h1
    · exact hp.bigD a h1
    · exact List.mem_singleton.1 h1 ▸ hb

/-- **one proposal step**: every tree the sampler lists for the fresh data point `i` on a parent
holding `K` is well formed and holds `K ++ [i]` -/
theorem sampler_holds (dt : Data) {c : Cfg} (first : Bool) {K : List ℕ} {p : T} {i : ℕ} (hp : Holds c K p)
    (hi : i ∉ K) (hb : i < Forest.big) : AllD (Holds c (K ++ [i])) (sampler dt c first p i) :=
  (allD_sampler hp.wft dt first).mono fun _ h => holds_of_placed hp hi hb h

end PhyModel.RunOK
