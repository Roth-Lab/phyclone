import PhyModel.Proofs.PGSubKernel
/-! # C04, random-subtree move: the conditional statement for the executable `Moves.subtreeGiven`.

Given the region, `subtreeGiven` leaves the full-tree density invariant, in expectation form
(`subtree_given_invariant_E`) and, when distinct subtrees give distinct full trees, per target tree
(`subtree_given_invariant`).  The two side conditions are discharged: the full tree's density is positive
as soon as the likelihoods are (`graftBack_pOne_pos`); and the forest induced by the full tree
`graftBack rem gk x` on the region's data `D` is the subtree `x` again (`restrict_graftBack`), provided
the remaining forest holds no data of `D`, its data are pairwise distinct and the graft point is one of
them (`RegionOK`), so that `graftBack rem gk` is injective on the complete subtrees of `D`
(`graftBack_inj`). -/

namespace PhyModel.PG
open Finset Proposal PGSpec Orders Orders.Forest Canon
open PhyModel.Moves (graftBack subtreeGiven attachAll attachUnder)
open PhyModel.SMC (restrictF)

section
variable {dt : Data} {c : Cfg} {D : List ℕ}

/-- **Given the region, the random-subtree move leaves the full-tree density invariant** (expectation
form).  `x` ranges over the complete subtrees on the region's data `D` (clone data of the region and
all outliers), `graftBack rem gk x` is the full tree; for every test function `φ` on full trees,
`Σ_x pOne(full x) · E[φ(subtreeGiven x)] = Σ_y pOne(full y) · φ(full y)`. -/
theorem subtree_given_invariant_E (h : HypD dt c D) (rem : DF) (gk : Option ℕ)
    (hpos : ∀ y ∈ finals c D, 0 < pOneT dt c (graftBack rem gk y)) (θ : ℚ) (m : ℕ) (φ : T → ℚ) :
    ∑ x : St (allStates c D), piR dt c D rem gk x.1 * Dist.E (subtreeGiven (runOf dt c m θ) rem gk x.1) φ
      = ∑ y : St (allStates c D), piR dt c D rem gk y.1 * φ (graftBack rem gk y.1) :=
  sum_mul_eq_of_kernel (fun x : St (allStates c D) => piR dt c D rem gk x.1) _ _
    (fun y => φ (graftBack rem gk y.1))
    (fun x hx => subtreeGiven_E h rem gk θ m x (by by_contra hf; exact hx (if_neg hf)) φ)
    (subtree_invariant_abstract h rem gk hpos (uN m) (uN_pos m) θ m (uN m) (uN_pos m))

/-- **… per target tree**: when distinct subtrees give distinct full trees,
`Σ_x pOne(full x) · P(subtreeGiven x = full y) = pOne(full y)` for every complete subtree `y`. -/
theorem subtree_given_invariant (h : HypD dt c D) (rem : DF) (gk : Option ℕ)
    (hpos : ∀ y ∈ finals c D, 0 < pOneT dt c (graftBack rem gk y))
    (hinj : ∀ x ∈ finals c D, ∀ y ∈ finals c D, graftBack rem gk x = graftBack rem gk y → x = y)
    (θ : ℚ) (m : ℕ) (y : St (allStates c D)) (hy : y.1 ∈ finals c D) :
    ∑ x : St (allStates c D), piR dt c D rem gk x.1 *
        Dist.E (subtreeGiven (runOf dt c m θ) rem gk x.1) (fun z => if z = graftBack rem gk y.1 then 1 else 0)
      = piR dt c D rem gk y.1 := by
  rw [subtree_given_invariant_E h rem gk hpos θ m]
  rw [Finset.sum_eq_single y]
  · simp
  · intro x _ hne
    by_cases hx : x.1 ∈ finals c D
    · have : graftBack rem gk x.1 ≠ graftBack rem gk y.1 :=
        fun e => hne (Subtype.ext (hinj _ hx _ hy e))
      rw [if_neg this, mul_zero]
    · have : piR dt c D rem gk x.1 = 0 := by unfold piR; rw [if_neg hx]
      rw [this, zero_mul]
  · intro h'; exact absurd (mem_univ _) h'

/-! ### positivity of the full tree's density -/

theorem mem_attachUnder_all {a : ℕ} (sd : List ℕ) (sk : DF) {x : ℕ} : ∀ {f : DF},
    x ∈ (attachUnder a sd sk f).all → x ∈ sk.all ++ sd ∨ x ∈ f.all := by
  intro f
  induction f with
  | nil => intro hx; simp [attachUnder, Forest.all] at hx
  | cons d k s ihk ihs =>
    simp only [attachUnder]
    split <;> simp only [Forest.all, List.mem_append] at ihk ihs ⊢ <;> grind

theorem mem_attachAll_all (gk : Option ℕ) (rem : DF) {x : ℕ} : ∀ (sub : List (List ℕ × DF)),
    x ∈ (attachAll gk sub rem).all → (∃ r ∈ sub, x ∈ r.2.all ++ r.1) ∨ x ∈ rem.all := by
  intro sub
  induction sub with
  | nil => intro hx; cases gk <;> exact Or.inr hx
  | cons r sub ih =>
    intro hx
    have hr : x ∈ r.2.all ++ r.1 ∨ x ∈ (attachAll gk sub rem).all := by
      cases gk with
      | none => simpa only [attachAll, List.foldr_cons, Forest.all, List.mem_append, or_assoc] using hx
      | some k => exact mem_attachUnder_all _ _ hx
    rcases hr with h | h
    · exact Or.inl ⟨r, List.mem_cons_self, h⟩
    · rcases ih h with ⟨r', hr', h'⟩ | h'
      · exact Or.inl ⟨r', List.mem_cons_of_mem _ hr', h'⟩
      · exact Or.inr h'

/-- the data of the full tree come from the subtree or from the remaining forest -/
theorem mem_graftBack (rem : DF) (gk : Option ℕ) (t : T) {x : ℕ}
    (hx : x ∈ (graftBack rem gk t).f.all ++ (graftBack rem gk t).out) :
    x ∈ t.f.all ++ t.out ∨ x ∈ rem.all := by
  unfold graftBack T.mk' at hx
  rcases List.mem_append.mp hx with h | h
  · have h' := (Canon.canon_all_perm _).subset h
    rcases mem_attachAll_all gk rem _ h' with ⟨r, hr, hxr⟩ | h''
    · left
      apply List.mem_append_left
      rw [mem_all_iff_roots]
      rcases List.mem_append.mp hxr with h1 | h1
      · exact ⟨r, hr, Or.inr h1⟩
      · exact ⟨r, hr, Or.inl h1⟩
    · exact Or.inr h''
  · exact Or.inl (List.mem_append_right _ (mem_sortNat.mp h))

/-- **positive likelihoods give a positive full-tree density**: the hypothesis `hpos` of the theorems
above holds as soon as the data of the remaining forest are good (positive likelihood grids, outlier
prior in `[0,1)`) like those of the region -/
theorem graftBack_pOne_pos (h : HypD dt c D) (rem : DF) (gk : Option ℕ)
    (hrem : ∀ i ∈ rem.all, C19P.GoodIdx dt i) : ∀ y ∈ finals c D, 0 < pOneT dt c (graftBack rem gk y) := by
  intro y hy
  obtain ⟨_, hperm⟩ := finals_wft h hy
  apply C19P.Density.pOne_pos dt h.hG c.α h.hα
  intro j hj
  rcases mem_graftBack rem gk y hj with h1 | h1
  · exact h.good j (hperm.subset h1)
  · exact hrem j h1

end

/-- what the region choice guarantees about the remaining forest and the graft point -/
structure RegionOK (rem : DF) (gk : Option ℕ) (D : List ℕ) : Prop where
  disj : ∀ a ∈ rem.all, a ∉ D
  nodup : rem.all.Nodup
  key : ∀ k, gk = some k → k ∈ rem.all

/-- every root of `sub` grafted under the clone(s) holding `key`, in one pass -/
def attachMany (key : ℕ) (sub : List (List ℕ × DF)) : DF → DF
  | .nil => .nil
  | .cons d k s =>
    if d.contains key then .cons d (sub.foldr (fun r acc => .cons r.1 r.2 acc) k) (attachMany key sub s)
    else .cons d (attachMany key sub k) (attachMany key sub s)

theorem attachMany_nil (key : ℕ) : ∀ f : DF, attachMany key [] f = f
  | .nil => rfl
  | .cons d k s => by
    simp only [attachMany, List.foldr_nil, attachMany_nil key k, attachMany_nil key s, ite_self]

theorem attachUnder_attachMany (key : ℕ) (r : List ℕ × DF) (sub : List (List ℕ × DF)) : ∀ f : DF,
    attachUnder key r.1 r.2 (attachMany key sub f) = attachMany key (r :: sub) f
  | .nil => rfl
  | .cons d k s => by
    simp only [attachMany]
    split
    · rename_i hc
      simp only [attachUnder, hc, if_true, List.foldr_cons, attachUnder_attachMany key r sub s]
    · rename_i hc
      simp only [attachUnder, hc, Bool.false_eq_true, if_false, attachUnder_attachMany key r sub k,
        attachUnder_attachMany key r sub s]

theorem attachAll_some (key : ℕ) (sub : List (List ℕ × DF)) (f : DF) :
    attachAll (some key) sub f = attachMany key sub f := by
  induction sub with
  | nil => simp [attachAll, attachMany_nil]
  | cons r sub ih =>
    have : attachAll (some key) (r :: sub) f = attachUnder key r.1 r.2 (attachAll (some key) sub f) := rfl
    rw [this, ih, attachUnder_attachMany]

theorem attachMany_of_not_mem {key : ℕ} (sub : List (List ℕ × DF)) {f : DF} (h : key ∉ f.all) :
    attachMany key sub f = f := by
  induction f with
  | nil => rfl
  | cons d k s ihk ihs =>
    simp only [Forest.all, List.mem_append, not_or] at h
    simp only [attachMany, not_contains_of_not_mem h.1.2, Bool.false_eq_true, if_false, ihk h.1.1, ihs h.2]

theorem foldr_cons_eq (sub : List (List ℕ × DF)) (k : DF) :
    sub.foldr (fun r acc => Orders.Forest.cons r.1 r.2 acc) k = ofRoots (sub ++ k.roots) := by
  induction sub with
  | nil => simp [ofRoots_roots]
  | cons r sub ih => obtain ⟨d, k'⟩ := r; simp only [List.foldr_cons, List.cons_append, ofRoots, ih]

theorem keep_cons {keep : ℕ → Bool} {d : List ℕ} {k s : DF}
    (h : ∀ a ∈ (Orders.Forest.cons d k s).all, keep a = false) :
    d.filter keep = [] ∧ (∀ a ∈ k.all, keep a = false) ∧ ∀ a ∈ s.all, keep a = false :=
  ⟨List.filter_eq_nil_iff.mpr fun a ha =>
      Bool.not_eq_true _ ▸ h a (List.mem_append_left _ (List.mem_append_right _ ha)),
    fun a ha => h a (List.mem_append_left _ (List.mem_append_left _ ha)),
    fun a ha => h a (List.mem_append_right _ ha)⟩

/-- nothing of a forest is kept: the induced forest is empty -/
theorem restrictF_none (keep : ℕ → Bool) : ∀ f : DF, (∀ a ∈ f.all, keep a = false) → restrictF keep f = .nil
  | .nil, _ => rfl
  | .cons d k s, h => by
    obtain ⟨hd, hk, hs⟩ := keep_cons h
    simp only [restrictF, hd, restrictF_none keep k hk, restrictF_none keep s hs, List.isEmpty_nil, if_true,
      roots, List.append_nil, ofRoots]

/-- the forest induced on the kept data by "graft `sub` under the clone holding `key`", when nothing of
the host forest is kept: the forest induced by `sub` alone -/
theorem restrictF_attachMany (keep : ℕ → Bool) (key : ℕ) (sub : List (List ℕ × DF)) : ∀ f : DF,
    f.all.Nodup → (∀ a ∈ f.all, keep a = false) → key ∈ f.all →
    restrictF keep (attachMany key sub f) = restrictF keep (ofRoots sub) := by
  intro f
  induction f with
  | nil => intro _ _ hk; simp [Forest.all] at hk
  | cons d k s ihk ihs =>
    intro hn hkeep hkey
    obtain ⟨_, kidsSibs, rootSibs⟩ := cons_disj hn
    obtain ⟨hk, _, hs, _, _⟩ := all_nodup_cons hn
    obtain ⟨hd, hkeepk, hkeeps⟩ := keep_cons hkeep
    simp only [Forest.all] at hkey
    simp only [attachMany]
    by_cases hc : d.contains key = true
    · have had : key ∈ d := List.contains_iff_mem.mp hc
      simp only [hc, if_true, restrictF, hd, List.isEmpty_nil, attachMany_of_not_mem sub (rootSibs key had),
        restrictF_none keep s hkeeps, roots, List.append_nil]
      rw [foldr_cons_eq, restrictF_ofRoots, List.flatMap_append, ← roots_restrictF keep k,
        restrictF_none keep k hkeepk]
      simp only [roots, List.append_nil, roots_ofRoots]
      rw [restrictF_ofRoots]
    · have had : key ∉ d := fun h => hc (List.contains_iff_mem.mpr h)
      simp only [not_contains_of_not_mem had, Bool.false_eq_true, if_false, restrictF, hd,
        List.isEmpty_nil, if_true]
      by_cases hak : key ∈ k.all
      · rw [attachMany_of_not_mem sub (kidsSibs key hak), restrictF_none keep s hkeeps, ihk hk hkeepk hak]
        simp only [roots, List.append_nil, ofRoots_roots]
      · have has : key ∈ s.all := by
          rcases List.mem_append.mp hkey with h | h
          · rcases List.mem_append.mp h with h | h
            · exact absurd h hak
            · exact absurd h had
          · exact h
        rw [attachMany_of_not_mem sub hak, restrictF_none keep k hkeepk, ihs hs hkeeps has]
        simp only [roots, List.nil_append, ofRoots_roots]

variable {c : Cfg} {D : List ℕ}

/-- **the region's data pick the subtree out of the full tree** -/
theorem restrict_graftBack {rem : DF} {gk : Option ℕ} (ok : RegionOK rem gk D) {x : T} (w : WFT c x)
    (hperm : (x.f.all ++ x.out).Perm D) : SMC.restrict (graftBack rem gk x) D = x := by
  have hkeepx : ∀ a ∈ x.f.all, D.contains a = true := fun a ha =>
    List.contains_iff_mem.mpr (hperm.subset (List.mem_append_left _ ha))
  have hkeepr : ∀ a ∈ rem.all, D.contains a = false := fun a ha =>
    not_contains_of_not_mem (ok.disj a ha)
  have hxid : restrictF (fun i => D.contains i) x.f = x.f := restrictF_id _ _ w.ne hkeepx
  -- the forest induced by the un-canonicalised full forest
  have hA : restrictF (fun i => D.contains i) (attachAll gk x.f.roots rem) = x.f := by
    cases gk with
    | none =>
      show restrictF _ (x.f.roots.foldr (fun r acc => Orders.Forest.cons r.1 r.2 acc) rem) = x.f
      rw [foldr_cons_eq, restrictF_ofRoots, List.flatMap_append, ← roots_restrictF _ rem,
        restrictF_none _ rem hkeepr]
      simp only [roots, List.append_nil]
      rw [← restrictF_ofRoots, ofRoots_roots, hxid]
    | some k =>
      rw [attachAll_some, restrictF_attachMany _ k _ rem ok.nodup hkeepr (ok.key k rfl),
        ofRoots_roots, hxid]
  unfold SMC.restrict graftBack T.mk'
  have e1 : Forest.canon (restrictF (fun i => D.contains i) (Forest.canon (attachAll gk x.f.roots rem))) = x.f := by
    have hE : Eqv (restrictF (fun i => D.contains i) (attachAll gk x.f.roots rem))
        (restrictF (fun i => D.contains i) (Forest.canon (attachAll gk x.f.roots rem))) :=
      restrictF_eqv _ (canon_eqv _).symm
    rw [hA] at hE
    rw [← canon_congr hE w.wf, w.canon_f]
  have e2 : sortNat ((sortNat x.out).filter fun i => D.contains i) = x.out := by
    rw [w.sort_out]
    have : x.out.filter (fun i => D.contains i) = x.out := by
      apply List.filter_eq_self.mpr
      intro a ha
      exact List.contains_iff_mem.mpr (hperm.subset (List.mem_append_right _ ha))
    rw [this, w.sort_out]
  show T.mk _ _ = x
  rw [e1, e2]

/-- **distinct complete subtrees give distinct full trees** -/
theorem graftBack_inj {dt : Data} (h : HypD dt c D) {rem : DF} {gk : Option ℕ} (ok : RegionOK rem gk D) :
    ∀ x ∈ finals c D, ∀ y ∈ finals c D, graftBack rem gk x = graftBack rem gk y → x = y := by
  intro x hx y hy e
  obtain ⟨wx, px⟩ := finals_wft h hx
  obtain ⟨wy, py⟩ := finals_wft h hy
  rw [← restrict_graftBack ok wx px, ← restrict_graftBack ok wy py, e]

#print axioms subtree_given_invariant
#print axioms graftBack_inj
end PhyModel.PG
