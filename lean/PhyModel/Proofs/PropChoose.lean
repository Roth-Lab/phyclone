import PhyModel.Proofs.PropSplits
import Mathlib.Tactic.LinearCombination
/-! `chooseK` (ordered draw without replacement) is uniform on the `k`-subsets.
For a test function that does not depend on the order of the chosen part,
`E (chooseK k l) F = (1 / C(|l|, k)) · Σ_{splits l, |chosen| = k} F`, and drawing `k` uniformly from
`0..|l|` first gives every split the probability `1 / (|l| + 1) / C(|l|, |chosen|)`. -/

namespace PhyModel
open Dist Proposal

theorem lsum_splits_len0 {α} (l : List α) (F : List α × List α → ℚ) :
    lsum (splits l) (fun cr => if cr.1.length = 0 then F cr else 0) = F ([], l) := by
  induction l generalizing F with
  | nil => rw [lsum_splits_nil]; simp
  | cons a l ih =>
    rw [lsum_splits_cons]
    simp only [List.length_cons, Nat.add_eq_zero_iff, one_ne_zero, and_false, if_false, zero_add]
    exact ih (fun cr => F (cr.1, a :: cr.2))

/-- `chooseK k l`, seen through a test function symmetric in the chosen part, is uniform on the
splits with `k` chosen -/
theorem E_chooseK {α} [BEq α] (P : α → Prop) (k : ℕ) :
    ∀ (l : List α), (∀ x ∈ l, P x) → ∀ (F : List α × List α → ℚ),
      (∀ c c' r, c.Perm c' → (∀ x ∈ c, P x) → F (c, r) = F (c', r)) →
      E (chooseK k l) F
        = (1 / (Nat.choose l.length k : ℚ))
            * lsum (splits l) (fun cr => if cr.1.length = k then F cr else 0) := by
  induction k with
  | zero =>
    intro l _ F _
    simp only [chooseK, E_pure, Nat.choose_zero_right, Nat.cast_one, div_one, one_mul]
    rw [lsum_splits_len0]
  | succ k ih =>
    intro l hl F hF
    simp only [chooseK]
    rw [E_bind, E_uniform, List.length_range]
    rw [lsum_congr (List.range l.length) (H := fun j => (l[j]?).elim 0
          (fun a => E (chooseK k (l.eraseIdx j)) (fun cr => F (a :: cr.1, cr.2)))) (by
      intro j _
      cases l[j]? with
      | none => simp [E_nil]
      | some a => simp only [Option.elim]; rw [E_fmap])]
    rw [lsum_range_picks l (fun a m => E (chooseK k m) (fun cr => F (a :: cr.1, cr.2)))]
    -- apply the induction hypothesis to every pick
    have hpick : lsum (picks l) (fun am => E (chooseK k am.2) (fun cr => F (am.1 :: cr.1, cr.2)))
        = (1 / (Nat.choose (l.length - 1) k : ℚ)) *
          lsum (picks l) (fun am => lsum (splits am.2)
            (fun cr => (fun cr' : List α × List α => if cr'.1.length = k + 1 then F cr' else 0)
              (am.1 :: cr.1, cr.2))) := by
      rw [← lsum_mul_left]
      apply lsum_congr
      intro am ham
      obtain ⟨h1, h2, h3⟩ := mem_picks l am ham
      rw [ih am.2 (fun x hx => hl x (h2 x hx)) (fun cr => F (am.1 :: cr.1, cr.2)) (by
        intro c c' r hp hc
        exact hF _ _ _ (List.Perm.cons _ hp) (List.forall_mem_cons.2 ⟨hl _ h1, hc⟩)),
        Nat.eq_sub_of_add_eq h3]
      congr 1
      apply lsum_congr
      intro cr _
      simp only [List.length_cons, Nat.add_right_cancel_iff]
    rw [hpick, splits_double_count P l hl
      (fun cr' : List α × List α => if cr'.1.length = k + 1 then F cr' else 0) (by
        intro c c' r hp hc
        simp only [hp.length_eq]
        split
        · exact hF _ _ _ hp hc
        · rfl)]
    have hk : lsum (splits l) (fun cr => (cr.1.length : ℚ) * (if cr.1.length = k + 1 then F cr else 0))
        = ((k : ℚ) + 1) * lsum (splits l) (fun cr => if cr.1.length = k + 1 then F cr else 0) := by
      rw [← lsum_mul_left]
      apply lsum_congr
      intro cr _
      split
      · rename_i h; rw [h]; push_cast; ring
      · simp
    rw [hk]
    have hk1 : ((k : ℚ) + 1) ≠ 0 := Nat.cast_add_one_ne_zero k
    have hC : ∀ n : ℕ, (Nat.choose n (k + 1) : ℚ)
        = (n : ℚ) * (Nat.choose (n - 1) k : ℚ) / ((k : ℚ) + 1) := by
      intro n
      rw [eq_div_iff hk1]
      cases n with
      | zero => simp
      | succ m => exact_mod_cast (Nat.add_one_mul_choose_eq m k).symm
    rw [hC, one_div_div]
    simp only [div_eq_mul_inv, mul_inv]
    ring

/-- uniform number of children, then a uniform subset of that size: every split `(chosen, rest)` gets
probability `1 / (r + 1) / C(r, |chosen|)` -/
theorem E_newNode {α} [BEq α] (P : α → Prop) (l : List α) (hl : ∀ x ∈ l, P x)
    (F : List α × List α → ℚ)
    (hF : ∀ c c' r, c.Perm c' → (∀ x ∈ c, P x) → F (c, r) = F (c', r)) :
    E (Dist.bind (Dist.uniform (List.range (l.length + 1))) fun ch => chooseK ch l) F
      = lsum (splits l) (fun cr => 1 / ((l.length : ℚ) + 1) / binom l.length cr.1.length * F cr) := by
  rw [E_bind, E_uniform, List.length_range]
  have h1 : lsum (List.range (l.length + 1)) (fun ch => E (chooseK ch l) F)
      = lsum (List.range (l.length + 1)) (fun ch => lsum (splits l)
          (fun cr => if cr.1.length = ch then (1 / (Nat.choose l.length ch : ℚ)) * F cr else 0)) := by
    apply lsum_congr
    intro ch _
    rw [E_chooseK P ch l hl F hF, ← lsum_mul_left]
    apply lsum_congr
    intro cr _
    split <;> simp
  rw [h1, lsum_range, ← lsum_finset_comm, ← lsum_mul_left]
  apply lsum_congr
  intro cr hcr
  have hlen : cr.1.length ≤ l.length := by have := (mem_splits l cr hcr).2.2; omega
  rw [Finset.sum_ite_eq (Finset.range (l.length + 1)) cr.1.length
    (fun ch => (1 / (Nat.choose l.length ch : ℚ)) * F cr)]
  rw [if_pos (by simp; omega), binom_eq_choose _ _ hlen]
  push_cast
  ring

end PhyModel
