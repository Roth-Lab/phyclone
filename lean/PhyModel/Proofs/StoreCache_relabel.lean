import PhyModel.Proofs.StoreCache_Path
import PhyModel.Proofs.StoreCache_Map
/-! C06, the operations that need no path recomputation: the empty tree, `Tree.relabel_nodes` (names
only), and those that recompute every `r` by `updAll`, so that only the `p`-part has to be in order:
`Tree.update`, `Tree.get_subtree` (the extracted subtree is renumbered first) and `Tree.from_dict`
(every payload is created afresh from its `_data` list, so its `p` is right by construction; this
holds for any dictionary). -/
namespace PhyModel.Store.C06

/-- C06 for `Tree(grid_size)`: the empty tree has no clone, so both clauses of `CacheOK` are vacuous -/
theorem cacheOK_init (dt : Data) : CacheOK dt (Store.init dt) :=
  ⟨trivial, fun h => by cases h⟩

/-- C06 for `Tree.relabel_nodes`: the relabelled forest differs in names only (`er_relabelSF`), and neither
`CacheOKsf` nor `recompRoot` reads a name -/
theorem cacheOK_relabel (dt : Data) (s : Store) (hc : CacheOK dt s) : CacheOK dt s.relabelNodes := by
  have he := er_relabelSF s.forest 0
  refine ⟨(cacheOKsf_of_er_eq dt he).2 hc.1, fun hn => ?_⟩
  show s.rootR = recompRoot dt (Store.relabelSF s.forest 0).1
  rw [recompRoot_of_er_eq dt he]
  exact hc.2 (by rw [← isNil_of_er_eq he]; exact hn)

/-- C06 for `Tree.update`: it leaves every `p` alone and recomputes every `r` and the root's vector, so the
`p`-part of `hc` is all that is used -/
theorem cacheOK_update (dt : Data) (s : Store) (hc : CacheOK dt s) : CacheOK dt (s.update dt) :=
  ⟨cacheOKsf_updAll dt _ ((cacheOKsf_iff dt _).1 hc.1).1, fun _ => rfl⟩

/-- **C06**: touching `_data` keys does not concern the cache -/
theorem cacheOK_touch (dt : Data) (s : Store) (l : List Int) (hc : CacheOK dt s) :
    CacheOK dt (s.touch l) := hc

/-- C06 for `Tree.get_subtree`: the subtree found at the named clone inherits the `p`-part, renumbering
(`reindex`) does not touch it, and every `r` is then recomputed by `updAll`; `root = None` returns the tree -/
theorem cacheOK_getSub (dt : Data) (s s' : Store) (root : Option Int) (hc : CacheOK dt s)
    (h : s.getSubtree dt root = some s') : CacheOK dt s' := by
  cases root with
  | none =>
    unfold Store.getSubtree at h
    cases h; exact hc
  | some name =>
    unfold Store.getSubtree at h
    obtain ⟨i, _, h⟩ := Option.bind_eq_some_iff.1 h
    obtain ⟨x, hx, h⟩ := Option.bind_eq_some_iff.1 h
    cases h
    have hp := ((cacheOKsf_iff dt _).1 hc.1).1
    have hp1 : POK dt (.cons x.1 x.2 .nil) := POK_findSub dt i s.forest x.1 x.2 hp hx
    have hp2 : POK dt (Store.reindex (.cons x.1 x.2 .nil) 1).1 :=
      (POK_of_er_eq dt (er_reindex _ 1)).2 hp1
    exact ⟨cacheOKsf_updAll dt _ hp2, fun _ => rfl⟩

theorem POK_buildSF (dt : Data) (d : Store.TDict) : ∀ (fuel : Nat) (cs : List Nat) (f : SF),
    Store.buildSF dt d fuel cs = some f → POK dt f
  | 0, _, f, h => by
    unfold Store.buildSF at h
    cases h; trivial
  | fuel+1, [], f, h => by
    unfold Store.buildSF at h
    cases h; trivial
  | fuel+1, c :: cs, f, h => by
    unfold Store.buildSF at h
    obtain ⟨name, _, h⟩ := Option.bind_eq_some_iff.1 h
    by_cases hreg : (d.nodeIdx.lookup name != some c) = true
    · rw [if_pos hreg] at h
      cases h
    · rw [if_neg hreg] at h
      obtain ⟨dl, _, h⟩ := Option.bind_eq_some_iff.1 h
      obtain ⟨n, hn, h⟩ := Option.bind_eq_some_iff.1 h
      obtain ⟨kids, hk, h⟩ := Option.bind_eq_some_iff.1 h
      obtain ⟨sibs, hs, h⟩ := Option.bind_eq_some_iff.1 h
      cases h
      exact ⟨(recAdd_spec dt dl _ n hn).2.2.2.1 (freshRec_p dt c name),
        POK_buildSF dt d fuel _ kids hk, POK_buildSF dt d fuel cs sibs hs⟩

/-- C06 for `Tree.from_dict` (in particular `from_dict(to_dict(t))`), for any dictionary: `buildSF` makes every
`p` from the clone's `_data` list (`POK_buildSF`), then every `r` is recomputed by `updAll` -/
theorem cacheOK_fromDict (dt : Data) (d : Store.TDict) (s' : Store)
    (h : Store.fromDict dt d = some s') : CacheOK dt s' := by
  unfold Store.fromDict at h
  split at h
  · cases h
    exact ⟨trivial, fun _ => rfl⟩
  · split at h
    · cases h
    · obtain ⟨f0, hf0, h⟩ := Option.bind_eq_some_iff.1 h
      cases h
      exact ⟨cacheOKsf_updAll dt _ (POK_buildSF dt d _ _ f0 hf0), fun _ => rfl⟩

end PhyModel.Store.C06
