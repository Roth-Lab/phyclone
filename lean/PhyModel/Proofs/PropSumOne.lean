import PhyModel.Proofs.PropTable
/-! Every proposal table sums to one; its entries are exactly the candidate trees
(the placements, the outlier one only when outlier modelling is on), each with positive probability. -/

namespace PhyModel
open Proposal

theorem lsum_outOpt (c : Cfg) (p : T) (i : ℕ) :
    lsum (if c.op ≠ 0 then [(outT p i, c.op)] else []) (fun tq => tq.2) = c.op := by
  by_cases h : c.op = 0 <;> simp [h, lsum]

/-- total weight of the candidates is positive -/
theorem cands_pos (dt : Data) (c : Cfg) (p : T) (i : ℕ)
    (hpos : ∀ kt ∈ placements p i, 0 < pMargT dt c kt.2) (L : List T) (hne : L ≠ [])
    (hsub : ∀ t ∈ L, t ∈ exL p i ++ newL p i ++ outL c p i) : 0 < lsum L (pMargT dt c) := by
  apply lsum_pos L hne
  intro t ht
  obtain ⟨kt, hkt, rfl⟩ := mem_cands c p i t (hsub t ht)
  exact hpos kt hkt

theorem exL_ne_nil (p : T) (i : ℕ) (hr : p.f.roots.length ≠ 0) : exL p i ≠ [] := by
  unfold exL
  simp only [ne_eq, List.map_eq_nil_iff, List.range_eq_nil]
  exact hr

theorem newOut_sub (c : Cfg) (p : T) (i : ℕ) :
    ∀ t ∈ newL p i ++ outL c p i, t ∈ exL p i ++ newL p i ++ outL c p i :=
  fun _ ht => (List.mem_append.1 ht).elim (fun h => List.mem_append_left _ (List.mem_append_right _ h))
    (List.mem_append_right _)

theorem exOut_sub (c : Cfg) (p : T) (i : ℕ) :
    ∀ t ∈ exL p i ++ outL c p i, t ∈ exL p i ++ newL p i ++ outL c p i :=
  fun _ ht => (List.mem_append.1 ht).elim (fun h => List.mem_append_left _ (List.mem_append_left _ h))
    (List.mem_append_right _)

theorem table_sum_one_proof (dt : Data) (c : Cfg) (first : Bool) (p : T) (i : ℕ)
    (hfirst : first = true → p.f.numRoots = 0)
    (hpos : c.kind ≠ .bootstrap → ∀ kt ∈ placements p i, 0 < pMargT dt c kt.2) :
    lsum (table dt c first p i) (fun tq => tq.2) = 1 := by
  rw [numRoots_eq] at hfirst
  have hrq1 : (p.f.roots.length : ℚ) + 1 ≠ 0 := Nat.cast_add_one_ne_zero _
  cases hk : c.kind with
  | bootstrap =>
    rw [table_bootstrap dt c first p i hk, lsum_append, lsum_append, lsum_map, lsum_map, lsum_outOpt]
    by_cases hr : p.f.roots.length = 0
    · have hrs : p.f.roots = [] := List.length_eq_zero_iff.mp hr
      rw [hrs, lsum_splits_nil, List.length_nil, List.range_zero, lsum_nil, zero_add]
      simp only [decide_true, Bool.or_true, if_true, sub_add_cancel]
    · have hf : first = false := by
        cases first with
        | false => rfl
        | true => exact absurd (hfirst rfl) hr
      have hrq : (p.f.roots.length : ℚ) ≠ 0 := Nat.cast_ne_zero.2 hr
      simp only [hf, Bool.false_or, decide_eq_true_eq, hr, if_false]
      rw [lsum_const, List.length_range, lsum_splits_div_binom, mul_div_cancel₀ _ hrq, div_mul_cancel₀ _ hrq1]
      ring
  | semi =>
    have hpos' := hpos (by rw [hk]; decide)
    by_cases hr : p.f.roots.length = 0
    · rw [table_semi0 dt c first p i hk hr]
      exact tsum_categorical_wts dt c _ (cands_pos dt c p i hpos' _
        (List.append_ne_nil_of_left_ne_nil (newL_ne_nil p i) _) (newOut_sub c p i)).ne'
    · rw [table_semi dt c first p i hk hr, lsum_append, lsum_map, Dist.scale, lsum_map]
      simp only
      rw [lsum_mul_right, tsum_categorical_wts dt c _ (cands_pos dt c p i hpos' _
        (List.append_ne_nil_of_left_ne_nil (exL_ne_nil p i hr) _) (exOut_sub c p i)).ne',
        lsum_splits_div_binom, div_mul_cancel₀ _ hrq1]
      norm_num
  | full =>
    rw [table_full dt c first p i hk]
    exact tsum_categorical_wts dt c _ (cands_pos dt c p i (hpos (by rw [hk]; decide)) _
      (List.append_ne_nil_of_left_ne_nil (List.append_ne_nil_of_right_ne_nil _ (newL_ne_nil p i)) _)
      fun _ ht => ht).ne'

theorem keys_scale {α} (k : ℚ) (d : Dist α) : (Dist.scale k d).map (·.1) = d.map (·.1) := by
  unfold Dist.scale
  rw [List.map_map]
  rfl

theorem keys_categorical_wts (dt : Data) (c : Cfg) (l : List T) :
    (Dist.categorical (wts dt c l)).map (·.1) = l := by
  rw [categorical_wts, List.map_map]
  exact List.map_id' _

theorem table_keys_perm (dt : Data) (c : Cfg) (first : Bool) (p : T) (i : ℕ) :
    ((table dt c first p i).map (·.1)).Perm (exL p i ++ newL p i ++ outL c p i) := by
  cases hk : c.kind with
  | bootstrap =>
    rw [table_bootstrap dt c first p i hk, List.map_append, List.map_append, List.map_map, List.map_map]
    refine List.Perm.of_eq (congrArg _ ?_)
    rw [outL]
    split <;> rfl
  | semi =>
    by_cases hr : p.f.roots.length = 0
    · rw [table_semi0 dt c first p i hk hr, keys_categorical_wts, exL, hr]
      exact List.Perm.refl _
    · rw [table_semi dt c first p i hk hr, List.map_append, keys_scale, keys_categorical_wts,
        List.map_map, List.append_assoc, List.append_assoc]
      exact List.Perm.append_left _ List.perm_append_comm
  | full => rw [table_full dt c first p i hk, keys_categorical_wts]

theorem table_entry_pos (dt : Data) (c : Cfg) (first : Bool) (p : T) (i : ℕ)
    (hop0 : 0 ≤ c.op) (hop1 : c.op < 1)
    (hpos : c.kind ≠ .bootstrap → ∀ kt ∈ placements p i, 0 < pMargT dt c kt.2)
    (tq : T × ℚ) (htq : tq ∈ table dt c first p i) :
    0 < tq.2 ∧ tq.1 ∈ exL p i ++ newL p i ++ outL c p i := by
  refine ⟨?_, (table_keys_perm dt c first p i).mem_iff.1 (List.mem_map_of_mem htq)⟩
  have h1op : 0 < 1 - c.op := sub_pos.2 hop1
  have hnew : ∀ {a : ℚ} (cr : List (List ℕ × DF) × List (List ℕ × DF)), 0 < a →
      0 < a / ((p.f.roots.length : ℚ) + 1) / binom p.f.roots.length cr.1.length := fun cr ha =>
    qdiv_pos (qdiv_pos ha (Nat.cast_add_one_pos _)) (binom_pos _ _)
  have hcat : ∀ L : List T, (∀ t ∈ L, t ∈ exL p i ++ newL p i ++ outL c p i) → c.kind ≠ .bootstrap →
      ∀ aq ∈ Dist.categorical (wts dt c L), 0 < aq.2 := by
    intro L hsub hkb aq haq
    rw [categorical_wts] at haq
    obtain ⟨t, ht, rfl⟩ := List.mem_map.mp haq
    obtain ⟨kt, hkt, hk⟩ := mem_cands c p i t (hsub t ht)
    exact qdiv_pos (hk ▸ hpos hkb kt hkt) (cands_pos dt c p i (hpos hkb) L (List.ne_nil_of_mem ht) hsub)
  cases hk : c.kind with
  | bootstrap =>
    rw [table_bootstrap dt c first p i hk] at htq
    rcases List.mem_append.1 htq with h | h
    · rcases List.mem_append.1 h with h | h
      · obtain ⟨j, hj, rfl⟩ := List.mem_map.1 h
        exact qdiv_pos (qdiv_pos h1op two_pos) (Nat.cast_pos.2 (Nat.zero_lt_of_lt (List.mem_range.1 hj)))
      · obtain ⟨cr, hcr, rfl⟩ := List.mem_map.1 h
        show 0 < ite _ _ _
        split
        · exact h1op
        · exact hnew cr (qdiv_pos h1op two_pos)
    · split at h
      · rename_i ho
        rw [List.mem_singleton.1 h]
        exact lt_of_le_of_ne hop0 (Ne.symm ho)
      · exact absurd h List.not_mem_nil
  | semi =>
    have hkb : c.kind ≠ .bootstrap := by rw [hk]; decide
    by_cases hr : p.f.roots.length = 0
    · rw [table_semi0 dt c first p i hk hr] at htq
      exact hcat _ (newOut_sub c p i) hkb tq htq
    · rw [table_semi dt c first p i hk hr] at htq
      rcases List.mem_append.1 htq with h | h
      · obtain ⟨bq, hbq, rfl⟩ := List.mem_map.1 (show tq ∈ List.map _ _ from h)
        exact qmul_pos (hcat _ (exOut_sub c p i) hkb bq hbq) (qdiv_pos one_pos two_pos)
      · obtain ⟨cr, hcr, rfl⟩ := List.mem_map.1 h
        exact hnew cr (qdiv_pos one_pos two_pos)
  | full =>
    rw [table_full dt c first p i hk] at htq
    exact hcat _ (fun _ h => h) (by rw [hk]; decide) tq htq

theorem mem_table_of_cand (dt : Data) (c : Cfg) (first : Bool) (p : T) (i : ℕ) (t : T)
    (ht : t ∈ exL p i ++ newL p i ++ outL c p i) : ∃ q, (t, q) ∈ table dt c first p i := by
  obtain ⟨tq, htq, rfl⟩ := List.mem_map.1 ((table_keys_perm dt c first p i).mem_iff.2 ht)
  exact ⟨tq.2, htq⟩

theorem support_complete_proof (dt : Data) (c : Cfg) (first : Bool) (p : T) (i : ℕ)
    (hop0 : 0 ≤ c.op) (hop1 : c.op < 1)
    (hpos : c.kind ≠ .bootstrap → ∀ kt ∈ placements p i, 0 < pMargT dt c kt.2)
    (kt : Kind × T) (hkt : kt ∈ placements p i) (hout : kt.1 = .outlier → c.op ≠ 0) :
    ∃ q, 0 < q ∧ (kt.2, q) ∈ table dt c first p i := by
  have hc : kt.2 ∈ exL p i ++ newL p i ++ outL c p i := by
    rw [placements_eq] at hkt
    rcases List.mem_append.1 hkt with h | h
    · rcases List.mem_append.1 h with h | h
      · obtain ⟨j, hj, rfl⟩ := List.mem_map.1 h
        exact exOut_sub c p i _ (List.mem_append_left _ (List.mem_map_of_mem hj))
      · obtain ⟨cr, hcr, rfl⟩ := List.mem_map.1 h
        exact newOut_sub c p i _ (List.mem_append_left _ (List.mem_map_of_mem hcr))
    · rw [List.mem_singleton.1 h] at hout ⊢
      exact List.mem_append_right _ (by rw [outL, if_pos (hout rfl)]; exact List.mem_singleton_self _)
  obtain ⟨q, hq⟩ := mem_table_of_cand dt c first p i kt.2 hc
  exact ⟨q, (table_entry_pos dt c first p i hop0 hop1 hpos _ hq).1, hq⟩

end PhyModel
