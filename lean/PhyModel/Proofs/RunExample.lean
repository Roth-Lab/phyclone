import PhyModel.Proofs.RunSpec
import PhyModel.Proofs.C19Example
import PhyModel.Proofs.StoreWF_LegalDec
import PhyModel.Proofs.DictInv
import PhyModel.Model.TraceLoop
/-! # A concrete chain satisfying every hypothesis of C19 `run_entries_ok`

Two data points on a 2-point grid (the data set of `Proofs/C19Example.lean`), semi-adapted proposal,
outlier modelling on, two particles, one data-point move and one prune-regraft move per iteration.
One burn-in iteration and one main iteration:

* start: both data points in one clone (`Tree.get_single_node_tree`);
* burn-in iteration 0: the unconditional SMC sweep returns "0 above 1", the data-point move leaves it,
  prune-regraft moves clone `{1}` to the top level — the store holds two top-level clones;
* main iteration 0: particle Gibbs returns "clone `{0}`, data point 1 an outlier", the auxiliary moves
  leave it.

The stores are built by legal edit histories on a fresh handle, as a particle is. -/

namespace PhyModel.RunOK
open PhyModel.Store PhyModel.TraceLoop

theorem legalFrom_getD {dt : Data} {s : Store} {ops : List Op} {h : ℕ} (hleg : legalRunB dt [s] ops = true)
    (hin : ∀ op ∈ ops, C06.InRange dt op) (hrun : (run dt [s] ops).isSome = true)
    (hh : h < ((run dt [s] ops).getD []).length) : LegalFrom dt s (((run dt [s] ops).getD []).getD h s) := by
  obtain ⟨sys, e⟩ := Option.isSome_iff_exists.1 hrun
  rw [e, Option.getD_some] at hh ⊢
  exact ⟨ops, sys, h, legalRun_of_B hleg, hin, e, by
    rw [List.getD_eq_getElem?_getD, List.getElem?_eq_getElem hh, Option.getD_some]⟩

namespace Ex
open PhyModel.Props.C19 (exData)

def exP : Params := ⟨exData, ⟨.semi, 1/10, 1, true⟩, 2, 1/2, 1, 1⟩

def x0 : T := ⟨.cons [0, 1] .nil .nil, []⟩
def xA : T := ⟨.cons [0] (.cons [1] .nil .nil) .nil, []⟩
def xC : T := ⟨.cons [0] .nil (.cons [1] .nil .nil), []⟩
def xD : T := ⟨.cons [0] .nil .nil, [1]⟩

def s0 : Store := ((run exData [Store.init exData] [.create 0 [] [0, 1]]).getD []).getD 0 (Store.init exData)
def opsB : List Op := [.fresh, .create 1 [] [0], .create 1 [] [1]]
def opsM : List Op := [.fresh, .create 1 [] [0], .addDp 1 1 (-1)]
/-- the burn-in oracle: two top-level clones, built on a fresh handle -/
def mvB (_ : ℕ) (s : Store) : Store := ((run exData [s] opsB).getD []).getD 1 s
/-- the main-loop oracle: clone `{0}` and the outlier 1, built on a fresh handle -/
def mvM (_ : ℕ) (s : Store) : Store := ((run exData [s] opsM).getD []).getD 1 s

def s1 : Store := (mvB 0 s0).relabelNodes

def exO : Oracles :=
  { moves := mvM, conc := fun _ _ _ => 2, clock := fun i => (i : Rat) + 1, stop := fun _ => false }

-- `Orders.inter` is defined by well-founded recursion, which the kernel does not evaluate: its calls
-- are rewritten away first
theorem so0 : Orders.sampleOrder x0.f x0.out = [([0, 1], 1 / 2), ([1, 0], 1 / 2)] := by
  simp only [x0, Orders.sampleOrder, Orders.sampleF, Orders.perms, Orders.insertAll, Orders.inter, Dist.bind,
    Dist.uniform, Dist.pure, List.flatMap_cons, List.flatMap_nil, List.map_cons, List.map_nil, List.append_nil,
    List.nil_append, List.cons_append]
  decide +kernel

theorem soC : Orders.sampleOrder xC.f xC.out = [([0, 1], 1 / 2), ([1, 0], 1 / 2)] := by
  simp only [xC, Orders.sampleOrder, Orders.sampleF, Orders.perms, Orders.insertAll, Orders.inter, Dist.bind,
    Dist.uniform, Dist.pure, List.flatMap_cons, List.flatMap_nil, List.map_cons, List.map_nil, List.append_nil,
    List.nil_append, List.cons_append]
  decide +kernel

theorem abs0 : absT s0 = x0 := by decide +kernel
theorem absB : absT (mvB 0 s0) = xC := by decide +kernel
theorem abs1 : absT s1 = xC := by decide +kernel
theorem absM : absT (mvM 0 s1) = xD := by decide +kernel

theorem smc_lists : Listed (SMC.smcStep (exP.run 1) x0) xA := by
  refine listed_of_mem ?_
  unfold SMC.smcStep
  rw [so0]
  decide +kernel

theorem pg_lists : Listed (SMC.pgStep (exP.run 1) xC) xD := by
  refine listed_of_mem ?_
  unfold SMC.pgStep
  rw [soC]
  decide +kernel

theorem dp_lists : Listed (Moves.dataPointMove (exP.mv 1) xA) xA ∧ Listed (Moves.dataPointMove (exP.mv 1) xD) xD :=
  ⟨listed_of_mem (by decide +kernel), listed_of_mem (by decide +kernel)⟩

theorem pr_lists : Listed (Moves.pruneRegraft (exP.mv 1) xA) xC ∧ Listed (Moves.pruneRegraft (exP.mv 1) xD) xD :=
  ⟨listed_of_mem (by decide +kernel), listed_of_mem (by decide +kernel)⟩

/-- burn-in iteration 0 is a sweep of the burn-in model -/
theorem sweepB : SweepOut exP .burnin 1 (absT s0) (absT (mvB 0 s0)) := by
  rw [abs0, absB]
  exact ⟨xA, xA, smc_lists, ⟨xA, rfl, dp_lists.1⟩, ⟨xA, rfl, pr_lists.1⟩⟩

/-- main iteration 0 is a sweep of the main-loop model -/
theorem sweepM : SweepOut exP .main 1 (absT s1) (absT (mvM 0 s1)) := by
  rw [abs1, absM]
  exact ⟨xD, xD, Or.inl pg_lists, ⟨xD, rfl, dp_lists.2⟩, ⟨xD, rfl, pr_lists.2⟩⟩

theorem legalB : LegalFrom exData s0 (mvB 0 s0) :=
  legalFrom_getD (by decide +kernel) (by decide) (by decide +kernel) (by decide +kernel)

theorem legalM : LegalFrom exData s1 (mvM 0 s1) :=
  legalFrom_getD (by decide +kernel) (by decide) (by decide +kernel) (by decide +kernel)

/-- the start store is built from the empty tree by a legal edit -/
theorem legal0 : LegalFrom exData (Store.init exData) s0 :=
  legalFrom_getD (by decide +kernel) (by decide) (by decide +kernel) (by decide +kernel)

theorem sinv0 : SInv exData s0 :=
  ⟨wf_of_wfShB s0 (by decide +kernel), full_of_fullB s0 (by decide +kernel),
    cacheOK_of_cacheOKB exData s0 (by decide +kernel), aligned_of_alignedB s0 (by decide +kernel)⟩

theorem holds0 : Holds exP.c (List.range exData.n) (absT s0) := by
  rw [abs0]
  exact single_holds exP.c (D := [0, 1]) (by simp) (by decide) (by decide)

theorem realB : ∀ i, i < 1 → RealisesAt exP .burnin mvB i (burnState mvB i s0) := by
  intro i hi
  obtain rfl := Nat.lt_one_iff.1 hi
  exact ⟨legalB, 1, sweepB⟩

theorem realM : ∀ k, k < 1 → RealisesAt exP .main exO.moves k (stateAt exO true ⟨burnState mvB 1 s0, 1⟩ k).tree := by
  intro k hk
  obtain rfl := Nat.lt_one_iff.1 hk
  exact ⟨legalM, 1, sweepM⟩

end Ex
end PhyModel.RunOK
