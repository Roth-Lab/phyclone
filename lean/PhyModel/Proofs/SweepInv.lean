import PhyModel.Proofs.SweepSpace
import PhyModel.Proofs.MovesDp
import PhyModel.Proofs.MovesDpBlocks
import PhyModel.Proofs.MovesPrBlocks
/-! # Whole sweep: every kernel of the sweep, and the sweep, leave `pOne` invariant on the
common state space `Sweep.space c D`.

`Gibbs.Inv S π K` is the expectation form `Σ_{x∈S} π x · E[h(K x)] = Σ_{x∈S} π x · h x` for every test
function `h`.  `pgStep_inv` transports C01 (`PG.pg_invariant_abstract` + `PG.pgStep_E`) to that form;
`dataPointMove_inv` and `pruneRegraft_inv` are C04's theorems with their hypotheses discharged on
`space c D` (`SweepSpace`); `Inv.comp` composes them.  `Gibbs.Inv` is written in full in the statements: the
bare name is also Mathlib's inverse class, and an ambiguous name is elaborated both ways. -/

namespace PhyModel.Sweep
open Proposal PGSpec PG PhyModel.Moves Gibbs Dist

variable {dt : Data} {c : Proposal.Cfg} {D : List ℕ}

/-- **C01 on the common state space**: the whole-tree particle-Gibbs update leaves `pOne` invariant -/
theorem pgStep_inv (h : HypD dt c D) (θ : ℚ) (m : ℕ) :
    Gibbs.Inv (space c D) (pOneT dt c) (SMC.pgStep (runOf dt c m θ)) := by
  intro hh
  rw [← sum_piD_eq_lsum (fun x => E (SMC.pgStep (runOf dt c m θ) x) hh), ← sum_piD_eq_lsum hh]
  exact sum_mul_eq_of_kernel (fun s : St (allStates c D) => piD dt c D s.1) _ _ (fun y => hh y.1)
    (fun s hs => pgStep_E h θ m s (by by_contra hf; exact hs (if_neg hf)) hh)
    (pg_invariant_abstract h (uN m) (uN_pos m) θ m (uN m) (uN_pos m))

/-- **C04 (data-point move) on the common state space** -/
theorem dataPointMove_inv (h : HypD dt c D) :
    Gibbs.Inv (space c D) (pOneT dt c) (dataPointMove (mvCfg dt c)) :=
  dataPointMove_invariant_of_steps (mvCfg dt c) (space c D) D h.nodup (space_data h)
    (fun i hi => Canon.dpStep_invariant (mvCfg dt c) i (space c D) (space_nodup c D) (space_wf h) (space_out h)
      (space_dp_closed h i hi) (space_pOne_nonneg h))

/-- **C04 (prune-regraft move) on the common state space** -/
theorem pruneRegraft_inv (h : HypD dt c D) :
    Gibbs.Inv (space c D) (pOneT dt c) (pruneRegraft (mvCfg dt c)) :=
  Canon.pruneRegraft_invariant (mvCfg dt c) (space c D) (space_nodup c D) (space_wf h) (space_pr_closed h)
    (space_pOne_nonneg h)

/-- `k` successive draws from an invariant kernel -/
theorem iter_inv {S : List T} {μ : T → ℚ} {K : T → Dist T} (hK : Gibbs.Inv S μ K) : ∀ k, Gibbs.Inv S μ (iter K k)
  | 0 => Inv.pure S μ
  | k+1 => (Inv.comp hK (iter_inv hK k)).congr (fun x _ hh => by simp only [iter]; rw [E_norm])

theorem sweep_inv (h : HypD dt c D) (θ : ℚ) (m k₁ k₂ : ℕ) :
    Gibbs.Inv (space c D) (pOneT dt c) (sweepModel (runOf dt c m θ) (mvCfg dt c) k₁ k₂) :=
  (Inv.comp (pgStep_inv h θ m)
      (Inv.comp (iter_inv (dataPointMove_inv h) k₁) (iter_inv (pruneRegraft_inv h) k₂))).congr
    (fun x _ hh => by unfold sweepModel; rw [E_norm])

/-- **any number of sweeps leaves `pOne` invariant** (expectation form) -/
theorem chain_inv (h : HypD dt c D) (θ : ℚ) (m k₁ k₂ n : ℕ) :
    Gibbs.Inv (space c D) (pOneT dt c) (chainModel (runOf dt c m θ) (mvCfg dt c) k₁ k₂ n) :=
  iter_inv (sweep_inv h θ m k₁ k₂) n

/-- target form of an invariant kernel, also for targets outside the state list (both sides vanish) -/
theorem Inv.target' {S : List T} {μ : T → ℚ} {K : T → Dist T} (hK : Gibbs.Inv S μ K) (hS : S.Nodup) (y : T) :
    lsum S (fun x => μ x * prob (K x) y) = if y ∈ S then μ y else 0 := by
  by_cases hy : y ∈ S
  · rw [if_pos hy]; exact hK.target hS hy
  · rw [if_neg hy]
    unfold prob
    rw [hK, lsum_congr S (H := fun _ => 0), lsum_zero]
    intro x hx
    have : x ≠ y := fun e => hy (e ▸ hx)
    simp [this]

/-- from the list form to the form of C01: sum over the subtype of `allStates c D`, target `piD` -/
theorem subtype_form {K : T → Dist T} (hK : Gibbs.Inv (space c D) (pOneT dt c) K) (y : T) :
    ∑ x : St (allStates c D), piD dt c D x.1 * E (K x.1) (fun z => if z = y then 1 else 0) = piD dt c D y := by
  rw [sum_piD_eq_lsum (fun x => E (K x) (fun z => if z = y then 1 else 0)), piD_eq]
  exact Inv.target' hK (space_nodup c D) y

/-- a list sum over a duplicate-free list is the sum over its subtype -/
theorem lsum_eq_sum_St (S : List T) (hS : S.Nodup) (F : T → ℚ) : lsum S F = ∑ x : St S, F x.1 := by
  rw [← sum_indicator_lsum S F S hS (fun a ha => ha)]
  apply Finset.sum_congr rfl
  intro s _
  rw [if_pos s.2]

/-- target form on the finite type of the complete trees on `D` -/
theorem target_form {K : T → Dist T} (hK : Gibbs.Inv (space c D) (pOneT dt c) K) (y : St (space c D)) :
    ∑ x : St (space c D), pOneT dt c x.1 * E (K x.1) (fun z => if z = y.1 then 1 else 0) = pOneT dt c y.1 := by
  rw [← lsum_eq_sum_St (space c D) (space_nodup c D)
    (fun x => pOneT dt c x * E (K x) (fun z => if z = y.1 then 1 else 0))]
  exact hK.target (space_nodup c D) y.2

end PhyModel.Sweep
