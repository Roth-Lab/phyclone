import PhyModel.Proofs.PGSubRegion
import Mathlib.Tactic.NormNum
/-! Concrete instance for the non-vacuity examples of the conditional statement about the
random-subtree move (C04): four data points; the full tree is the chain `0 → 1 → 2` with data point 3 an
outlier; choosing data point 2 selects the region rooted at the clone of data point 1 (the parent of the
clone of data point 2), which hangs below the clone of data point 0.  Region data `D = [1, 2, 3]` (two
clone data points and the outlier), remaining forest `{0}`, graft point `0`. -/

namespace PhyModel.PG

def subData : Data :=
  { G := 2, S := 1, vals := [[[1/2, 1]], [[1, 1/4]], [[1/3, 1/2]], [[1/4, 1]]],
    op := [1/5, 1/5, 1/5, 1/5], sz := [1, 1, 1, 1] }

def subCfg (k : Proposal.Prop3) : Proposal.Cfg := ⟨k, 1/10, 1, true⟩

/-- the current full tree -/
def subFull : T := T.mk' (.cons [0] (.cons [1] (.cons [2] .nil .nil) .nil) .nil) [3]
/-- the remaining forest once the region is cut out -/
def subRem : DF := .cons [0] .nil .nil
/-- the extracted subtree: region and all outliers -/
def subTree : T := T.mk' (.cons [1] (.cons [2] .nil .nil) .nil) [3]

theorem subHypD (k : Proposal.Prop3) : HypD subData (subCfg k) [1, 2, 3] where
  hG := by decide
  hα := one_pos
  op0 := (by norm_num : (0 : ℚ) ≤ 1 / 10)
  op1 := (by norm_num : (1 / 10 : ℚ) < 1)
  nodup := by decide
  good := by
    unfold C19P.GoodIdx
    decide +kernel
  big := by decide
  ne := List.cons_ne_nil _ _
  perm := rfl

theorem subRegionOK : RegionOK subRem (some 0) [1, 2, 3] where
  disj := by decide
  nodup := by decide
  key := by
    intro k hk
    cases hk
    decide

theorem subRemGood : ∀ i ∈ subRem.all, C19P.GoodIdx subData i := by
  unfold C19P.GoodIdx
  decide +kernel

theorem subFull_wft (k : Proposal.Prop3) : WFT (subCfg k) subFull :=
  ⟨by decide +kernel, by decide +kernel, by decide +kernel, by decide +kernel,
    fun h => absurd h (by norm_num : (1 / 10 : ℚ) ≠ 0)⟩

theorem subFull_good : ∀ j ∈ subFull.f.all ++ subFull.out, C19P.GoodIdx subData j := by
  unfold C19P.GoodIdx
  decide +kernel

end PhyModel.PG
