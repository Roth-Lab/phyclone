import PhyModel.Proofs.SweepSpace
import PhyModel.Proofs.PGExample
import Mathlib.Tactic.NormNum
/-! Concrete instance for the non-vacuity examples of the whole-sweep theorems (C04): the three-point
data set of C04's examples (`Props.C04.exData`; repeated here because the property file imports this one),
outlier priors 1/5, every proposal kind with outlier proposal probability 1/10 and `α = 1`
(`PG.exCfg`). -/

namespace PhyModel.Sweep

def swData : Data :=
  { G := 2, S := 1, vals := [[[1/2, 1/4]], [[1/4, 1]], [[1/3, 1/2]]], op := [1/5, 1/5, 1/5], sz := [1, 1, 1] }

theorem swHypD (k : Proposal.Prop3) : PG.HypD swData (PG.exCfg k) [0, 1, 2] where
  hG := by decide
  hα := one_pos
  op0 := (by norm_num : (0 : ℚ) ≤ 1 / 10)
  op1 := (by norm_num : (1 / 10 : ℚ) < 1)
  nodup := by decide
  good := by
    unfold C19P.GoodIdx
    decide +kernel
  big := by decide
  ne := List.cons_ne_nil _ _
  perm := rfl

end PhyModel.Sweep
