import PhyModel.Model.Tree
import Mathlib.Data.List.Sort
/-! The sorting functions behind `Forest.canon`: `sortNat` (a clone's data list) is insertion sort;
`insertSorted` / `sortRoots` (sibling lists) insert by the sort key `rootKey`, and insertions with
different keys commute; the key of a top-level clone is the least data index of its clade.  After the
namespace `Orders.Forest`: `SortedK` (sibling list sorted by key), `insertSorted` / `sortRoots` produce a
`SortedK` list (`insertSorted_sorted`, `sortRoots_sorted`) and `sortRoots` fixes one (`sortRoots_of_sorted`). -/

namespace PhyModel
open Orders.Forest

/-! ### minima -/

/-- `v` is the minimum of `m` and the set `S` -/
def IsMinOf (S : ℕ → Prop) (m v : ℕ) : Prop := v ≤ m ∧ (∀ a, S a → v ≤ a) ∧ (v = m ∨ S v)

theorem IsMinOf.congr {S S' : ℕ → Prop} {m v : ℕ} (h : IsMinOf S m v) (hS : ∀ a, S a ↔ S' a) :
    IsMinOf S' m v :=
  ⟨h.1, fun a ha => h.2.1 a ((hS a).mpr ha), h.2.2.imp id (hS v).mp⟩

theorem IsMinOf.le {S : ℕ → Prop} {m v w : ℕ} (hv : IsMinOf S m v) (hw : IsMinOf S m w) : v ≤ w :=
  hw.2.2.elim (fun e => e ▸ hv.1) (hv.2.1 w)

theorem IsMinOf.unique {S S' : ℕ → Prop} {m v v' : ℕ} (h : IsMinOf S m v) (h' : IsMinOf S' m v')
    (hS : ∀ a, S a ↔ S' a) : v = v' :=
  Nat.le_antisymm ((h.congr hS).le h') (h'.le (h.congr hS))

theorem IsMinOf.or {S S' : ℕ → Prop} {m v w : ℕ} (h : IsMinOf S m v) (h' : IsMinOf S' v w) :
    IsMinOf (fun a => S a ∨ S' a) m w := by
  obtain ⟨h1, h2, h3⟩ := h
  obtain ⟨h1', h2', h3'⟩ := h'
  refine ⟨h1'.trans h1, fun a ha => ha.elim (fun ha => h1'.trans (h2 a ha)) (h2' a), ?_⟩
  rcases h3' with rfl | h3'
  · exact h3.imp id Or.inl
  · exact Or.inr (Or.inr h3')

namespace Orders.Forest

/-! ### `roots` / `ofRoots` -/

theorem ofRoots_roots (f : DF) : ofRoots (roots f) = f := by
  induction f with
  | nil => rfl
  | cons d k s _ ihs => simp only [roots, ofRoots, ihs]

theorem roots_ofRoots (l : List (List ℕ × DF)) : roots (ofRoots l) = l := by
  induction l with
  | nil => rfl
  | cons r l ih => obtain ⟨d, k⟩ := r; simp only [ofRoots, roots, ih]

/-! ### `sortNat` is insertion sort -/

theorem insertNat_eq (a : ℕ) (l : List ℕ) : insertNat a l = l.orderedInsert (· ≤ ·) a := by
  induction l with
  | nil => rfl
  | cons b l ih => simp only [insertNat, List.orderedInsert_cons, ih]

theorem sortNat_eq (l : List ℕ) : sortNat l = l.insertionSort (· ≤ ·) := by
  induction l with
  | nil => rfl
  | cons a l ih =>
    show insertNat a (sortNat l) = _
    rw [ih, insertNat_eq, List.insertionSort_cons]

theorem sortNat_perm (l : List ℕ) : (sortNat l).Perm l := by
  rw [sortNat_eq]; exact List.perm_insertionSort _ l

theorem sortNat_sorted (l : List ℕ) : (sortNat l).Pairwise (· ≤ ·) := by
  rw [sortNat_eq]; exact List.pairwise_insertionSort _ l

theorem mem_sortNat {a : ℕ} {l : List ℕ} : a ∈ sortNat l ↔ a ∈ l := (sortNat_perm l).mem_iff

theorem sortNat_perm_eq {d d' : List ℕ} (h : d.Perm d') : sortNat d = sortNat d' :=
  List.Perm.eq_of_pairwise' (r := (· ≤ ·)) (sortNat_sorted d) (sortNat_sorted d')
    ((sortNat_perm d).trans (h.trans (sortNat_perm d').symm))

theorem sortNat_of_sorted {l : List ℕ} (h : l.Pairwise (· ≤ ·)) : sortNat l = l :=
  List.Perm.eq_of_pairwise' (r := (· ≤ ·)) (sortNat_sorted l) h (sortNat_perm l)

theorem sortNat_idem (l : List ℕ) : sortNat (sortNat l) = sortNat l :=
  sortNat_of_sorted (sortNat_sorted l)

theorem filter_sortNat (keep : ℕ → Bool) (l : List ℕ) :
    (sortNat l).filter keep = sortNat (l.filter keep) :=
  List.Perm.eq_of_pairwise' (r := (· ≤ ·)) ((sortNat_sorted l).filter keep) (sortNat_sorted _)
    (((sortNat_perm l).filter keep).trans (sortNat_perm _).symm)

/-! ### `insertSorted`, `sortRoots` -/

theorem insertSorted_eq (r : List ℕ × DF) (l : List (List ℕ × DF)) :
    insertSorted r l = l.orderedInsert (fun a b => rootKey a ≤ rootKey b) r := by
  induction l with
  | nil => rfl
  | cons x l ih => simp only [insertSorted, List.orderedInsert_cons, ih]

theorem sortRoots_eq (l : List (List ℕ × DF)) :
    sortRoots l = l.insertionSort fun a b => rootKey a ≤ rootKey b := by
  induction l with
  | nil => rfl
  | cons x l ih =>
    show insertSorted x (sortRoots l) = _
    rw [ih, insertSorted_eq, List.insertionSort_cons]

theorem insertSorted_perm (r : List ℕ × DF) (l : List (List ℕ × DF)) :
    (insertSorted r l).Perm (r :: l) := by
  rw [insertSorted_eq]; exact List.perm_orderedInsert _ r l

theorem mem_insertSorted {r y : List ℕ × DF} {l : List (List ℕ × DF)} :
    y ∈ insertSorted r l ↔ y = r ∨ y ∈ l := by
  rw [insertSorted_eq]; exact List.mem_orderedInsert _

theorem perm_sortRoots (l : List (List ℕ × DF)) : (sortRoots l).Perm l := by
  rw [sortRoots_eq]; exact List.perm_insertionSort _ l

theorem insertSorted_comm_of_lt {a b : List ℕ × DF} (h : rootKey a < rootKey b)
    (l : List (List ℕ × DF)) :
    insertSorted a (insertSorted b l) = insertSorted b (insertSorted a l) := by
  have h' : ¬ rootKey b ≤ rootKey a := Nat.not_le.mpr h
  induction l with
  | nil => simp only [insertSorted, if_pos h.le, if_neg h']
  | cons x l ih =>
    by_cases hb : rootKey b ≤ rootKey x
    · simp only [insertSorted, if_pos hb, if_pos h.le, if_pos (h.le.trans hb), if_neg h']
    · by_cases ha : rootKey a ≤ rootKey x
      · simp only [insertSorted, if_neg hb, if_pos ha, if_neg h']
      · simp only [insertSorted, if_neg hb, if_neg ha, ih]

theorem insertSorted_comm (a b : List ℕ × DF) (hk : rootKey a ≠ rootKey b)
    (l : List (List ℕ × DF)) :
    insertSorted a (insertSorted b l) = insertSorted b (insertSorted a l) :=
  (Nat.lt_or_gt_of_ne hk).elim (insertSorted_comm_of_lt · l) fun h => (insertSorted_comm_of_lt h l).symm

/-- insertion sort by key is invariant under permutations of a list whose keys are distinct -/
theorem sortRoots_perm (l l' : List (List ℕ × DF)) (hp : l.Perm l')
    (hinj : ∀ a ∈ l, ∀ b ∈ l, rootKey a = rootKey b → a = b) :
    sortRoots l = sortRoots l' := by
  unfold sortRoots
  apply hp.foldr_eq'
  intro x hx y hy z
  by_cases hxy : x = y
  · rw [hxy]
  · exact insertSorted_comm y x (fun h => hxy (hinj y hy x hx h).symm) z

/-! ### the sort key is the least data index of the clade (or the sentinel `big`)

`big` (`Model/Tree.lean`, `10^9`) is the value `rootKey` starts its minimum from; it stands for `math.inf` in
`cl_min` of the harness's `canon_forest` (`harness/common.py`), whence the hypotheses `a < big`. -/

theorem listMin_spec (l : List ℕ) (m : ℕ) : IsMinOf (· ∈ l) m (listMin l m) := by
  induction l generalizing m with
  | nil => exact ⟨Nat.le_refl _, fun a ha => absurd ha List.not_mem_nil, Or.inl rfl⟩
  | cons a l ih =>
    have h : IsMinOf (· = a) m (if a < m then a else m) := by
      split
      · next h => exact ⟨h.le, fun b hb => hb.ge, Or.inr rfl⟩
      · next h => exact ⟨Nat.le_refl _, fun b hb => hb ▸ Nat.le_of_not_lt h, Or.inl rfl⟩
    exact (h.or (ih _)).congr fun b => List.mem_cons.symm

theorem minDp_spec (f : DF) (m : ℕ) : IsMinOf (· ∈ f.all) m (minDp f m) := by
  induction f generalizing m with
  | nil => exact ⟨Nat.le_refl _, fun a ha => absurd ha List.not_mem_nil, Or.inl rfl⟩
  | cons d k s ihk ihs =>
    exact (((listMin_spec d m).or (ihk _)).or (ihs _)).congr fun a => by
      simp only [Forest.all, List.mem_append, or_comm]

def clade (r : List ℕ × DF) : List ℕ := r.2.all ++ r.1

theorem rootKey_spec (r : List ℕ × DF) : IsMinOf (· ∈ clade r) big (rootKey r) :=
  ((listMin_spec r.1 big).or (minDp_spec r.2 _)).congr fun a => by
    simp only [clade, List.mem_append, or_comm]

theorem rootKey_congr {r r' : List ℕ × DF} (h : ∀ a, a ∈ clade r ↔ a ∈ clade r') :
    rootKey r = rootKey r' :=
  (rootKey_spec r).unique (rootKey_spec r') h

theorem rootKey_mem {r : List ℕ × DF} (hne : r.1 ≠ []) (hb : ∀ a ∈ clade r, a < big) :
    rootKey r ∈ clade r := by
  rcases (rootKey_spec r).2.2 with h | h
  · obtain ⟨a, ha⟩ := List.exists_mem_of_ne_nil _ hne
    have hm : a ∈ clade r := List.mem_append_right _ ha
    exact absurd (h ▸ (rootKey_spec r).2.1 a hm) (Nat.not_le.mpr (hb a hm))
  · exact h

end Orders.Forest

/-- sorted by key -/
def SortedK (l : List (List ℕ × DF)) : Prop := l.Pairwise fun a b => rootKey a ≤ rootKey b

theorem insertSorted_sorted (r : List ℕ × DF) (l : List (List ℕ × DF)) (h : SortedK l) :
    SortedK (insertSorted r l) := by
  have : Std.Total fun a b : List ℕ × DF => rootKey a ≤ rootKey b := ⟨fun _ _ => Nat.le_total _ _⟩
  have : IsTrans _ fun a b : List ℕ × DF => rootKey a ≤ rootKey b := ⟨fun _ _ _ => Nat.le_trans⟩
  rw [insertSorted_eq]; exact List.Pairwise.orderedInsert r l h

theorem sortRoots_sorted (l : List (List ℕ × DF)) : SortedK (sortRoots l) := by
  induction l with
  | nil => exact List.Pairwise.nil
  | cons a l ih => exact insertSorted_sorted a _ ih

theorem sortRoots_of_sorted (l : List (List ℕ × DF)) (h : SortedK l) : sortRoots l = l := by
  rw [sortRoots_eq]; exact List.Pairwise.insertionSort_eq h

end PhyModel
