import PhyModel.Model.MapSpec
import Mathlib.Algebra.Order.Field.Rat
import Mathlib.Algebra.Order.Field.Basic
import Mathlib.Tactic.Ring
/-! Helper lemmas for C10 on the specification side: the checker `evalM` of `MapDP` agrees with the
structural specification (`Feasible`, `topTotal`, `objective`), and the clonal-prevalence fold is CCF
minus the CCF of the children's total. -/
namespace PhyModel.MapDP

theorem evalM_eq : ∀ (f : Forest) (a : List ℕ),
    evalM f a = if Feasible f a then some (topTotal f a, objective f a) else none := by
  intro f
  induction f with
  | nil => exact fun a => (if_pos trivial).symm
  | cons p k s ihk ihs =>
    intro a
    cases a with
    | nil => exact (if_neg id).symm
    | cons i rest =>
      rw [evalM, ihk, ihs]
      by_cases hk : Feasible k (rest.take k.size)
      · by_cases hs : Feasible s (rest.drop k.size)
        · by_cases hle : topTotal k (rest.take k.size) ≤ i
          · rw [if_pos hk, if_pos hs]
            exact (if_pos hle).trans (if_pos ⟨hle, hk, hs⟩).symm
          · rw [if_pos hk, if_pos hs]
            exact (if_neg hle).trans (if_neg fun h => hle h.1).symm
        · rw [if_pos hk, if_neg hs]
          exact (if_neg fun h => hs h.2.2).symm
      · rw [if_neg hk]
        exact (if_neg fun h => hk h.2.1).symm

theorem sum_topIdx : ∀ (f : Forest) (a : List ℕ), (topIdx f a).sum = topTotal f a := by
  intro f
  induction f with
  | nil =>
    intro a
    rfl
  | cons p k s _ ihs =>
    intro a
    cases a with
    | nil => rfl
    | cons i rest => exact congrArg (i + ·) (ihs _)

theorem ccf_add (G a b : ℕ) : ccf G (a + b) = ccf G a + ccf G b := by
  unfold ccf
  rw [Nat.cast_add, add_div]

theorem foldl_sub_ccf (G : ℕ) (l : List ℕ) (x : ℚ) :
    l.foldl (fun acc c => acc - ccf G c) x = x - ccf G l.sum := by
  induction l generalizing x with
  | nil => exact (sub_eq_self.mpr (zero_div _)).symm
  | cons c l ih => rw [List.foldl_cons, ih, List.sum_cons, ccf_add, sub_sub]

theorem ccf_mono (G : ℕ) (hG : 1 ≤ G) {a b : ℕ} (h : a ≤ b) : ccf G a ≤ ccf G b :=
  div_le_div_of_nonneg_right (Nat.cast_le.mpr h) (sub_nonneg.mpr (Nat.one_le_cast.mpr hG))

end PhyModel.MapDP
