import PhyModel.Proofs.MovesDist
import PhyModel.Proofs.Gibbs
/-! List-level Gibbs kernels (no `Fintype`).  A kernel that redraws the state from a candidate list in
proportion to the weights leaves them invariant as soon as the candidate lists form blocks (the
candidates of a candidate are a permutation of the original candidates).  Invariance of kernels
`X → Dist X` on a finite state list is stated in expectation form (`Inv`); it is closed under composition,
splitting of the state list, identity, and label-indexed uniform mixtures. -/
namespace PhyModel
open Dist

namespace Gibbs
variable {X : Type}

/-- the Gibbs kernel over a candidate list -/
def gibbsK (w : X → ℚ) (cs : List X) : Dist X := Dist.categorical (cs.map fun t => (t, w t))

theorem E_gibbsK (w : X → ℚ) (cs : List X) (h : X → ℚ) :
    E (gibbsK w cs) h = lsum cs (fun t => w t * h t) / lsum cs w := by
  unfold gibbsK
  rw [E_categorical, lsum_map, lsum_map]

theorem lsum_perm {α : Type} {l l' : List α} (hp : l.Perm l') (g : α → ℚ) : lsum l g = lsum l' g := by
  unfold lsum; exact (hp.map g).sum_eq

/-- block structure of a candidate function on the state list `S` -/
structure Block (S : List X) (cands : X → List X) : Prop where
  self : ∀ x ∈ S, x ∈ cands x
  nodup : ∀ x ∈ S, (cands x).Nodup
  closed : ∀ x ∈ S, ∀ y ∈ cands x, y ∈ S
  perm : ∀ x ∈ S, ∀ y ∈ cands x, (cands y).Perm (cands x)

theorem Block.symm {S : List X} {cands : X → List X} (hB : Block S cands) {x y : X}
    (hx : x ∈ S) (hy : y ∈ cands x) : x ∈ cands y :=
  (hB.perm x hx y hy).mem_iff.mpr (hB.self x hx)

theorem Block.of_mem {S : List X} {cands : X → List X} (h : ∀ z ∈ S, Block S cands) : Block S cands :=
  ⟨fun x hx => (h x hx).self x hx, fun x hx => (h x hx).nodup x hx, fun x hx => (h x hx).closed x hx,
    fun x hx => (h x hx).perm x hx⟩

section
variable [DecidableEq X]

theorem lsum_eq_sum {l : List X} (hl : l.Nodup) (g : X → ℚ) : lsum l g = ∑ x ∈ l.toFinset, g x := by
  unfold lsum; rw [List.sum_toFinset g hl]

theorem lsum_mul_indicator {l : List X} (hl : l.Nodup) (g : X → ℚ) (y : X) :
    lsum l (fun t => g t * if t = y then 1 else 0) = if y ∈ l then g y else 0 := by
  rw [lsum_eq_sum hl]
  simp only [mul_ite, mul_one, mul_zero, Finset.sum_ite_eq', List.mem_toFinset]

instance (S : List X) (cands : X → List X) : Decidable (Block S cands) :=
  decidable_of_iff ((∀ x ∈ S, x ∈ cands x) ∧ (∀ x ∈ S, (cands x).Nodup) ∧
    (∀ x ∈ S, ∀ y ∈ cands x, y ∈ S) ∧ (∀ x ∈ S, ∀ y ∈ cands x, (cands y).Perm (cands x)))
    ⟨fun h => ⟨h.1, h.2.1, h.2.2.1, h.2.2.2⟩, fun h => ⟨h.1, h.2, h.3, h.4⟩⟩

/-- probability of moving to `y` -/
def prob (d : Dist X) (y : X) : ℚ := E d (fun t => if t = y then 1 else 0)

/-- Invariance of the Gibbs kernel, in expectation form, for the measure `r x * w x` where `r` is
constant on blocks (`r = 1` for the plain statement; `r` = probability of the choice that selected
the block for mixtures). -/
theorem gibbs_list_invariant (S : List X) (hS : S.Nodup) (cands : X → List X) (w r : X → ℚ)
    (hw : ∀ x ∈ S, 0 ≤ w x) (hB : Block S cands)
    (hr : ∀ x ∈ S, ∀ y ∈ cands x, r y = r x) (h : X → ℚ) :
    lsum S (fun x => r x * w x * E (gibbsK w (cands x)) h) = lsum S (fun x => r x * w x * h x) := by
  let C : X → Finset X := fun x => (cands x).toFinset
  let W : X → ℚ := fun x => ∑ t ∈ C x, w t
  have hW : ∀ t ∈ S, ∀ x ∈ cands t, W x = W t := fun t ht x hx =>
    Finset.sum_congr (Finset.ext fun z => by
      simp only [C, List.mem_toFinset]; exact (hB.perm t ht x hx).mem_iff) fun _ _ => rfl
  rw [lsum_eq_sum hS, lsum_eq_sum hS]
  calc ∑ x ∈ S.toFinset, r x * w x * E (gibbsK w (cands x)) h
      = ∑ x ∈ S.toFinset, ∑ t ∈ C x, r x * w x * (w t * h t) / W x :=
        Finset.sum_congr rfl fun x hx => by
          have hn := hB.nodup x (List.mem_toFinset.mp hx)
          rw [E_gibbsK, lsum_eq_sum hn, lsum_eq_sum hn, ← mul_div_assoc, Finset.mul_sum, Finset.sum_div]
    _ = ∑ t ∈ S.toFinset, ∑ x ∈ C t, r x * w x * (w t * h t) / W x :=
        -- the pairs `(x, t)` with `t` a candidate of `x` are those with `x` a candidate of `t`
        Finset.sum_comm' fun x t => by
          simp only [C, List.mem_toFinset]
          exact ⟨fun ⟨hx, ht⟩ => ⟨hB.symm hx ht, hB.closed x hx t ht⟩,
            fun ⟨hx, ht⟩ => ⟨hB.closed t ht x hx, hB.symm ht hx⟩⟩
    _ = ∑ t ∈ S.toFinset, r t * w t * h t := Finset.sum_congr rfl fun t ht => by
        have ht := List.mem_toFinset.mp ht
        calc ∑ x ∈ C t, r x * w x * (w t * h t) / W x
            = ∑ x ∈ C t, r t * (w t * h t) / W t * w x := Finset.sum_congr rfl fun x hx => by
              have hx := List.mem_toFinset.mp hx
              rw [hW t ht x hx, hr t ht x hx]; ring
          _ = r t * (w t * h t) / W t * W t := (Finset.mul_sum _ _ _).symm
          _ = r t * w t * h t := by
            by_cases h0 : W t = 0
            · -- all weights of the block vanish, in particular `w t`
              have hle : w t ≤ W t := Finset.single_le_sum (f := w)
                (fun z hz => hw z (hB.closed t ht z (List.mem_toFinset.mp hz)))
                (List.mem_toFinset.mpr (hB.self t ht))
              rw [h0, le_antisymm (h0 ▸ hle) (hw t ht)]
              simp only [mul_zero, zero_mul]
            · rw [div_mul_cancel₀ _ h0, mul_assoc]

end

/-- `μ` is invariant for `K` on the state list `S`, tested against every function `h` -/
def Inv (S : List X) (μ : X → ℚ) (K : X → Dist X) : Prop :=
  ∀ h : X → ℚ, lsum S (fun x => μ x * E (K x) h) = lsum S (fun x => μ x * h x)

theorem Inv.congr {S : List X} {μ : X → ℚ} {K K' : X → Dist X} (hK : Inv S μ K)
    (he : ∀ x ∈ S, ∀ h, E (K' x) h = E (K x) h) : Inv S μ K' := by
  intro h
  rw [← hK h]; apply lsum_congr; intro x hx; rw [he x hx h]

/-- a kernel that does nothing on `S` is invariant -/
theorem Inv.of_id {S : List X} {μ : X → ℚ} {K : X → Dist X}
    (he : ∀ x ∈ S, ∀ h, E (K x) h = h x) : Inv S μ K := by
  intro h; apply lsum_congr; intro x hx; rw [he x hx h]

theorem Inv.pure (S : List X) (μ : X → ℚ) : Inv S μ Dist.pure :=
  Inv.of_id fun x _ h => E_pure x h

/-- sequential composition -/
theorem Inv.comp {S : List X} {μ : X → ℚ} {K₁ K₂ : X → Dist X} (h₁ : Inv S μ K₁) (h₂ : Inv S μ K₂) :
    Inv S μ (fun x => Dist.bind (K₁ x) K₂) := by
  intro h
  simp only [E_bind]
  rw [h₁ (fun y => E (K₂ y) h), h₂ h]

/-- any finite sequence of invariant kernels, applied one after the other -/
def seqK : List (X → Dist X) → X → Dist X
  | [], x => Dist.pure x
  | K :: Ks, x => Dist.bind (K x) (seqK Ks)

theorem Inv.seq {S : List X} {μ : X → ℚ} (Ks : List (X → Dist X)) (h : ∀ K ∈ Ks, Inv S μ K) :
    Inv S μ (seqK Ks) := by
  induction Ks with
  | nil => exact Inv.pure S μ
  | cons K Ks ih =>
    exact Inv.comp (h K List.mem_cons_self) (ih fun K' hK' => h K' (List.mem_cons_of_mem _ hK'))

/-- target form: the mass flowing into `y` is the mass of `y` -/
theorem Inv.target [DecidableEq X] {S : List X} {μ : X → ℚ} {K : X → Dist X} (hK : Inv S μ K)
    (hS : S.Nodup) {y : X} (hy : y ∈ S) : lsum S (fun x => μ x * prob (K x) y) = μ y :=
  (hK _).trans ((lsum_mul_indicator hS μ y).trans (if_pos hy))

theorem lsum_filter (S : List X) (p : X → Bool) (g : X → ℚ) :
    lsum (S.filter p) g = lsum S (fun x => if p x then g x else 0) := by
  induction S with
  | nil => rfl
  | cons a S ih =>
    by_cases hp : p a = true
    · rw [List.filter_cons_of_pos hp, lsum_cons, lsum_cons, if_pos hp, ih]
    · rw [List.filter_cons_of_neg hp, lsum_cons, if_neg hp, zero_add, ih]

/-- a kernel that is invariant on both halves of a split of the state list is invariant -/
theorem Inv.split {S : List X} {μ : X → ℚ} {K : X → Dist X} (p : X → Bool)
    (h₁ : Inv (S.filter p) μ K) (h₂ : Inv (S.filter fun x => !p x) μ K) : Inv S μ K := by
  have hadd : ∀ g : X → ℚ, lsum S g = lsum (S.filter p) g + lsum (S.filter fun x => !p x) g := by
    intro g
    rw [lsum_filter, lsum_filter, ← lsum_add]
    apply lsum_congr; intro x _
    cases p x
    · exact (zero_add _).symm
    · exact (add_zero _).symm
  intro h
  rw [hadd, hadd fun x => μ x * h x, h₁ h, h₂ h]

/-- A kernel that, on the states selected by `p`, redraws the state from the candidate list in
proportion to `w`, and does nothing elsewhere, leaves `r x * w x` invariant as soon as the candidate
lists form blocks on the selected states and `r` is constant on them. -/
theorem Inv.gibbs_or_id [DecidableEq X] {S : List X} {μ : X → ℚ} {K : X → Dist X} (hS : S.Nodup)
    (p : X → Bool) (cands : X → List X) (w r : X → ℚ) (hw : ∀ x ∈ S, 0 ≤ w x)
    (hB : Block (S.filter p) cands) (hr : ∀ x ∈ S.filter p, ∀ y ∈ cands x, r y = r x)
    (hμ : ∀ x ∈ S, μ x = r x * w x)
    (hK₁ : ∀ x ∈ S, p x = true → ∀ h, E (K x) h = E (gibbsK w (cands x)) h)
    (hK₀ : ∀ x ∈ S, p x = false → ∀ h, E (K x) h = h x) : Inv S μ K := by
  apply Inv.split p
  · intro h
    have hm : ∀ {x}, x ∈ S.filter p → x ∈ S ∧ p x = true := List.mem_filter.mp
    calc lsum (S.filter p) (fun x => μ x * E (K x) h)
        = lsum (S.filter p) (fun x => r x * w x * E (gibbsK w (cands x)) h) :=
          lsum_congr _ fun x hx => by rw [hμ x (hm hx).1, hK₁ x (hm hx).1 (hm hx).2 h]
      _ = lsum (S.filter p) (fun x => r x * w x * h x) :=
          gibbs_list_invariant _ (hS.filter p) cands w r (fun x hx => hw x (hm hx).1) hB hr h
      _ = lsum (S.filter p) (fun x => μ x * h x) :=
          lsum_congr _ fun x hx => by rw [hμ x (hm hx).1]
  · refine Inv.of_id fun x hx h => hK₀ x (List.mem_filter.mp hx).1 ?_ h
    exact (Bool.not_eq_true' _).mp (List.mem_filter.mp hx).2

theorem lsum_comm {α β : Type} (A : List α) (B : List β) (g : α → β → ℚ) :
    lsum A (fun a => lsum B (fun b => g a b)) = lsum B (fun b => lsum A (fun a => g a b)) := by
  induction A with
  | nil => simp only [lsum_nil, lsum_zero]
  | cons a A ih => simp only [lsum_cons, ih, lsum_add]

theorem length_cast_ne_zero {α : Type} {l : List α} (h : l ≠ []) : (l.length : ℚ) ≠ 0 :=
  Nat.cast_ne_zero.mpr (mt List.length_eq_zero_iff.mp h)

/-- uniform mixture over a finite family of invariant kernels (fixed index list) -/
theorem Inv.uniform_mix {S : List X} {μ : X → ℚ} {ι : Type} (I : List ι) (hI : I ≠ [])
    (K : ι → X → Dist X) (hK : ∀ i ∈ I, Inv S μ (K i)) :
    Inv S μ (fun x => Dist.bind (Dist.uniform I) fun i => K i x) := by
  intro h
  simp only [E_bind, E_uniform]
  calc lsum S (fun x => μ x * (1 / (I.length : ℚ) * lsum I fun i => E (K i x) h))
      = lsum S (fun x => lsum I fun i => 1 / (I.length : ℚ) * (μ x * E (K i x) h)) :=
        lsum_congr S fun x _ => by rw [lsum_mul_left, lsum_mul_left]; ring
    _ = lsum I (fun _ => 1 / (I.length : ℚ) * lsum S fun x => μ x * h x) := by
        rw [lsum_comm]
        exact lsum_congr I fun i hi => by rw [lsum_mul_left, hK i hi h]
    _ = lsum S fun x => μ x * h x := by
        rw [lsum_const, ← mul_assoc, mul_one_div_cancel (length_cast_ne_zero hI), one_mul]

variable {L : Type} [DecidableEq L] [DecidableEq X]

/-- exchange a state sum with a state-dependent label sum -/
theorem lsum_label_swap {S : List X} (hS : S.Nodup) (lab : X → List L) (has : L → X → Bool)
    (hhas : ∀ ℓ x, has ℓ x = true ↔ ℓ ∈ lab x) (hnd : ∀ x ∈ S, (lab x).Nodup) (e : X → L → ℚ) :
    lsum S (fun x => lsum (lab x) (fun ℓ => e x ℓ))
      = ∑ ℓ ∈ (S.flatMap lab).toFinset, lsum (S.filter (has ℓ)) (fun x => e x ℓ) :=
  calc lsum S (fun x => lsum (lab x) (fun ℓ => e x ℓ))
      = ∑ x ∈ S.toFinset, ∑ ℓ ∈ (lab x).toFinset, e x ℓ := by
        rw [lsum_eq_sum hS]
        exact Finset.sum_congr rfl fun x hx => lsum_eq_sum (hnd x (List.mem_toFinset.mp hx)) _
    _ = ∑ ℓ ∈ (S.flatMap lab).toFinset, ∑ x ∈ (S.filter (has ℓ)).toFinset, e x ℓ :=
        Finset.sum_comm' fun x ℓ => by
          simp only [List.mem_toFinset, List.mem_filter, List.mem_flatMap, hhas]
          exact ⟨fun ⟨hx, hℓ⟩ => ⟨⟨hx, hℓ⟩, x, hx, hℓ⟩, fun ⟨h, _⟩ => h⟩
    _ = _ := Finset.sum_congr rfl fun ℓ _ => (lsum_eq_sum (hS.filter _) _).symm

/-- label-indexed uniform mixture: from state `x` pick a label uniformly from `lab x`, then apply
the kernel of that label.  If, for every label `ℓ`, the kernel of `ℓ` leaves `π x / |lab x|`
invariant on the states that carry `ℓ` (`has ℓ` tests this), the mixture leaves `π` invariant. -/
theorem Inv.label_mix {S : List X} {π : X → ℚ} (hS : S.Nodup) (lab : X → List L) (has : L → X → Bool)
    (hhas : ∀ ℓ x, has ℓ x = true ↔ ℓ ∈ lab x) (R : X → L → Dist X)
    (hnd : ∀ x ∈ S, (lab x).Nodup) (hne : ∀ x ∈ S, lab x ≠ [])
    (hR : ∀ ℓ, Inv (S.filter (has ℓ)) (fun x => π x / ((lab x).length : ℚ)) (fun x => R x ℓ)) :
    Inv S π (fun x => Dist.bind (Dist.uniform (lab x)) (R x)) := by
  intro h
  simp only [E_bind, E_uniform]
  calc lsum S (fun x => π x * (1 / ((lab x).length : ℚ) * lsum (lab x) fun ℓ => E (R x ℓ) h))
      = lsum S (fun x => lsum (lab x) fun ℓ => π x / ((lab x).length : ℚ) * E (R x ℓ) h) :=
        lsum_congr S fun x _ => by rw [lsum_mul_left]; ring
    _ = lsum S (fun x => lsum (lab x) fun _ => π x / ((lab x).length : ℚ) * h x) := by
        rw [lsum_label_swap hS lab has hhas hnd, lsum_label_swap hS lab has hhas hnd]
        exact Finset.sum_congr rfl fun ℓ _ => hR ℓ h
    _ = lsum S (fun x => π x * h x) :=
        lsum_congr S fun x hx => by
          rw [lsum_const, ← mul_assoc, mul_div_cancel₀ _ (length_cast_ne_zero (hne x hx))]

end Gibbs
end PhyModel
