import PhyModel.Proofs.GraphOfRemove
import PhyModel.Proofs.StoreWF_getSub
/-! The structural subtree `SF.findSub` of the store model is a correct abstraction of the graph-level
`get_subtree` (`gGetSubtree`): on the graph of a structural forest with distinct non-zero indices the
graph operation returns the graph of the structural subtree with its indices renamed
(`graph_getSubtree`).  `Store.getSubtree` re-indexes the extracted subtree from 1 in preorder
(`reindex … 1`); that is the renaming `reindexMap`, which is a legitimate numbering for `subgraph` +
`compose` (injective on the subtree, never 0): `graph_getSubtree_struct`, and for the whole
`Store.getSubtree` with the renaming handed over as an association list, `graph_store_getSubtree`. -/
namespace PhyModel.Graph
open PhyModel.Store

/-- the edges of the graph between nodes reachable from clone `i` are the edges of the structural
subtree -/
theorem filter_edgesOf_perm {f : SF} {i : Nat} {x : NodeRec × SF} (hn : f.idxs.Nodup) (h0 : 0 ∉ f.idxs)
    (hx : f.findSub i = some x) {D : List Nat} (hD : ∀ v, v ∈ D ↔ Reach (graphOf f) i v) :
    ((Store.edgesOf 0 f).filter fun e => D.contains e.1 && D.contains e.2).Perm (Store.edgesOf i x.2) := by
  obtain ⟨-, -, hnx, -⟩ := mem_idxs_split hn hx
  have hD' : ∀ v, v ∈ D ↔ v = i ∨ v ∈ x.2.idxs := fun v => (hD v).trans (reach_graphOf_iff hn h0 hx v)
  rw [List.perm_ext_iff_of_nodup ((nodup_edgesOf hn 0).filter _) (nodup_edgesOf (List.nodup_cons.1 hnx).2 i)]
  intro e
  simp only [List.mem_filter, Bool.and_eq_true, List.contains_eq_mem, decide_eq_true_eq]
  constructor
  · rintro ⟨he, h1, h2⟩
    rcases (hD' e.2).1 h2 with h | h
    · exfalso
      have he' : (e.1, i) ∈ (graphOf f).edges := by rw [← h]; exact he
      exact (isForest_graphOf hn h0).not_reach_parent he' ((hD e.1).1 h1)
    · exact mem_edgesOf_of_sub hn (edgesOf_findSub_sub 0 hx) he h
  · intro he
    refine ⟨edgesOf_findSub_sub 0 hx e he, (hD' _).2 ?_, (hD' _).2 (.inr (edgesOf_snd he))⟩
    exact edgesOf_fst he

/-- the live nodes reachable from clone `i` are the clones of the structural subtree -/
theorem filter_nodes_perm {f : SF} {i : Nat} {x : NodeRec × SF} (hn : f.idxs.Nodup) (h0 : 0 ∉ f.idxs)
    (hx : f.findSub i = some x) {D : List Nat} (hD : ∀ v, v ∈ D ↔ Reach (graphOf f) i v) :
    ((0 :: f.idxs).filter D.contains).Perm (i :: x.2.idxs) := by
  obtain ⟨hm, -, hnx, -⟩ := mem_idxs_split hn hx
  have hD' : ∀ v, v ∈ D ↔ v = i ∨ v ∈ x.2.idxs := fun v => (hD v).trans (reach_graphOf_iff hn h0 hx v)
  rw [List.perm_ext_iff_of_nodup ((List.nodup_cons.2 ⟨h0, hn⟩).filter _) hnx]
  intro v
  simp only [List.mem_filter, List.contains_eq_mem, decide_eq_true_eq, hD', List.mem_cons]
  exact ⟨fun h => h.2, fun h => ⟨.inr ((hm v).2 (.inl h)), h⟩⟩

/-- **the structural subtree is the graph-level `get_subtree`**: on the graph of a structural forest,
with indices for the copies that do not collide on the subtree and are never 0, the graph operation
succeeds and returns the graph of the subtree `findSub` gives, renamed -/
theorem graph_getSubtree {f : SF} {i : Nat} {x : NodeRec × SF} {ρ₁ ρ₂ : Nat → Nat} (hn : f.idxs.Nodup)
    (h0 : 0 ∉ f.idxs) (hx : f.findSub i = some x)
    (hinj : ∀ a ∈ i :: x.2.idxs, ∀ b ∈ i :: x.2.idxs, ρ₂ (ρ₁ a) = ρ₂ (ρ₁ b) → a = b)
    (hne0 : ∀ a ∈ i :: x.2.idxs, ρ₂ (ρ₁ a) ≠ 0) :
    ∃ g', gGetSubtree (graphOf f) i ρ₁ ρ₂ = some g' ∧
      g'.nodes.Perm (graphOf (mapIdx (fun a => ρ₂ (ρ₁ a)) (.cons x.1 x.2 .nil))).nodes ∧
      g'.edges.Perm (graphOf (mapIdx (fun a => ρ₂ (ρ₁ a)) (.cons x.1 x.2 .nil))).edges := by
  have hxi : x.1.idx = i := (SF.findSub_some hx).1
  have hi : i ∈ f.idxs := ((mem_idxs_split hn hx).1 i).2 (.inl (.inl rfl))
  have hr : i ∈ (graphOf f).nodes := List.mem_cons_of_mem _ hi
  have hR : ∀ v, Reach (graphOf f) i v → v ∈ i :: x.2.idxs := fun v hv =>
    List.mem_cons.2 ((reach_graphOf_iff hn h0 hx v).1 hv)
  have hsome : (gGetSubtree (graphOf f) i ρ₁ ρ₂).isSome = true := by
    exact gGetSubtree_isSome hr (fun a _ b _ ha hb hab => hinj a (hR a ha) b (hR b hb) hab)
      (fun a _ ha => hne0 a (hR a ha)) (List.nodup_cons.2 ⟨h0, hn⟩)
  obtain ⟨g', hg'⟩ := Option.isSome_iff_exists.1 hsome
  obtain ⟨D, -, hD, hnodes, hedges, -, -, -⟩ := gGetSubtree_spec hg'
  refine ⟨g', hg', ?_, ?_⟩
  · rw [hnodes, List.map_map]
    simp only [graphOf_nodes, mapIdx_cons, mapIdx_nil, SF.idxs_cons, SF.idxs_nil, List.append_nil, idxs_mapIdx, hxi]
    exact List.Perm.cons 0 ((filter_nodes_perm hn h0 hx hD).map _)
  · rw [hedges]
    simp only [graphOf_edges, mapIdx_cons, mapIdx_nil, edgesOf_cons, edgesOf_nil, List.append_nil, hxi]
    rw [edgesOf_mapIdx (fun a => ρ₂ (ρ₁ a)) x.2 i]
    exact (List.perm_append_singleton _ _).trans (List.Perm.cons _ ((filter_edgesOf_perm hn h0 hx hD).map _))

/-! ### `get_subtree` with the indices the structural operation chooses -/

theorem graph_getSubtree_reindex {f : SF} {i : Nat} {x : NodeRec × SF} {ρ₂ : Nat → Nat} (hn : f.idxs.Nodup)
    (h0 : 0 ∉ f.idxs) (hx : f.findSub i = some x)
    (hρ : ∀ a ∈ i :: x.2.idxs, ρ₂ a = reindexMap (.cons x.1 x.2 .nil) 1 a) :
    ∃ g', gGetSubtree (graphOf f) i id ρ₂ = some g' ∧
      g'.nodes.Perm (graphOf (Store.reindex (.cons x.1 x.2 .nil) 1).1).nodes ∧
      g'.edges.Perm (graphOf (Store.reindex (.cons x.1 x.2 .nil) 1).1).edges := by
  have hxi := (SF.findSub_some hx).1
  have hidx : (SF.cons x.1 x.2 .nil).idxs = i :: x.2.idxs := by simp [hxi]
  have hnd : (SF.cons x.1 x.2 .nil).idxs.Nodup := hidx ▸ (mem_idxs_split hn hx).2.2.1
  have := graph_getSubtree (ρ₁ := id) (ρ₂ := ρ₂) hn h0 hx
    (fun a ha b hb h => reindexMap_inj (hidx ▸ ha) (hρ a ha ▸ hρ b hb ▸ h))
    (fun a ha h => by have := le_reindexMap (.cons x.1 x.2 .nil) 1 a; rw [id, hρ a ha] at h; omega)
  rw [reindex_eq_mapIdx 1 hnd, ← mapIdx_congr _ fun a ha => hρ a (hidx ▸ ha)]
  exact this

theorem graph_getSubtree_struct {f : SF} {i : Nat} {x : NodeRec × SF} (hn : f.idxs.Nodup) (h0 : 0 ∉ f.idxs)
    (hx : f.findSub i = some x) :
    ∃ g', gGetSubtree (graphOf f) i id (reindexMap (.cons x.1 x.2 .nil) 1) = some g' ∧
      g'.nodes.Perm (graphOf (Store.reindex (.cons x.1 x.2 .nil) 1).1).nodes ∧
      g'.edges.Perm (graphOf (Store.reindex (.cons x.1 x.2 .nil) 1).1).edges :=
  graph_getSubtree_reindex hn h0 hx fun _ _ => rfl

/-! ### the whole `Store.getSubtree` -/

/-- `get_subtree(root)` is a copy -/
theorem graph_store_getSubtree_root {dt : Data} {s r : Store} (h : s.getSubtree dt none = some r) :
    gCopy (graphOf s.forest) = graphOf r.forest := by
  simp only [Store.getSubtree, Option.some.injEq] at h
  subst h; rfl

/-- **`Tree.get_subtree(clone)` of the store model is `gGetSubtree`**: `subgraph` keeps the indices
(`ren []`), `compose` numbers the copy from 1 in preorder (`m₂`: the association list of `reindexMap`). -/
theorem graph_store_getSubtree {dt : Data} {s r : Store} {name : Int} (hwf : WF s)
    (h : s.getSubtree dt (some name) = some r) :
    ∃ i m₂ g', gGetSubtree (graphOf s.forest) i (ren []) (ren m₂) = some g' ∧ GEquiv g' (graphOf r.forest) := by
  obtain ⟨i, x, _, hx, rfl⟩ := getSubtree_unf h
  -- `ren []` is the identity
  obtain ⟨g', hg, hnodes, hedges⟩ := graph_getSubtree_reindex
    (ρ₂ := ren ((i :: x.2.idxs).map fun a => (a, reindexMap (.cons x.1 x.2 .nil) 1 a)))
    hwf.idxs_nodup (WF.zero_notMem hwf) hx fun a ha => ren_alist _ ha
  refine ⟨i, _, g', hg, ?_⟩
  show GEquiv g' (graphOf (updAll dt (Store.reindex (.cons x.1 x.2 .nil) 1).1))
  rw [graphOf_updAll]
  exact ⟨hnodes, hedges⟩

/-! ### non-vacuity: five clones, depth 3; the subtree of clone 4 is three levels deep -/

private def nr (i : Nat) : NodeRec := { idx := i, name := i, dps := [i], p := [], r := [] }

private def f5 : SF :=
  .cons (nr 5) .nil (.cons (nr 4) (.cons (nr 2) (.cons (nr 1) .nil .nil) (.cons (nr 3) .nil .nil)) .nil)

/-- the hypotheses of `graph_getSubtree` hold for `f5`, clone 4 and the numbering `a ↦ (a - 1) + 1`
on the subtree `{4, 2, 1, 3}`, and this is what the graph operation and the renamed structural subtree
evaluate to (`subgraph` lists the copies in the order of the live list, the structural side in preorder) -/
example : f5.idxs.Nodup ∧ 0 ∉ f5.idxs ∧ ((f5.findSub 4).map fun x => (x.1.idx, x.2.idxs)) = some (4, [2, 1, 3]) ∧
    (∀ a ∈ [4, 2, 1, 3], ∀ b ∈ [4, 2, 1, 3], (a - 1) + 1 = (b - 1) + 1 → a = b) ∧
    (∀ a ∈ [4, 2, 1, 3], (a - 1) + 1 ≠ 0) ∧
    graphOf f5 = { nodes := [0, 5, 4, 2, 1, 3], edges := [(0, 5), (0, 4), (4, 2), (2, 1), (4, 3)] } ∧
    gGetSubtree (graphOf f5) 4 (fun a => a - 1) (fun a => a + 1) =
      some { nodes := [0, 4, 2, 1, 3], edges := [(4, 2), (2, 1), (4, 3), (0, 4)] } ∧
    ((f5.findSub 4).map fun x => graphOf (mapIdx (fun a => (a - 1) + 1) (.cons x.1 x.2 .nil))) =
      some { nodes := [0, 4, 2, 1, 3], edges := [(0, 4), (4, 2), (2, 1), (4, 3)] } ∧
    gGetSubtree (graphOf f5) 2 (fun a => a + 5) (fun a => a + 1) =
      some { nodes := [0, 8, 7], edges := [(8, 7), (0, 8)] } ∧
    ((f5.findSub 2).map fun x => graphOf (mapIdx (fun a => (a + 5) + 1) (.cons x.1 x.2 .nil))) =
      some { nodes := [0, 8, 7], edges := [(0, 8), (8, 7)] } := by
  decide +kernel

open C07Ex in
/-- `t2` (clone 1 = index 2 above clone 0 = index 1): `get_subtree(0)` gives `sub`, whose removal gives
`t3`; the graph operations on the graph of `t2` give the graphs of `sub` and `t3` -/
example : WF t2 ∧ t2.getSubtree dt (some 0) ≠ none ∧
    graphOf t2.forest = ⟨[0, 2, 1], [(0, 2), (2, 1)]⟩ ∧
    gGetSubtree (graphOf t2.forest) 1 (ren []) (ren [(1, 1)]) = some (graphOf sub.forest) ∧
    Store.keyEq sub t2 = false ∧ (t2.removeSubtree dt sub).map (fun s => graphOf s.forest) = some (graphOf t3.forest) ∧
    gRemoveSubtree (graphOf t2.forest) 1 = some (graphOf t3.forest) := by
  decide +kernel

end PhyModel.Graph
