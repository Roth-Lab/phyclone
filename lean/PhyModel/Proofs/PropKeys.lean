import PhyModel.Proofs.PropCanon
import PhyModel.Proofs.CanonEqv
import Mathlib.Data.List.Pairwise
/-! `DistinctKeys` holds for every forest with distinct data points and non-empty top-level clones
(data indices below the sentinel `big`): the sort key of a clone is the smallest data index of its
clade, and canonicalisation does not change the set of data of a clade. -/

namespace PhyModel
open Orders Orders.Forest Proposal

theorem all_eq_flatMap_roots (f : DF) : f.all = f.roots.flatMap (fun x => x.2.all ++ x.1) := by
  induction f with
  | nil => rfl
  | cons d k s _ ihs => simp only [Forest.all, roots, List.flatMap_cons, ihs]

theorem mem_all_iff_roots (f : DF) (a : ℕ) :
    a ∈ f.all ↔ ∃ x ∈ f.roots, a ∈ x.1 ∨ a ∈ x.2.all := by
  rw [all_eq_flatMap_roots]
  simp only [List.mem_flatMap, List.mem_append, or_comm]

theorem mem_canon_all (f : DF) : ∀ a, a ∈ (canon f).all ↔ a ∈ f.all :=
  fun _ => (Canon.canon_all_perm f).mem_iff

/-- canonicalising a top-level clone does not change its sort key -/
theorem rootKey_cn (x : List ℕ × DF) : rootKey (cn x) = rootKey x := Canon.rootKey_canon x.1 x.2

/-- distinct data points, non-empty top-level clones, indices below the sentinel ⇒ distinct keys -/
theorem Proposal.distinctKeys_of_nodup (f : DF) (hnd : f.all.Nodup)
    (hne : ∀ x ∈ f.roots, x.1 ≠ []) (hbig : ∀ a ∈ f.all, a < big) : DistinctKeys f.roots := by
  unfold DistinctKeys
  simp only [rootKey_cn]
  rw [all_eq_flatMap_roots] at hnd hbig
  -- the key of a top-level clone lies in its clade, and the clades are disjoint
  have hin : ∀ x ∈ f.roots, rootKey x ∈ clade x := fun x hx =>
    rootKey_mem (hne x hx) fun a ha => hbig a (List.mem_flatMap.mpr ⟨x, hx, ha⟩)
  rw [List.nodup_flatMap] at hnd
  unfold List.Nodup
  rw [List.pairwise_map]
  apply hnd.2.imp_of_mem
  intro x y hx hy hdis heq
  exact hdis (hin x hx) (heq ▸ hin y hy)

end PhyModel
