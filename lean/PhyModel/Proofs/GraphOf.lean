import PhyModel.Proofs.GraphClosure
import PhyModel.Proofs.StoreWF_SF2
import PhyModel.Proofs.StoreWF_dictRT
/-! Link between the structural forest of the store model (`Model/Store.lean`, `SF`) and the digraph
model (`Model/Graph.lean`): `graphOf f` has the live set `0 :: f.idxs` and the edge list
`Store.edgesOf 0 f` (what `to_dict` stores).  For a forest with distinct non-zero graph indices it
satisfies `IsForest` — the shape facts that are structural in `SF` are theorems about its graph.
Graphs are compared up to the order of the two lists (`GEquiv`).  The second half is about renaming the
graph indices of a forest (`mapIdx`): `Store.reindex`, which hands out fresh indices `c, c+1, …` in
preorder, is the renaming "`c +` position in preorder" (`reindexMap`), injective on the indices of the
forest and sending an index outside the forest (the dummy root 0 of the graph of a subtree) to the
further fresh index `c + numNodes`. -/
namespace PhyModel.Graph
open PhyModel.Store

/-- the graph of a structural forest: virtual root 0, one edge parent → child per clone -/
def graphOf (f : SF) : DG := { nodes := 0 :: f.idxs, edges := Store.edgesOf 0 f }

@[simp] theorem edgesOf_nil (par : Nat) : Store.edgesOf par .nil = [] := rfl
@[simp] theorem edgesOf_cons (par : Nat) (n : NodeRec) (k s : SF) :
    Store.edgesOf par (.cons n k s) = (par, n.idx) :: (Store.edgesOf n.idx k ++ Store.edgesOf par s) := rfl

/-- every clone of `f` is reachable from the index its top-level clones hang under -/
theorem reach_edgesOf {E : DG} : ∀ (f : SF) (par : Nat), (∀ e ∈ Store.edgesOf par f, e ∈ E.edges) →
    ∀ v ∈ f.idxs, Reach E par v
  | .nil, _, _, v, hv => by simp at hv
  | .cons n k s, par, hsub, v, hv => by
    simp only [edgesOf_cons, List.mem_cons, List.mem_append, forall_eq_or_imp] at hsub
    obtain ⟨h1, h2⟩ := hsub
    simp only [SF.idxs_cons, List.mem_cons, List.mem_append] at hv
    rcases hv with rfl | hv | hv
    · exact Reach.single h1
    · exact Reach.head h1 (reach_edgesOf k n.idx (fun e he => h2 e (.inl he)) v hv)
    · exact reach_edgesOf s par (fun e he => h2 e (.inr he)) v hv

@[simp] theorem graphOf_nodes (f : SF) : (graphOf f).nodes = 0 :: f.idxs := rfl
@[simp] theorem graphOf_edges (f : SF) : (graphOf f).edges = Store.edgesOf 0 f := rfl

/-- **the graph of a structural forest with distinct non-zero indices is a rooted forest** -/
theorem isForest_graphOf {f : SF} (hn : f.idxs.Nodup) (h0 : 0 ∉ f.idxs) : IsForest (graphOf f) := by
  refine IsForest.of_targets_perm ?_ ?_ ?_ ?_ ?_
  · exact List.nodup_cons.2 ⟨h0, hn⟩
  · simp
  · exact fun e he => List.mem_cons.2 (edgesOf_fst he)
  · simp [DG.targets, edgesOf_map_snd]
  · intro v hv
    rcases List.mem_cons.1 hv with rfl | hv
    · exact .refl 0
    · exact reach_edgesOf f 0 (fun e he => he) v hv

theorem graphOf_nil : graphOf .nil = gInit := rfl

/-- graph index 0 is the virtual root's: no clone of a well-formed store has it -/
theorem WF.zero_notMem {s : Store} (h : WF s) : 0 ∉ s.forest.idxs := fun hm => by
  obtain ⟨n, hn, hn0⟩ := SF.mem_idxs.1 hm
  exact h.idx_pos n hn hn0

/-- the graph is determined by the edge list (the clones are its targets) -/
theorem graphOf_eq_of_edges {f f' : SF} (h : Store.edgesOf 0 f' = Store.edgesOf 0 f) :
    graphOf f' = graphOf f := by
  rw [graphOf, graphOf, h, ← edgesOf_map_snd f' 0, ← edgesOf_map_snd f 0, h]

/-! ### graphs up to the order of the node list and of the edge list -/

/-- same live set, same edge multiset -/
def GEquiv (a b : DG) : Prop := a.nodes.Perm b.nodes ∧ a.edges.Perm b.edges

/-- the graphs of the live handles -/
def graphsOf (sys : Store.Sys) : GSys := sys.map fun s => graphOf s.forest

theorem GEquiv.refl (a : DG) : GEquiv a a := ⟨.refl _, .refl _⟩
theorem GEquiv.symm {a b : DG} (h : GEquiv a b) : GEquiv b a := ⟨h.1.symm, h.2.symm⟩
theorem GEquiv.trans {a b c : DG} (h : GEquiv a b) (h' : GEquiv b c) : GEquiv a c :=
  ⟨h.1.trans h'.1, h.2.trans h'.2⟩
theorem GEquiv.of_eq {a b : DG} (h : a = b) : GEquiv a b := h ▸ GEquiv.refl a

/-- equivalent graphs are rooted forests together -/
theorem GEquiv.isForest {a b : DG} (h : GEquiv a b) (ha : IsForest a) : IsForest b := ha.of_perm h.1 h.2

/-! ### renaming the graph indices of a structural forest -/

/-- the same forest with every graph index renamed -/
def mapIdx (ρ : Nat → Nat) (f : SF) : SF := f.mapRecs fun n => { n with idx := ρ n.idx }

@[simp] theorem mapIdx_nil (ρ : Nat → Nat) : mapIdx ρ .nil = .nil := rfl
@[simp] theorem mapIdx_cons (ρ : Nat → Nat) (n : NodeRec) (k s : SF) :
    mapIdx ρ (.cons n k s) = .cons { n with idx := ρ n.idx } (mapIdx ρ k) (mapIdx ρ s) := rfl

theorem idxs_mapIdx (ρ : Nat → Nat) : ∀ f : SF, (mapIdx ρ f).idxs = f.idxs.map ρ
  | .nil => rfl
  | .cons n k s => by simp [idxs_mapIdx ρ k, idxs_mapIdx ρ s]

/-- `mapIdx` reads the renaming on the indices of the forest only -/
theorem mapIdx_congr {ρ ρ' : Nat → Nat} : ∀ (f : SF), (∀ a ∈ f.idxs, ρ a = ρ' a) → mapIdx ρ f = mapIdx ρ' f
  | .nil, _ => rfl
  | .cons n k s, h => by
    simp only [SF.idxs_cons, List.mem_cons, List.mem_append] at h
    rw [mapIdx_cons, mapIdx_cons, h _ (.inl rfl), mapIdx_congr k fun a ha => h a (.inr (.inl ha)),
      mapIdx_congr s fun a ha => h a (.inr (.inr ha))]

theorem edgesOf_mapIdx (ρ : Nat → Nat) : ∀ (f : SF) (par : Nat),
    Store.edgesOf (ρ par) (mapIdx ρ f) = (Store.edgesOf par f).map fun e => (ρ e.1, ρ e.2)
  | .nil, _ => rfl
  | .cons n k s, par => by simp [edgesOf_mapIdx ρ k, edgesOf_mapIdx ρ s]

theorem mapIdx_append (ρ : Nat → Nat) : ∀ f g : SF, mapIdx ρ (f.append g) = (mapIdx ρ f).append (mapIdx ρ g)
  | .nil, _ => rfl
  | .cons n k s, g => by simp [SF.append, mapIdx_append ρ s g]

theorem edgesOf_append (par : Nat) : ∀ f g : SF,
    Store.edgesOf par (f.append g) = Store.edgesOf par f ++ Store.edgesOf par g
  | .nil, _ => rfl
  | .cons n k s, g => by simp [SF.append, edgesOf_append par s g]

/-! ### renamings given as association lists (`ren`, as in `GOp`) -/

@[simp] theorem ren_nil (i : Nat) : ren [] i = i := rfl

/-- the association list of a function on `l` is that function on `l` -/
theorem ren_alist (φ : Nat → Nat) : ∀ {l : List Nat} {a : Nat}, a ∈ l → ren (l.map fun b => (b, φ b)) a = φ a
  | b :: l, a, h => by
    unfold ren
    rw [List.map_cons, List.lookup_cons]
    cases hab : a == b with
    | true => rw [eq_of_beq hab]; rfl
    | false => exact ren_alist φ ((List.mem_cons.1 h).resolve_left (ne_of_beq_false hab))

/-! ### `Store.reindex` as a renaming -/

/-- the renaming `reindex` applies: position in preorder -/
def reindexMap (f : SF) (c : Nat) (a : Nat) : Nat := c + f.idxs.idxOf a

theorem length_idxs (f : SF) : f.idxs.length = f.numNodes := by
  rw [SF.numNodes_eq, SF.idxs, List.length_map]

theorem reindex_eq_mapIdx_of_map : ∀ (f : SF) (c : Nat) (ρ : Nat → Nat),
    f.idxs.map ρ = List.range' c f.numNodes → (Store.reindex f c).1 = mapIdx ρ f
  | .nil, _, _, _ => rfl
  | .cons n k s, c, ρ, h => by
    -- split `ρ n.idx :: (map ρ k.idxs ++ map ρ s.idxs) = c :: (range' (c+1) |k| ++ range' (c+1+|k|) |s|)`
    rw [SF.idxs_cons, List.map_cons, List.map_append, SF.numNodes, Nat.add_assoc, Nat.add_comm 1, List.range'_succ,
      ← List.range'_append_1] at h
    obtain ⟨hn, h⟩ := List.cons.inj h
    obtain ⟨hk, hs⟩ := List.append_inj h (by rw [List.length_map, List.length_range', length_idxs])
    rw [Store.reindex, mapIdx_cons, hn, reindex_eq_mapIdx_of_map k (c + 1) ρ hk,
      reindex_eq_mapIdx_of_map s _ ρ (by rw [reindex_snd]; exact hs)]

/-- the images of the indices of the forest are `c, c+1, …` in preorder -/
theorem map_reindexMap {f : SF} (c : Nat) (hn : f.idxs.Nodup) :
    f.idxs.map (reindexMap f c) = List.range' c f.numNodes := by
  refine List.ext_getElem (by rw [List.length_map, List.length_range', length_idxs]) fun i h1 h2 => ?_
  rw [List.getElem_map, reindexMap, hn.idxOf_getElem, List.getElem_range', Nat.one_mul]

/-- **`reindex` is the renaming `reindexMap`** -/
theorem reindex_eq_mapIdx {f : SF} (c : Nat) (hn : f.idxs.Nodup) :
    (Store.reindex f c).1 = mapIdx (reindexMap f c) f :=
  reindex_eq_mapIdx_of_map f c _ (map_reindexMap c hn)

theorem reindexMap_bounds {f : SF} {c a : Nat} (ha : a ∈ f.idxs) :
    c ≤ reindexMap f c a ∧ reindexMap f c a < c + f.numNodes :=
  ⟨Nat.le_add_right _ _, Nat.add_lt_add_left (length_idxs f ▸ List.idxOf_lt_length_iff.2 ha) c⟩

theorem reindexMap_inj {f : SF} {c a b : Nat} (ha : a ∈ f.idxs)
    (h : reindexMap f c a = reindexMap f c b) : a = b :=
  (List.idxOf_inj ha).1 (Nat.add_left_cancel h)

/-- an index outside the forest (the dummy root) gets the index after the last one handed out -/
theorem reindexMap_of_not_mem {f : SF} {c a : Nat} (ha : a ∉ f.idxs) : reindexMap f c a = c + f.numNodes := by
  rw [reindexMap, List.idxOf_eq_length_iff.2 ha, length_idxs]

/-- the renaming is injective on the dummy root together with the indices of the forest -/
theorem nodup_map_reindexMap {f : SF} (c : Nat) (hn : f.idxs.Nodup) (h0 : 0 ∉ f.idxs) :
    ((0 :: f.idxs).map (reindexMap f c)).Nodup := by
  rw [List.map_cons, map_reindexMap c hn, reindexMap_of_not_mem h0, List.nodup_cons]
  refine ⟨fun h => ?_, List.nodup_range'⟩
  exact Nat.lt_irrefl _ (List.mem_range'_1.1 h).2

theorem le_reindexMap (f : SF) (c a : Nat) : c ≤ reindexMap f c a := Nat.le_add_right _ _

end PhyModel.Graph
