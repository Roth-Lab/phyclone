import PhyModel.Proofs.StoreWF_rmSub
/-! C07, `Tree.get_subtree`: the extracted tree is well-formed and `Full` (`getSubtree_wf`,
`getSubtree_inv`), it is the subtree found at the index registered for the name, carrying the `_data`
entries of its clones and no outliers (`getSubtree_shape`, `getSubtree_data`), and it is a legal
argument of `remove_subtree` on the same tree (`getSubtree_rmLegal`). -/
namespace PhyModel.Store
open Store.Store SF AL

/-- the forest `getSubtree` builds from the subtree found in the source -/
def subForest (dt : Data) (x : NodeRec × SF) : SF := updAll dt (reindex (SF.cons x.1 x.2 .nil) 1).1

/-- the store `getSubtree` builds -/
def subStore (dt : Data) (s : Store) (x : NodeRec × SF) : Store :=
  let f := subForest dt x
  { forest := f, rootR := recompRoot dt f,
    nodeIdx := f.recs.map fun n => (n.name, n.idx),
    nodeIdxRev := f.recs.map fun n => (n.idx, n.name),
    data := f.recs.map fun n => (n.name, s.dataOf n.name),
    last := none }

theorem getSubtree_unf {dt : Data} {s r : Store} {name : Int} (h : s.getSubtree dt (some name) = some r) :
    ∃ i x, s.nodeIdx.lookup name = some i ∧ s.forest.findSub i = some x ∧ r = subStore dt s x := by
  obtain ⟨i, hi, h⟩ := Option.bind_eq_some_iff.1 h
  obtain ⟨x, hx, h⟩ := Option.bind_eq_some_iff.1 h
  exact ⟨i, x, hi, hx, (Option.some.inj h).symm⟩

theorem subForest_map {β} (h : NodeRec → β) (h1 : ∀ n r, h { n with r := r } = h n)
    (h2 : ∀ n c, h { n with idx := c } = h n) (dt : Data) (x : NodeRec × SF) :
    (subForest dt x).recs.map h = (x.1 :: x.2.recs).map h := by
  unfold subForest
  rw [updAll_map h h1, reindex_map h h2]; simp

theorem subForest_names (dt : Data) (x : NodeRec × SF) :
    (subForest dt x).names = (SF.cons x.1 x.2 .nil).names := by
  have := subForest_map (·.name) (fun _ _ => rfl) (fun _ _ => rfl) dt x
  simpa [SF.names] using this

theorem subForest_idxs (dt : Data) (x : NodeRec × SF) :
    (subForest dt x).idxs = List.range' 1 (SF.cons x.1 x.2 .nil).numNodes := by
  unfold subForest SF.idxs
  rw [updAll_map (·.idx) (fun _ _ => rfl)]
  exact reindex_idxs _ 1

theorem subForest_rootRecs (dt : Data) (x : NodeRec × SF) :
    (subForest dt x).rootRecs.map (·.name) = [x.1.name] := by
  simp [subForest, reindex, updAll, SF.rootRecs]

/-- every payload of the extracted forest is a payload of the found subtree up to index and cache -/
theorem subForest_mem {dt : Data} {x : NodeRec × SF} {n : NodeRec} (hn : n ∈ (subForest dt x).recs) :
    ∃ m ∈ x.1 :: x.2.recs, m.name = n.name ∧ m.dps = n.dps := by
  have hm : (n.name, n.dps) ∈ (subForest dt x).recs.map (fun n => (n.name, n.dps)) :=
    List.mem_map_of_mem hn
  rw [subForest_map _ (fun _ _ => rfl) (fun _ _ => rfl)] at hm
  obtain ⟨m, hm, he⟩ := List.mem_map.1 hm
  simp only [Prod.mk.injEq] at he
  exact ⟨m, hm, he.1, he.2⟩

theorem subStore_wf {dt : Data} {s : Store} {i : Nat} {x : NodeRec × SF} (hw : WF s)
    (hx : s.forest.findSub i = some x) : WF (subStore dt s x) ∧ Full (subStore dt s x) := by
  have hsl := (findSub_some hx).2
  have hnames : ((subForest dt x).recs.map (·.name)).Nodup := by
    rw [subForest_map _ (fun _ _ => rfl) (fun _ _ => rfl)]
    exact hw.names_nodup.sublist (hsl.map _)
  have hfo : (subStore dt s x).forest = subForest dt x := rfl
  have hda : (subStore dt s x).data = (subForest dt x).recs.map fun n => (n.name, s.dataOf n.name) := rfl
  have hni : (subStore dt s x).nodeIdx = (subForest dt x).recs.map fun n => (n.name, n.idx) := rfl
  have hnr : (subStore dt s x).nodeIdxRev = (subForest dt x).recs.map fun n => (n.idx, n.name) := rfl
  have hkeys : keys ((subForest dt x).recs.map fun n => (n.name, s.dataOf n.name)) =
      (subForest dt x).recs.map (·.name) := keys_map_pair _ _ _
  rw [Full, wf_iff, hfo, hda, hni, hnr]
  refine ⟨⟨⟨hnames, ?_, fun n hn => ?_, fun n hn => ?_⟩, ⟨.refl _, .refl _⟩,
    ⟨hkeys.symm ▸ hnames, fun k hk => Or.inr (hkeys ▸ hk), fun n hn => ?_, ?_⟩⟩,
    fun n hn => List.mem_map.2 ⟨_, List.mem_map_of_mem hn, rfl⟩⟩
  · show (subForest dt x).idxs.Nodup
    rw [subForest_idxs]; exact List.nodup_range'
  · have : n.idx ∈ (subForest dt x).idxs := List.mem_map_of_mem hn
    rw [subForest_idxs, List.mem_range'_1] at this
    exact Nat.ne_of_gt this.1
  · obtain ⟨m, hm, h1, _⟩ := subForest_mem hn
    exact h1 ▸ hw.name_nonneg m (hsl.subset hm)
  · obtain ⟨m, hm, h1, h2⟩ := subForest_mem hn
    rw [dOf_map_key (subForest dt x).recs (·.name) s.dataOf, if_pos (List.mem_map_of_mem hn), ← h1, ← h2]
    exact hw.payload_data m (hsl.subset hm)
  · rw [vals_map_key (subForest dt x).recs (·.name) s.dataOf]
    exact flatMap_dOf_nodup hw.data_keys hw.data_nodup hnames

/-! ### the theorems -/

theorem getSubtree_none {dt : Data} {s r : Store} (h : s.getSubtree dt none = some r) : r = s := by
  simp only [getSubtree, Option.some.injEq] at h; exact h.symm

/-- only `WF` of the source is needed when a clone is extracted -/
theorem getSubtree_wf {dt : Data} {s r : Store} {name : Int} (h : s.getSubtree dt (some name) = some r)
    (hw : WF s) : WF r ∧ Full r := by
  obtain ⟨i, x, _, hx, rfl⟩ := getSubtree_unf h
  exact subStore_wf hw hx

theorem getSubtree_inv {dt : Data} {s r : Store} {root : Option Int} (h : s.getSubtree dt root = some r)
    (hs : Inv0 s) : Inv0 r := by
  cases root with
  | none => rw [getSubtree_none h]; exact hs
  | some name => exact getSubtree_wf h hs.1

/-- shape of the result for a clone: it is the subtree found at the index registered for `name` -/
theorem getSubtree_shape {dt : Data} {s r : Store} {name : Int} (h : s.getSubtree dt (some name) = some r)
    (hw : WF s) :
    ∃ i x, s.nodeIdx.lookup name = some i ∧ s.forest.findSub i = some x ∧ x.1.name = name ∧
      r.nodes = (SF.cons x.1 x.2 .nil).names ∧ r.roots = [name] ∧
      (∀ nm ∈ r.nodes, nm ∈ s.nodes) ∧
      (∀ nm, r.dataOf nm = if nm ∈ r.nodes then s.dataOf nm else []) ∧
      r.outliers = [] := by
  obtain ⟨i, x, hi, hx, rfl⟩ := getSubtree_unf h
  have hnm := (hw.findSub_of_lookup hi hx).2.1
  have hsl := (findSub_some hx).2
  have hnodes : (subStore dt s x).nodes = (SF.cons x.1 x.2 .nil).names := subForest_names dt x
  have hsub : ∀ nm ∈ (subStore dt s x).nodes, nm ∈ s.nodes := by
    intro nm h1
    rw [hnodes] at h1
    obtain ⟨n, hn, rfl⟩ := mem_names.1 h1
    exact mem_names.2 ⟨n, hsl.subset (by simpa using hn), rfl⟩
  have hdata : ∀ nm, (subStore dt s x).dataOf nm =
      if nm ∈ (subStore dt s x).nodes then s.dataOf nm else [] := fun nm =>
    dOf_map_key (subForest dt x).recs (·.name) s.dataOf nm
  refine ⟨i, x, hi, hx, hnm, hnodes, ?_, hsub, hdata, ?_⟩
  · show (subForest dt x).rootRecs.map (·.name) = [name]
    rw [subForest_rootRecs, hnm]
  · show (subStore dt s x).dataOf outKey = []
    rw [hdata, if_neg]
    intro hc
    obtain ⟨n, hn, h1⟩ := mem_names.1 (hsub _ hc)
    exact hw.name_ne_outKey hn h1

/-- data of the extracted tree = `_data` of the clade of the root, in preorder -/
theorem getSubtree_data {dt : Data} {s r : Store} {name : Int} (h : s.getSubtree dt (some name) = some r)
    (_hw : WF s) : vals r.data = r.nodes.flatMap s.dataOf := by
  obtain ⟨i, x, _, _, rfl⟩ := getSubtree_unf h
  exact vals_map_key (subForest dt x).recs (·.name) s.dataOf

/-- the extracted subtree is a legal argument of `removeSubtree` on the same tree -/
theorem getSubtree_rmLegal {dt : Data} {s r : Store} {name : Int} (h : s.getSubtree dt (some name) = some r)
    (hw : WF s) : RmLegal s r := by
  obtain ⟨i, x, hi, hx, _, hn, hr, _⟩ := getSubtree_shape h hw
  exact fun _ => ⟨name, i, x, hr, hi, hx, hn ▸ List.Perm.refl _⟩

/-- the extracted tree copies each payload list and the `_data` list of the same name from the source -/
theorem getSubtree_aligned {dt : Data} {s r : Store} {root : Option Int} (h : s.getSubtree dt root = some r)
    (hw : WF s) (ha : Aligned s) : Aligned r := by
  cases root with
  | none => rw [getSubtree_none h]; exact ha
  | some name =>
    obtain ⟨_, _, _, _, _, _, _, _, hdata, _⟩ := getSubtree_shape h hw
    obtain ⟨i, x, _, hx, rfl⟩ := getSubtree_unf h
    have hsl := (findSub_some hx).2
    intro n (hn : n ∈ (subForest dt x).recs)
    have hmem : n.name ∈ (subStore dt s x).nodes := List.mem_map_of_mem hn
    rw [hdata, if_pos hmem]
    obtain ⟨m, hm, h1, h2⟩ := subForest_mem hn
    rw [← h1, ← h2]; exact ha m (hsl.subset hm)

end PhyModel.Store
