import PhyModel.Proofs.MapSpecProofs
import Mathlib.Tactic.Linarith
/-! Helper lemmas for C10 on the side of the dynamic programme: every table entry of `dAll` bounds
the objective of the feasible lists with that total (`dAll_ub`) and is attained by the list the
traceback reads off (`tb_attains`); both by induction on the forest, from what one scan step of the
max-plus convolution and of the running maximum does (`dStep_spec`, `sStep_spec`). -/

namespace PhyModel.MapDP

section
variable {G : ℕ}

theorem getD_map_range {α : Type} (f : ℕ → α) (d : α) {k : ℕ} (hk : k < G) :
    ((List.range G).map f).getD k d = f k := by
  simp [hk]

theorem getQ_zeros (k : ℕ) : getQ (zeros G) k = 0 := by
  unfold zeros getQ
  rw [List.getD_eq_getElem?_getD, List.getElem?_map]
  cases (List.range G)[k]? with
  | none => rfl
  | some _ => rfl

theorem getQ_vadd (a b : Vec) {i : ℕ} (hi : i < G) :
    getQ (vadd G a b) i = getQ a i + getQ b i :=
  getD_map_range _ 0 hi

theorem getQ_nodeR (p : Vec) (k : Forest) {i : ℕ} (hi : i < G) :
    getQ (nodeR G p k) i = getQ p i + getQ (sStep G (dAll G (zeros G) k)).2 i :=
  getQ_vadd p _ hi

abbrev ArgMaxUpTo (g : ℕ → ℚ) (n idx : ℕ) (val : ℚ) : Prop :=
  idx ≤ n ∧ val = g idx ∧ ∀ j ≤ n, g j ≤ val

/-- A running arg-max `sc` of `g`.  Which of the two steps happens on a tie (`scanJ` moves, `scanS` stays)
makes no difference to what is claimed. -/
theorem scan_spec {g : ℕ → ℚ} {sc : ℕ → ℕ × ℚ} (h0 : sc 0 = (0, g 0))
    (hs : ∀ n, sc (n + 1) = (n + 1, g (n + 1)) ∧ (sc n).2 ≤ g (n + 1) ∨
      sc (n + 1) = sc n ∧ g (n + 1) ≤ (sc n).2) (n : ℕ) : ArgMaxUpTo g n (sc n).1 (sc n).2 := by
  induction n with
  | zero =>
    rw [h0]
    exact ⟨le_rfl, rfl, fun j hj => by rw [Nat.le_zero.mp hj]⟩
  | succ n ih =>
    obtain ⟨h1, h2, h3⟩ := ih
    have hall : ∀ v, (sc n).2 ≤ v → g (n + 1) ≤ v → ∀ j ≤ n + 1, g j ≤ v := fun v hv hn j hj =>
      (Nat.le_succ_iff.mp hj).elim (fun hj => (h3 j hj).trans hv) (fun hj => hj ▸ hn)
    rcases hs n with ⟨he, hle⟩ | ⟨he, hle⟩
    · rw [he]
      exact ⟨le_rfl, rfl, hall _ hle le_rfl⟩
    · rw [he]
      exact ⟨Nat.le_succ_of_le h1, h2, hall _ le_rfl hle⟩

theorem scanJ_spec (child prev : Vec) (i n : ℕ) :
    ArgMaxUpTo (fun j => getQ child j + getQ prev (i - j)) n
      (scanJ child prev i n).1 (scanJ child prev i n).2 :=
  scan_spec rfl (fun n => by
    by_cases h : getQ child (n + 1) + getQ prev (i - (n + 1)) ≥ (scanJ child prev i n).2
    · exact .inl ⟨if_pos h, h⟩
    · exact .inr ⟨if_neg h, (not_le.mp h).le⟩) n

theorem scanS_spec (D : Vec) (n : ℕ) : ArgMaxUpTo (getQ D) n (scanS D n).1 (scanS D n).2 :=
  scan_spec rfl (fun n => by
    by_cases h : getQ D (n + 1) > (scanS D n).2
    · exact .inl ⟨if_pos h, h.le⟩
    · exact .inr ⟨if_neg h, not_lt.mp h⟩) n

theorem dStep_spec (c p : Vec) {i : ℕ} (hi : i < G) :
    ArgMaxUpTo (fun j => getQ c j + getQ p (i - j)) i
      (getN (dStep G c p).1 i) (getQ (dStep G c p).2 i) := by
  simp only [dStep, getN, getQ, getD_map_range _ _ hi]
  exact scanJ_spec c p i i

theorem sStep_spec (D : Vec) {i : ℕ} (hi : i < G) :
    ArgMaxUpTo (getQ D) i (getN (sStep G D).1 i) (getQ (sStep G D).2 i) := by
  simp only [sStep, getN, getQ, getD_map_range _ _ hi]
  exact scanS_spec D i

/-- The table dominates: a feasible `a` on `F`, together with what `acc` holds for a remainder `r`
left to the earlier siblings, is worth at most the entry of `dAll G acc F` at the combined total. -/
theorem dAll_ub : ∀ (F : Forest) (acc : Vec) (a : List ℕ) (r : ℕ), Feasible F a →
    r + topTotal F a < G → objective F a + getQ acc r ≤ getQ (dAll G acc F) (r + topTotal F a) := by
  intro F
  induction F with
  | nil =>
    intro acc a r _ _
    exact (zero_add _).le
  | cons p kd s ihk ihs =>
    intro acc a r hF hlt
    cases a with
    | nil => exact hF.elim
    | cons i rest =>
      obtain ⟨hle, hFk, hFs⟩ := hF
      simp only [topTotal, objective, ← Nat.add_assoc] at hlt ⊢
      have hri : r + i < G := (Nat.le_add_right _ _).trans_lt hlt
      have hi : i < G := (Nat.le_add_left i r).trans_lt hri
      -- later siblings on top of `r + i`; this clone takes `i` of it; its children fit below `i`
      have hb := ihs (dStep G (nodeR G p kd) acc).2 _ (r + i) hFs hlt
      have hJ := (dStep_spec (nodeR G p kd) acc hri).2.2 i (Nat.le_add_left i r)
      simp only [Nat.add_sub_cancel, getQ_nodeR p kd hi] at hJ
      have hS := (sStep_spec (dAll G (zeros G) kd) hi).2.2 _ hle
      have hK := ihk (zeros G) _ 0 hFk (by rw [Nat.zero_add]; exact hle.trans_lt hi)
      rw [getQ_zeros, add_zero, Nat.zero_add] at hK
      refine le_trans ?_ hb
      linarith only [hJ, hS, hK]

/-- The table is attained: the traceback from total `k < G` returns a feasible list on the grid and
the remainder for the earlier siblings, and these account for the entry of `dAll G acc F` at `k`. -/
theorem tb_attains : ∀ (F : Forest) (acc : Vec) (k : ℕ), k < G →
    (tbForest G acc F k).1.length = F.size ∧ (∀ x ∈ (tbForest G acc F k).1, x < G) ∧
      Feasible F (tbForest G acc F k).1 ∧ (tbForest G acc F k).2 + topTotal F (tbForest G acc F k).1 = k ∧
      getQ (dAll G acc F) k = objective F (tbForest G acc F k).1 + getQ acc (tbForest G acc F k).2 := by
  intro F
  induction F with
  | nil =>
    intro acc k _
    exact ⟨rfl, List.forall_mem_nil _, trivial, rfl, (zero_add _).symm⟩
  | cons p kd s ihk ihs =>
    intro acc k hk
    obtain ⟨hlenS, hbdS, hFs, htotS, hvalS⟩ := ihs (dStep G (nodeR G p kd) acc).2 k hk
    have hrem := (Nat.le_add_right _ _).trans_lt (htotS.trans_lt hk)
    obtain ⟨hcle, hJ, _⟩ := dStep_spec (nodeR G p kd) acc hrem
    have hcG := hcle.trans_lt hrem
    obtain ⟨hc2le, hS2, _⟩ := sStep_spec (dAll G (zeros G) kd) hcG
    obtain ⟨hlenK, hbdK, hFk, htotK, hvalK⟩ := ihk (zeros G) _ (hc2le.trans_lt hcG)
    simp only [tbForest, ← nodeR.eq_1, List.cons_append, Feasible, topTotal, objective,
      List.take_left' hlenK, List.drop_left' hlenK]
    refine ⟨?_, List.forall_mem_cons.mpr ⟨hcG, List.forall_mem_append.mpr ⟨hbdK, hbdS⟩⟩,
      ⟨(Nat.le_add_left _ _).trans (htotK.trans_le hc2le), hFk, hFs⟩, ?_, ?_⟩
    · rw [List.length_cons, List.length_append, hlenK, hlenS]
      rfl
    · rw [← Nat.add_assoc, Nat.sub_add_cancel hcle, htotS]
    · refine hvalS.trans ?_
      simp only [hJ, getQ_nodeR p kd hcG, hS2, hvalK, getQ_zeros]
      ring

theorem root_max (hG : 0 < G) (f : Forest) :
    ((mapAssign G f).length = f.size ∧ (∀ x ∈ mapAssign G f, x < G) ∧ Feasible f (mapAssign G f) ∧
      topTotal f (mapAssign G f) ≤ G - 1) ∧ objective f (mapAssign G f) = rootValue G f ∧
    ∀ a, Feasible f a → topTotal f a ≤ G - 1 → objective f a ≤ rootValue G f := by
  have hG1 : G - 1 < G := Nat.sub_lt hG Nat.one_pos
  obtain ⟨hcle, hS, hmax⟩ := sStep_spec (dAll G (zeros G) f) hG1
  obtain ⟨hlen, hbd, hF, htot, hval⟩ := tb_attains f (zeros G) _ (hcle.trans_lt hG1)
  rw [getQ_zeros, add_zero] at hval
  refine ⟨⟨hlen, hbd, hF, (Nat.le_add_left _ _).trans (htot.trans_le hcle)⟩, (hS.trans hval).symm,
    fun a hFa ht => ?_⟩
  have hb := dAll_ub f (zeros G) a 0 hFa (by rw [Nat.zero_add]; exact ht.trans_lt hG1)
  rw [getQ_zeros, add_zero, Nat.zero_add] at hb
  exact hb.trans (hmax _ ht)

end

/-- **C10 on the model**: the traceback is a feasible assignment on the grid whose summed
log-likelihood is at least that of every feasible assignment (top-level clones summing to at
most G-1, i.e. CCF ≤ 1). -/
theorem map_optimal (G : ℕ) (hG : 0 < G) (f : Forest) :
    (mapAssign G f).length = f.size ∧ (∀ x ∈ mapAssign G f, x < G) ∧
    ∃ t v, evalM f (mapAssign G f) = some (t, v) ∧ t ≤ G - 1 ∧
      ∀ (a : List ℕ) (t' : ℕ) (v' : ℚ), a.length = f.size → evalM f a = some (t', v') →
        t' ≤ G - 1 → v' ≤ v := by
  obtain ⟨⟨hlen, hbd, hF, ht⟩, hv, hub⟩ := root_max hG f
  refine ⟨hlen, hbd, _, _, (evalM_eq f _).trans (if_pos hF), ht, fun a t' v' _ he' ht' => ?_⟩
  rw [evalM_eq] at he'
  split at he'
  · next hFa =>
    cases he'
    exact hv ▸ hub a hFa ht'
  · exact nomatch he'

#print axioms map_optimal
end PhyModel.MapDP
