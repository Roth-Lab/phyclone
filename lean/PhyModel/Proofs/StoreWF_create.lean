import PhyModel.Proofs.StoreWF_Upd
/-! C07: `createRootNode` (and the compound `createAdd`) preserve well-formedness and density; the
new clone is named `num_nodes`, which is fresh because the names are dense. -/
namespace PhyModel.Store
open Store.Store SF AL

theorem recAdd_nodup {dt : Data} {n n' : NodeRec} {dps : List Nat} (h : recAdd dt n dps = some n')
    (hn : n.dps.Nodup) : n'.dps.Nodup := by
  unfold recAdd at h
  induction dps generalizing n with
  | nil => cases h; exact hn
  | cons d l ih =>
    simp only [List.foldlM_cons, Option.bind_eq_bind, Option.bind_eq_some_iff] at h
    obtain ⟨m, hm, h⟩ := h
    split at hm
    · cases hm
    · rename_i hc
      simp only [Option.some.injEq] at hm; subst hm
      refine ih h ?_
      have : d ∉ n.dps := by simpa using hc
      exact List.concat_eq_append ▸ List.Nodup.concat this hn

theorem WFG.cons {rs : List NodeRec} (h : WFG rs) {n : NodeRec} (h1 : n.name ∉ rs.map (·.name))
    (h2 : n.idx ∉ rs.map (·.idx)) (h3 : n.idx ≠ 0) (h4 : 0 ≤ n.name) : WFG (n :: rs) :=
  ⟨List.nodup_cons.2 ⟨h1, h.names_nodup⟩, List.nodup_cons.2 ⟨h2, h.idxs_nodup⟩,
    fun m hm => by rcases List.mem_cons.1 hm with rfl | hm; exacts [h3, h.idx_pos m hm],
    fun m hm => by rcases List.mem_cons.1 hm with rfl | hm; exacts [h4, h.name_nonneg m hm]⟩

theorem WFM.cons {rs : List NodeRec} {ni nir} (h : WFM rs ni nir) (n : NodeRec) :
    WFM (n :: rs) (ni ++ [(n.name, n.idx)]) (nir ++ [(n.idx, n.name)]) :=
  ⟨(List.perm_append_singleton _ _).trans (List.Perm.cons _ h.1),
    (List.perm_append_singleton _ _).trans (List.Perm.cons _ h.2)⟩

theorem WFD.cons {rs : List NodeRec} {data : List (Int × List Nat)} (h : WFD rs data) {n : NodeRec}
    (hname : n.name ∉ rs.map (·.name)) (hkey : n.name ∉ keys data) (hnd : n.dps.Nodup)
    (hdis : ∀ x ∈ n.dps, x ∉ vals data) :
    WFD (n :: rs) (data ++ if n.dps = [] then [] else [(n.name, n.dps)]) := by
  by_cases he : n.dps = []
  · rw [if_pos he, List.append_nil]
    refine ⟨h.data_keys, fun k hk => (h.data_sub k hk).imp id (List.mem_cons_of_mem _), fun m hm => ?_, h.data_nodup⟩
    rcases List.mem_cons.1 hm with rfl | hm
    · rw [he, dOf_of_not_mem hkey]
    · exact h.payload_data m hm
  · rw [if_neg he, ← alSet_of_not_mem _ hkey]
    refine ⟨nodup_keys_alSet _ h.data_keys, fun k hk => ?_, fun m hm => ?_, ?_⟩
    · rcases (mem_keys_alSet _).1 hk with rfl | h'
      · exact Or.inr List.mem_cons_self
      · exact (h.data_sub k h').imp id (List.mem_cons_of_mem _)
    · rcases List.mem_cons.1 hm with rfl | hm
      · rw [dOf_alSet_self]
      · rw [dOf_alSet_ne fun hc => hname (List.mem_map.2 ⟨m, hm, hc⟩)]; exact h.payload_data m hm
    · rw [(vals_alSet_perm h.data_keys _ _).nodup_iff, alDel_of_not_mem hkey]
      exact List.nodup_append.2 ⟨hnd, h.data_nodup, fun a ha b hb hab => hdis a ha (hab ▸ hb)⟩

/-- everything the callers need about a successful `create_root_node` in a dense tree -/
theorem create_spec {dt : Data} {s : Store} {ch : List Int} {data : List Nat} {r : Store × Int}
    (h : s.createRootNode dt ch data = some r) (hw : WF s) (hd : Dense s)
    (hfresh : ∀ x ∈ data, x ∉ vals s.data) :
    r.2 = (s.numNodes : Int) ∧ WF r.1 ∧ Dense r.1 ∧ r.1.forest.names.Perm (r.2 :: s.forest.names) ∧
      r.2 ∉ s.forest.names ∧ r.2 ∉ keys s.data ∧
      r.1.data = (s.data ++ if data = [] then [] else [(r.2, data)]) ∧
      (∀ n' ∈ r.1.forest.recs, (n'.name = r.2 ∧ n'.dps = data) ∨
        ∃ m ∈ s.forest.recs, n'.name = m.name ∧ n'.dps = m.dps) := by
  unfold createRootNode at h
  obtain ⟨n1, hn1, h⟩ := Option.bind_eq_some_iff.1 h
  obtain ⟨cis, _, h⟩ := Option.bind_eq_some_iff.1 h
  by_cases hlen : ((s.forest.takeRoots cis).1.rootRecs.length != cis.length) = true
  · rw [if_pos hlen] at h; cases h
  rw [if_neg hlen] at h
  obtain ⟨s2, hs2, h⟩ := Option.bind_eq_some_iff.1 h
  cases h
  obtain ⟨(hi1 : n1.idx = s.fresh), (hnm1 : n1.name = (s.numNodes : Int)), (hd1 : n1.dps = data)⟩ :=
    recAdd_fields hn1
  obtain ⟨hc, h1, h2, h3, _⟩ := updatePathToRoot_spec hs2
  simp only at hc h1 h2 h3
  clear hs2
  have hname : n1.name ∉ s.forest.recs.map (·.name) := by
    intro hc'; obtain ⟨m, hm, hmn⟩ := List.mem_map.1 hc'
    have := hd m hm; rw [hmn, hnm1] at this; exact Int.lt_irrefl _ this
  have hidx : n1.idx ∉ s.forest.recs.map (·.idx) := by
    intro hc'; obtain ⟨m, hm, hmi⟩ := List.mem_map.1 hc'
    exact Nat.lt_irrefl _ (hi1 ▸ hmi ▸ idx_lt_fresh hm)
  have hkey : n1.name ∉ keys s.data := fun hc' =>
    (hw.d.data_sub _ hc').elim (fun h' => absurd (h' ▸ hnm1 ▸ Int.natCast_nonneg _) (by decide)) hname
  have h1' : s2.nodeIdx = s.nodeIdx ++ [(n1.name, n1.idx)] := by
    rw [h1, hnm1, hi1]; exact alSet_of_not_mem _ fun hc' => hname (hnm1 ▸ hw.m.keys_ni.subset hc')
  have h2' : s2.nodeIdxRev = s.nodeIdxRev ++ [(n1.idx, n1.name)] := by
    rw [h2, hnm1, hi1]; exact alSet_of_not_mem _ fun hc' => hidx (hi1 ▸ hw.m.keys_nir.subset hc')
  have h3' : s2.data = s.data ++ if n1.dps = [] then [] else [(n1.name, n1.dps)] := by
    rw [h3, hd1, hnm1]
    cases data with
    | nil => exact (List.append_nil _).symm
    | cons a l =>
      have : s.dataOf (s.numNodes : Int) = [] := dOf_of_not_mem (hnm1 ▸ hkey)
      show alSet s.data _ (s.dataOf _ ++ a :: l) = _
      rw [this, if_neg (List.cons_ne_nil a l)]; exact alSet_of_not_mem _ (hnm1 ▸ hkey)
  -- the payload list
  have hs := sameCore_of_cores (rs' := s2.forest.recs) hc
  have hp := (takeRoots_perm cis s.forest).cons n1
  have hw2 : WF s2 := by
    rw [wf_iff, h1', h2', h3']
    exact ⟨((hw.g.cons hname hidx (hi1 ▸ Nat.ne_of_gt (fresh_pos s)) (hnm1 ▸ Int.natCast_nonneg _)).perm hp).same hs,
      ((hw.m.cons n1).perm hp).same hs,
      ((hw.d.cons hname hkey (recAdd_nodup hn1 List.nodup_nil) (hd1 ▸ hfresh)).perm hp).same hs⟩
  have hnames : s2.forest.names.Perm (n1.name :: s.forest.names) := by
    rw [SF.names, hs.map_eq (·.name) fun _ _ _ h => h]; exact hp.map _
  have hrec : ∀ n' ∈ s2.forest.recs, (n'.name = n1.name ∧ n'.dps = n1.dps) ∨
      ∃ m ∈ s.forest.recs, n'.name = m.name ∧ n'.dps = m.dps := by
    intro n' hn'
    obtain ⟨m, hm, _, hcn, hcd⟩ := mem_of_cores_eq hc hn'
    rcases List.mem_cons.1 (hp.subset hm) with rfl | hm
    · exact Or.inl ⟨hcn, hcd⟩
    · exact Or.inr ⟨m, hm, hcn, hcd⟩
  rw [hnm1] at hnames hrec h3'
  rw [hd1] at hrec h3'
  refine ⟨rfl, hw2, fun n hn => ?_, hnames, fun hc' => hname (hnm1 ▸ hc'), hnm1 ▸ hkey, h3', hrec⟩
  have hlen : s2.numNodes = s.numNodes + 1 := by
    rw [Store.numNodes, Store.numNodes, numNodes_eq_names, numNodes_eq_names, hnames.length_eq]; rfl
  rw [hlen]
  rcases List.mem_cons.1 (hnames.subset (List.mem_map_of_mem hn)) with h' | h'
  · rw [h']; exact Int.ofNat_lt.2 (Nat.lt_succ_self _)
  · obtain ⟨m, hm, hmn⟩ := mem_names.1 h'
    exact hmn ▸ Int.lt_trans (hd m hm) (Int.ofNat_lt.2 (Nat.lt_succ_self _))

/-- all clones except possibly the new one have their `_data` key -/
theorem create_full_except {dt : Data} {s : Store} {ch : List Int} {data : List Nat} {r : Store × Int}
    (h : s.createRootNode dt ch data = some r) (hs : Inv0 s) (hd : Dense s)
    (hfresh : ∀ x ∈ data, x ∉ vals s.data) :
    ∀ n ∈ r.1.forest.recs, n.name ≠ r.2 → n.name ∈ keys r.1.data := by
  obtain ⟨_, _, _, hn, _, _, hdat, _⟩ := create_spec h hs.1 hd hfresh
  intro n hn' hne
  rcases List.mem_cons.1 (hn.subset (List.mem_map_of_mem hn')) with h' | h'
  · exact absurd h' hne
  · obtain ⟨m, hm, hmn⟩ := mem_names.1 h'
    rw [hdat, keys, List.map_append]
    exact List.mem_append_left _ (hmn ▸ hs.2 m hm)

theorem create_inv {dt : Data} {s : Store} {ch : List Int} {data : List Nat} {r : Store × Int}
    (h : s.createRootNode dt ch data = some r) (hs : Inv0 s) (hd : Dense s) (hne : data ≠ [])
    (hfresh : ∀ x ∈ data, x ∉ vals s.data) : Inv0 r.1 ∧ Dense r.1 := by
  obtain ⟨_, hw, hd', _, _, _, hdat, _⟩ := create_spec h hs.1 hd hfresh
  refine ⟨⟨hw, fun n hn => ?_⟩, hd'⟩
  by_cases hc : n.name = r.2
  · show n.name ∈ keys r.1.data
    rw [hdat, if_neg hne, hc, keys, List.map_append]
    exact List.mem_append_right _ List.mem_cons_self
  · exact create_full_except h hs hd hfresh n hn hc

/-- data conservation: exactly `data` is added -/
theorem create_data {dt : Data} {s : Store} {ch : List Int} {data : List Nat} {r : Store × Int}
    (h : s.createRootNode dt ch data = some r) (hw : WF s) (hd : Dense s)
    (hfresh : ∀ x ∈ data, x ∉ vals s.data) : (vals r.1.data).Perm (data ++ vals s.data) := by
  rw [(create_spec h hw hd hfresh).2.2.2.2.2.2.1, vals, List.flatMap_append]
  refine List.perm_append_comm.trans (List.Perm.append_right _ (List.Perm.of_eq ?_))
  split
  · rename_i he; rw [he]; rfl
  · exact List.append_nil _

theorem create_aligned {dt : Data} {s : Store} {ch : List Int} {data : List Nat} {r : Store × Int}
    (h : s.createRootNode dt ch data = some r) (hw : WF s) (hd : Dense s)
    (hfresh : ∀ x ∈ data, x ∉ vals s.data) (ha : Aligned s) : Aligned r.1 := by
  obtain ⟨_, _, _, _, hr2, hkey, hdat, hrec⟩ := create_spec h hw hd hfresh
  replace hkey := lookup_none_iff.2 hkey
  intro n' hn'
  rw [dataOf_eq, hdat, dOf, List.lookup_append]
  rcases hrec n' hn' with ⟨h1, h2⟩ | ⟨m, hm, h1, h2⟩
  · rw [h1, h2, hkey, Option.none_or]
    split
    · rename_i he; rw [he]; rfl
    · rw [List.lookup_cons_self]; rfl
  · have hne : (m.name == r.2) = false := beq_false_of_ne fun hc => hr2 (hc ▸ mem_names.2 ⟨m, hm, rfl⟩)
    rw [h1, h2, ha m hm, dataOf_eq, dOf]
    cases hl : s.data.lookup m.name with
    | some v => rfl
    | none =>
      rw [Option.none_or]
      split
      · rfl
      · rw [List.lookup_cons, hne]; rfl

/-- `create_root_node(children)` followed by `add_data_point_to_node(dp, new node)` -/
theorem createAdd_inv {dt : Data} {s s' : Store} {ch : List Int} {dp : Nat} {r : Store × Int}
    (h1 : s.createRootNode dt ch [] = some r) (h2 : r.1.addDataPointToNode dt dp r.2 = some s')
    (hs : Inv0 s) (hd : Dense s) : Inv0 s' ∧ Dense s' ∧ (vals s'.data).Perm (dp :: vals s.data) := by
  have hfresh : ∀ x ∈ ([] : List Nat), x ∉ vals s.data := fun _ h => nomatch h
  obtain ⟨_, hw, hd', _⟩ := create_spec h1 hs.1 hd hfresh
  exact ⟨⟨addDp_wf h2 hw, addDp_full h2 hw (create_full_except h1 hs hd hfresh)⟩, addDp_dense h2 hw hd',
    (addDp_data h2 hw).trans (List.Perm.cons dp (create_data h1 hs.1 hd hfresh))⟩

theorem createAdd_aligned {dt : Data} {s s' : Store} {ch : List Int} {dp : Nat} {r : Store × Int}
    (h1 : s.createRootNode dt ch [] = some r) (h2 : r.1.addDataPointToNode dt dp r.2 = some s')
    (hs : Inv0 s) (hd : Dense s) (ha : Aligned s) : Aligned s' :=
  have hfresh : ∀ x ∈ ([] : List Nat), x ∉ vals s.data := fun _ h => nomatch h
  addDp_aligned h2 (create_spec h1 hs.1 hd hfresh).2.1 (create_aligned h1 hs.1 hd hfresh ha)

end PhyModel.Store
