import PhyModel.Proofs.GraphInv
import Mathlib.Data.List.Perm.Subperm
/-! The breadth-first closure of `Model/Graph.lean` computes reachability: `v ∈ g.reachFrom i ↔ Reach g i v`
(soundness by induction on the rounds; completeness because every round that does not stop adds a new
edge target, so after `edges.length` rounds the set is closed under the edges).  Consequences:
`rx.descendants` as modelled is "reachable and different from the start", and the Boolean `isForestB`
decides `IsForest`.  The file starts with what the guarded primitives `subgraph`, `compose` and
`remove_nodes_from` return, in the form the proofs about the `Tree` methods use. -/
namespace PhyModel.Graph

theorem distinctB_iff {l : List Nat} : distinctB l = true ↔ l.Nodup := by
  induction l with
  | nil => simp [distinctB]
  | cons a l ih => simp [distinctB, ih]

theorem live_iff {g : DG} {i : Nat} : g.live i = true ↔ i ∈ g.nodes := by simp [DG.live]

theorem mem_removeNodesFrom_nodes {g : DG} {D : List Nat} {v : Nat} :
    v ∈ (g.removeNodesFrom D).nodes ↔ v ∈ g.nodes ∧ v ∉ D := by
  simp only [DG.removeNodesFrom, List.mem_filter, Bool.not_eq_true', List.contains_eq_mem, decide_eq_false_iff_not]

theorem mem_removeNodesFrom_edges {g : DG} {D : List Nat} {e : Nat × Nat} :
    e ∈ (g.removeNodesFrom D).edges ↔ e ∈ g.edges ∧ e.1 ∉ D ∧ e.2 ∉ D := by
  simp only [DG.removeNodesFrom, List.mem_filter, Bool.and_eq_true, Bool.not_eq_true', List.contains_eq_mem,
    decide_eq_false_iff_not]

theorem subgraph_eq_some {g sg : DG} {is : List Nat} {ρ : Nat → Nat} :
    g.subgraph is ρ = some sg ↔ ((g.nodes.filter is.contains).map ρ).Nodup ∧
      sg = { nodes := (g.nodes.filter is.contains).map ρ,
             edges := (g.edges.filter fun e => is.contains e.1 && is.contains e.2).map fun e => (ρ e.1, ρ e.2) } := by
  unfold DG.subgraph
  simp only [Option.ite_some_none_eq_some, distinctB_iff, eq_comm (a := sg)]

/-- `compose` with a single `node_map` entry: the guards and the result -/
theorem compose_single_eq_some {g sub g1 : DG} {p r : Nat} {ρ : Nat → Nat} :
    g.compose sub [(p, r)] ρ = some g1 ↔
      (∀ v ∈ sub.nodes, ρ v ∉ g.nodes) ∧ (sub.nodes.map ρ).Nodup ∧ p ∈ g.nodes ∧ r ∈ sub.nodes ∧
      g1 = { nodes := g.nodes ++ sub.nodes.map ρ,
             edges := g.edges ++ sub.edges.map (fun e => (ρ e.1, ρ e.2)) ++ [(p, ρ r)] } := by
  unfold DG.compose
  simp only [Option.ite_none_left_eq_some, Option.some.injEq, Bool.or_eq_true, not_or, Bool.not_eq_true',
    List.any_cons, List.any_nil, Bool.or_false, List.any_map, List.any_eq_true, Function.comp_apply, not_exists,
    not_and, live_iff, distinctB_iff, List.map_cons, List.map_nil, ← Bool.not_eq_true, Classical.not_not,
    and_assoc, eq_comm (a := g1)]

theorem nodup_eraseDups : ∀ (n : Nat) (l : List Nat), l.length ≤ n → l.eraseDups.Nodup
  | _, [], _ => List.nodup_nil
  | 0, _ :: _, h => absurd h (Nat.not_succ_le_zero _)
  | n + 1, a :: l, h => by
    rw [List.eraseDups_cons, List.nodup_cons]
    refine ⟨fun hm => ?_, nodup_eraseDups n _ ?_⟩
    · simp at hm
    · exact Nat.le_trans (List.length_filter_le _ _) (Nat.le_of_succ_le_succ h)

/-- `S` is closed under the edges -/
def Closed (g : DG) (S : List Nat) : Prop := ∀ u ∈ S, ∀ v, (u, v) ∈ g.edges → v ∈ S

theorem mem_succOf {g : DG} {S : List Nat} {v : Nat} : v ∈ g.succOf S ↔ ∃ u ∈ S, (u, v) ∈ g.edges := by
  simp only [DG.succOf, List.mem_map, List.mem_filter, List.contains_iff_mem]
  constructor
  · rintro ⟨⟨u, w⟩, ⟨he, hu⟩, rfl⟩
    exact ⟨u, hu, he⟩
  · rintro ⟨u, hu, he⟩
    exact ⟨(u, v), ⟨he, hu⟩, rfl⟩

theorem mem_frontier {g : DG} {S : List Nat} {v : Nat} :
    v ∈ g.frontier S ↔ (∃ u ∈ S, (u, v) ∈ g.edges) ∧ v ∉ S := by
  simp [DG.frontier, mem_succOf]

theorem frontier_nodup (g : DG) (S : List Nat) : (g.frontier S).Nodup :=
  (nodup_eraseDups _ _ (Nat.le_refl _)).filter _

theorem nodup_append_frontier {g : DG} {S : List Nat} (h : S.Nodup) : (S ++ g.frontier S).Nodup :=
  List.nodup_append.2 ⟨h, frontier_nodup g S, fun _ ha _ hb hab => (mem_frontier.1 hb).2 (hab ▸ ha)⟩

theorem closed_of_frontier_nil {g : DG} {S : List Nat} (h : g.frontier S = []) : Closed g S := by
  intro u hu v he
  by_contra hv
  have : v ∈ g.frontier S := mem_frontier.2 ⟨⟨u, hu, he⟩, hv⟩
  simp [h] at this

theorem Closed.reach {g : DG} {S : List Nat} (hc : Closed g S) {u v : Nat} (hu : u ∈ S) (h : Reach g u v) :
    v ∈ S := by
  induction h with
  | refl => exact hu
  | step _ he ih => exact hc _ ih _ he

theorem closure_induction {g : DG} {P : List Nat → Prop} (hstep : ∀ T, P T → P (T ++ g.frontier T)) :
    ∀ (fuel : Nat) (S : List Nat), P S → P (g.closure fuel S)
  | 0, _, h => h
  | fuel + 1, S, h => by
    simp only [DG.closure]
    split
    · exact h
    · exact closure_induction hstep fuel _ (hstep S h)

theorem subset_closure (g : DG) (fuel : Nat) (S : List Nat) : S ⊆ g.closure fuel S :=
  closure_induction (P := (S ⊆ ·)) (fun _ h => List.subset_append_of_subset_left _ h) fuel S (List.Subset.refl S)

theorem closure_sound (g : DG) (fuel : Nat) (S : List Nat) : ∀ v ∈ g.closure fuel S, ∃ u ∈ S, Reach g u v :=
  closure_induction (P := fun T => ∀ v ∈ T, ∃ u ∈ S, Reach g u v) (fun T ih v hv => by
    rcases List.mem_append.1 hv with hv | hv
    · exact ih v hv
    · obtain ⟨⟨w, hw, he⟩, -⟩ := mem_frontier.1 hv
      obtain ⟨u, hu, hr⟩ := ih w hw
      exact ⟨u, hu, .step hr he⟩) fuel S fun v hv => ⟨v, hv, .refl v⟩

theorem closure_nodup (g : DG) (fuel : Nat) (S : List Nat) (h : S.Nodup) : (g.closure fuel S).Nodup :=
  closure_induction (P := List.Nodup) (fun _ => nodup_append_frontier) fuel S h

/-- with enough fuel the result is closed: `U` bounds everything that can ever be added -/
theorem closure_closed (g : DG) (U : List Nat) (hU : ∀ e ∈ g.edges, e.2 ∈ U) :
    ∀ (fuel : Nat) (S : List Nat), S.Nodup → S ⊆ U → U.length ≤ fuel + S.length → Closed g (g.closure fuel S)
  | 0, S => by
    intro hn hs hl u hu v he
    simp only [DG.closure] at hu ⊢
    by_contra hv
    have h1 : (v :: S).Nodup := List.nodup_cons.2 ⟨hv, hn⟩
    have h2 : (v :: S) ⊆ U := List.cons_subset.2 ⟨hU _ he, hs⟩
    exact Nat.not_succ_le_self _ (Nat.zero_add S.length ▸ Nat.le_trans (List.subperm_of_subset h1 h2).length_le hl)
  | fuel + 1, S => by
    intro hn hs hl
    simp only [DG.closure]
    split
    · next h => exact closed_of_frontier_nil (List.isEmpty_iff.1 h)
    · next h =>
      have hne : g.frontier S ≠ [] := fun h' => h (List.isEmpty_iff.2 h')
      have hpos : 0 < (g.frontier S).length := List.length_pos_iff.2 hne
      refine closure_closed g U hU fuel _ (nodup_append_frontier hn) ?_ ?_
      · intro v hv
        rcases List.mem_append.1 hv with hv | hv
        · exact hs hv
        · obtain ⟨⟨w, _, he⟩, _⟩ := mem_frontier.1 hv
          exact hU _ he
      · refine Nat.le_trans hl ?_
        rw [List.length_append, Nat.add_assoc, Nat.add_comm 1]
        exact Nat.add_le_add_left (Nat.add_le_add_left hpos _) _

theorem reachFrom_closed (g : DG) (i : Nat) : Closed g (g.reachFrom i) :=
  closure_closed g (i :: g.targets) (fun e he => List.mem_cons_of_mem _ (List.mem_map.2 ⟨e, he, rfl⟩))
    _ [i] (List.nodup_singleton i) (List.cons_subset.2 ⟨List.mem_cons_self, List.nil_subset _⟩)
    (Nat.le_of_eq (by rw [List.length_cons, List.length_map, List.length_singleton]))

/-- **the closure is reachability** -/
theorem mem_reachFrom {g : DG} {i v : Nat} : v ∈ g.reachFrom i ↔ Reach g i v := by
  constructor
  · intro h
    obtain ⟨u, hu, hr⟩ := closure_sound g _ _ v h
    have : u = i := by simpa using hu
    exact this ▸ hr
  · exact fun h => (reachFrom_closed g i).reach (subset_closure g _ _ (by simp)) h

theorem reachFrom_nodup (g : DG) (i : Nat) : (g.reachFrom i).Nodup := closure_nodup g _ _ (by simp)

/-- `rx.descendants` as modelled: the nodes reachable from `i`, `i` excluded, each once -/
theorem descendants_spec {g : DG} {i : Nat} {d : List Nat} (h : g.descendants i = some d) :
    i ∈ g.nodes ∧ d.Nodup ∧ ∀ v, v ∈ d ↔ Reach g i v ∧ v ≠ i := by
  unfold DG.descendants at h
  split at h
  · next hl =>
    cases h
    refine ⟨live_iff.1 hl, (reachFrom_nodup g i).filter _, fun v => ?_⟩
    simp [mem_reachFrom]
  · cases h

/-- `[r] + descendants(r)` is the set of nodes reachable from `r` -/
theorem mem_cons_descendants {g : DG} {r : Nat} {d : List Nat} (hd : g.descendants r = some d) (v : Nat) :
    v ∈ r :: d ↔ Reach g r v := by
  rw [List.mem_cons, (descendants_spec hd).2.2]
  constructor
  · rintro (rfl | ⟨h, -⟩)
    · exact .refl _
    · exact h
  · intro h
    by_cases hv : v = r
    · exact .inl hv
    · exact .inr ⟨h, hv⟩

theorem descendants_isSome {g : DG} {i : Nat} (h : i ∈ g.nodes) : (g.descendants i).isSome = true := by
  simp [DG.descendants, live_iff.2 h]

/-- **the Boolean check is the invariant** -/
theorem isForestB_iff {g : DG} : isForestB g = true ↔ IsForest g := by
  simp only [isForestB, Bool.and_eq_true, distinctB_iff, live_iff, List.all_eq_true, Bool.or_eq_true,
    beq_iff_eq, bne_iff_ne, ne_eq, List.contains_iff_mem, mem_reachFrom]
  constructor
  · rintro ⟨⟨⟨⟨hn, h0⟩, he⟩, hd⟩, hr⟩
    refine ⟨hn, h0, fun e h => ⟨(he e h).1.1, (he e h).1.2⟩, ?_, fun v hv hv0 => ?_, hr⟩
    · rw [List.count_eq_zero]
      intro hm
      obtain ⟨p, hp⟩ := mem_targets.1 hm
      exact (he _ hp).2 rfl
    · exact (hd v hv).resolve_left hv0
  · intro hf
    exact ⟨⟨⟨⟨hf.nodes_nodup, hf.root_live⟩, fun e h => ⟨hf.edges_live e h, hf.target_ne_root (p := e.1) h⟩⟩,
      fun v hv => (Classical.em (v = 0)).imp id (hf.indeg v hv)⟩, hf.reach⟩

instance (g : DG) : Decidable (IsForest g) := decidable_of_iff _ isForestB_iff

end PhyModel.Graph
