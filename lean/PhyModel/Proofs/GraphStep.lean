import PhyModel.Proofs.GraphCreate
import PhyModel.Proofs.GraphRemove
import PhyModel.Proofs.GraphGetSub
import PhyModel.Proofs.GraphAddSub
import PhyModel.Proofs.GraphDict
/-! Every history of graph-level tree edits keeps every live graph a rooted forest (`forest_step`,
`forest_reachable`).  `GLegal` holds the side conditions of the call sites that success of the
primitives does not already imply: the children handed to `create_root_node` are clones of the tree as
it is (none is the node being created), the root of a removed subtree is a clone, and a dictionary
handed to `from_dict` is the dictionary form of a forest.  (That indices are fresh, children are
distinct top-level clones, the subtree root / the parent are live is implied by `gStep … = some _`:
the model returns `none` otherwise.) -/
namespace PhyModel.Graph

def GLegal : GOp → Prop
  | .create _ new kids => ∀ c ∈ kids, c ≠ new
  | .rmSub _ r => r ≠ 0
  | .fromDict _ edges live => IsForest { nodes := live, edges := edges }
  | _ => True

instance : DecidablePred GLegal := fun op => by
  cases op <;> unfold GLegal <;> infer_instance

theorem gLegalB_iff {op : GOp} : gLegalB op = true ↔ GLegal op := by
  cases op with
  | create _ new kids => exact List.all_eq_true.trans (forall₂_congr fun _ _ => bne_iff_ne)
  | rmSub _ r => exact bne_iff_ne
  | fromDict _ edges live => exact isForestB_iff
  | _ => exact iff_of_true rfl trivial

private theorem forall_set {sys : GSys} {h : Nat} {g' : DG} (hall : ∀ g ∈ sys, IsForest g) (hg : IsForest g') :
    ∀ g ∈ sys.set h g', IsForest g := fun g hm => by
  rcases List.mem_or_eq_of_mem_set hm with h' | rfl
  · exact hall g h'
  · exact hg

private theorem forall_append {sys : GSys} {g' : DG} (hall : ∀ g ∈ sys, IsForest g) (hg : IsForest g') :
    ∀ g ∈ sys ++ [g'], IsForest g := fun g hm => by
  rcases List.mem_append.1 hm with h' | h'
  · exact hall g h'
  · rw [List.mem_singleton.1 h']; exact hg

/-- **C07, graph shape (step).**  A legal graph-level edit that does not raise leaves every live graph a
rooted forest: each clone has exactly one parent and is reachable from the virtual root. -/
theorem forest_step {sys sys' : GSys} {op : GOp} (hall : ∀ g ∈ sys, IsForest g) (hleg : GLegal op)
    (hstep : gStep sys op = some sys') : ∀ g ∈ sys', IsForest g := by
  have hget : ∀ {h : Nat} {g : DG}, sys[h]? = some g → IsForest g := fun hg => hall _ (List.mem_of_getElem? hg)
  cases op with
  | fresh =>
    cases hstep
    exact forall_append hall isForest_init
  | create h new kids =>
    obtain ⟨g, hg, hstep⟩ := Option.bind_eq_some_iff.1 hstep
    obtain ⟨r, hr, hstep⟩ := Option.bind_eq_some_iff.1 hstep
    cases hstep
    exact forall_set hall (forest_createRootNode (hget hg) hleg hr)
  | getSub h r m₁ m₂ =>
    obtain ⟨g, hg, hstep⟩ := Option.bind_eq_some_iff.1 hstep
    obtain ⟨s, hr, hstep⟩ := Option.bind_eq_some_iff.1 hstep
    cases hstep
    exact forall_append hall (forest_getSubtree (hget hg) hr)
  | rmSub h r =>
    obtain ⟨g, hg, hstep⟩ := Option.bind_eq_some_iff.1 hstep
    obtain ⟨g', hr, hstep⟩ := Option.bind_eq_some_iff.1 hstep
    cases hstep
    exact forall_set hall (forest_removeSubtree (hget hg) hleg hr)
  | reinit h =>
    obtain ⟨g, -, hstep⟩ := Option.bind_eq_some_iff.1 hstep
    cases hstep
    exact forall_set hall isForest_init
  | addSub h hs p m =>
    obtain ⟨g, hg, hstep⟩ := Option.bind_eq_some_iff.1 hstep
    obtain ⟨sb, hsb, hstep⟩ := Option.bind_eq_some_iff.1 hstep
    obtain ⟨g', hr, hstep⟩ := Option.bind_eq_some_iff.1 hstep
    cases hstep
    exact forall_set hall (forest_addSubtree (hget hg) (hget hsb) hr)
  | copy h =>
    obtain ⟨g, hg, hstep⟩ := Option.bind_eq_some_iff.1 hstep
    cases hstep
    exact forall_append hall (hget hg)
  | fromDict h edges live =>
    obtain ⟨g, -, hstep⟩ := Option.bind_eq_some_iff.1 hstep
    cases hstep
    exact forall_set hall (forest_fromDict hleg)

/-- **C07, graph shape (all histories).**  Every graph reachable from the one-node graph of `Tree(grid_size)`
by legal graph-level edits is a rooted forest. -/
theorem forest_run {ops : List GOp} : ∀ {sys sys' : GSys}, (∀ g ∈ sys, IsForest g) → (∀ op ∈ ops, GLegal op) →
    gRun sys ops = some sys' → ∀ g ∈ sys', IsForest g := by
  induction ops with
  | nil =>
    intro sys sys' hall _ h
    exact Option.some.inj h ▸ hall
  | cons op ops ih =>
    intro sys sys' hall hleg h
    rw [gRun, List.foldlM_cons] at h
    obtain ⟨s1, hs, h⟩ := Option.bind_eq_some_iff.1 h
    obtain ⟨hl, hleg⟩ := List.forall_mem_cons.1 hleg
    exact ih (forest_step hall hl hs) hleg h

theorem forest_reachable {ops : List GOp} {sys : GSys} (hleg : ∀ op ∈ ops, GLegal op)
    (h : gRun [gInit] ops = some sys) : ∀ g ∈ sys, IsForest g :=
  forest_run (fun g hg => by rw [List.mem_singleton.1 hg]; exact isForest_init) hleg h

end PhyModel.Graph
