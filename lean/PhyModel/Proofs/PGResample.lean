import PhyModel.Proofs.ASMCFwd
import PhyModel.Proofs.PGValid
import PhyModel.Proofs.MovesDist
import Mathlib.Data.Fin.Tuple.Sort
import Mathlib.Data.List.FinRange
/-! # C01, stage 3: the resampling step of the executable sweep against `ASMC.resC`.

The list-based `Dist` monad is compared with finite sums: `seqD` is a sequence of independent draws, its
expectation a sum over index functions weighted by the product of the single-draw probabilities
(`E_seqD`); `SMC.ancestorSeqs` and `SMC.proposeAll` are such sequences.  `swOf S` is the list form of the
particle system `S`.  `SMC.resample` (ancestors drawn by `multinomial(N-1, ·)`, laid out in index order,
slot 0 kept) has, for every continuation that does not depend on the order of the slots `1 … m`, the
expectation given by `ASMC.resC` (`resample_E`). -/

namespace PhyModel.PG

/-- `k` independent draws, in order -/
def seqD {β : Type} : (k : ℕ) → (Fin k → Dist β) → Dist (List β)
  | 0, _ => Dist.pure []
  | k+1, d => Dist.bind (d 0) fun b => Dist.fmap (fun l => b :: l) (seqD k (fun i => d i.succ))

theorem E_seqD {β Y : Type} [Fintype Y] : ∀ (k : ℕ) (d : Fin k → Dist β) (P : Fin k → Y → ℚ)
    (emb : Fin k → Y → β), (∀ i h, Dist.E (d i) h = ∑ y, P i y * h (emb i y)) → ∀ G : List β → ℚ,
    Dist.E (seqD k d) G = ∑ y : Fin k → Y, (∏ i, P i (y i)) * G (List.ofFn fun i => emb i (y i)) := by
  intro k
  induction k with
  | zero =>
    intro d P emb _ G
    rw [Fintype.sum_unique, Fin.prod_univ_zero, one_mul, List.ofFn_zero]
    exact E_pure _ _
  | succ k ih =>
    intro d P emb hd G
    simp only [seqD]
    rw [E_bind, hd 0]
    rw [← (Fin.consEquiv (fun _ : Fin (k+1) => Y)).sum_comp, Fintype.sum_prod_type]
    apply Finset.sum_congr rfl
    intro y0 _
    rw [E_fmap, ih (fun i => d i.succ) (fun i => P i.succ) (fun i => emb i.succ) (fun i h => hd i.succ h),
      Finset.mul_sum]
    apply Finset.sum_congr rfl
    intro y _
    simp only [Fin.consEquiv_apply, Fin.prod_univ_succ, Fin.cons_zero, Fin.cons_succ, List.ofFn_succ]
    ring

theorem ancestorSeqs_eq (sw : SMC.Swarm) : ∀ m : ℕ, SMC.ancestorSeqs sw m
    = seqD m (fun _ => Dist.categorical ((List.range sw.length).map fun k => (k, (sw.getD k (T.empty, 0)).2))) := by
  intro m
  induction m with
  | zero => rfl
  | succ m ih => simp only [SMC.ancestorSeqs, seqD, ih]

theorem proposeAll_eq (r : SMC.Run) (first last : Bool) (i : ℕ) : ∀ (m : ℕ) (pw : Fin m → T × ℚ),
    SMC.proposeAll r first last i (List.ofFn pw)
      = seqD m (fun j => SMC.propose r first last (pw j).1 (pw j).2 i) := by
  intro m
  induction m with
  | zero => intro pw; rfl
  | succ m ih =>
    intro pw
    rw [List.ofFn_succ]
    simp only [SMC.proposeAll, seqD]
    congr 1
    funext pw'
    rw [ih (fun j => pw j.succ)]

theorem lsum_range_fin (n : ℕ) (F : ℕ → ℚ) : lsum (List.range n) F = ∑ i : Fin n, F i.val := by
  rw [lsum_range, Fin.sum_univ_eq_sum_range]

/-! ### swarms as lists, particle systems as functions -/

open Orders.Forest

variable {L : List T} {m : ℕ}

/-- list form of a particle system -/
def swOf (S : ASMC.Sys (St L) m) : SMC.Swarm := List.ofFn (fun j : Fin (m+1) => ((S j).1.1, (S j).2))

theorem swOf_cons (S : ASMC.Sys (St L) m) :
    swOf S = ((S 0).1.1, (S 0).2) :: List.ofFn (fun j : Fin m => ((S j.succ).1.1, (S j.succ).2)) :=
  List.ofFn_succ

theorem swOf_length (S : ASMC.Sys (St L) m) : (swOf S).length = m + 1 := by simp [swOf]

theorem swOf_getD (S : ASMC.Sys (St L) m) (j : Fin (m+1)) :
    (swOf S).getD j.val (T.empty, 0) = ((S j).1.1, (S j).2) := by
  unfold swOf
  rw [List.getD_eq_getElem?_getD, List.getElem?_ofFn]
  have hj : j.val < m + 1 := j.isLt
  simp [hj]

theorem lsum_ofFn {α : Type} {n : ℕ} (f : Fin n → α) (F : α → ℚ) : lsum (List.ofFn f) F = ∑ i, F (f i) := by
  unfold lsum
  rw [List.map_ofFn, List.sum_ofFn]
  rfl

theorem sumW_swOf (S : ASMC.Sys (St L) m) : SMC.sumW (swOf S) = ∑ i, (S i).2 := by
  unfold SMC.sumW
  rw [Dist.categorical_tot, swOf, lsum_ofFn]

theorem sumW2_swOf (S : ASMC.Sys (St L) m) : SMC.sumW2 (swOf S) = ∑ i, (S i).2 * (S i).2 := by
  unfold SMC.sumW2
  rw [Dist.foldl_add_eq, zero_add]
  have : ((swOf S).map fun x => x.2 * x.2).sum = lsum (swOf S) (fun x => x.2 * x.2) := rfl
  rw [this, swOf, lsum_ofFn]

theorem needResample_swOf (r : SMC.Run) (S : ASMC.Sys (St L) m) (t : ℕ) (ht : t ≠ 0) :
    SMC.needResample r (swOf S) = essRule r.θ m t (ASMC.wts S) := by
  unfold SMC.needResample essRule
  rw [sumW_swOf, sumW2_swOf, swOf_length]
  have h1 : (t != 0) = true := by simpa using ht
  rw [h1, Bool.true_and]
  simp only [ASMC.wts]
  congr 3
  push_cast
  ring

/-- sorting a tuple of numbers is composing it with a permutation -/
theorem sortNat_ofFn {n : ℕ} (f : Fin n → ℕ) : sortNat (List.ofFn f) = List.ofFn (f ∘ Tuple.sort f) := by
  rw [← sortNat_perm_eq (Equiv.Perm.ofFn_comp_perm (Tuple.sort f) f)]
  apply sortNat_of_sorted
  rw [List.pairwise_ofFn]
  intro i j hij
  exact Tuple.monotone_sort f (le_of_lt hij)

theorem E_ancestor (S : ASMC.Sys (St L) m) (h : ℕ → ℚ) :
    Dist.E (Dist.categorical ((List.range (swOf S).length).map fun k => (k, ((swOf S).getD k (T.empty, 0)).2))) h
      = ∑ a : Fin (m+1), ASMC.wbar S a * h a.val := by
  rw [Dist.E_categorical, lsum_map, lsum_map, swOf_length, lsum_range_fin, lsum_range_fin]
  simp only [swOf_getD]
  unfold ASMC.wbar ASMC.tot
  rw [Finset.sum_div]
  apply Finset.sum_congr rfl
  intro a _
  ring

/-- the code's layout of the resampled swarm (slot 0 kept, ancestors in index order) is the list form of
the abstractly resampled system with its slots `1 … m` permuted -/
theorem layout_eq (S : ASMC.Sys (St L) m) (a : Fin m → Fin (m+1)) (ρ : Equiv.Perm (Fin m)) (u : ℚ) :
    ((((swOf S).getD 0 (T.empty, 0)).1, u) ::
        (List.ofFn (fun i => (a (ρ i)).val)).map fun k => (((swOf S).getD k (T.empty, 0)).1, u))
      = swOf ((fun j => ASMC.reset u (S ((Fin.cons 0 a : Fin (m+1) → Fin (m+1)) j))) ∘ ASMC.ext0 ρ) := by
  have h0 := swOf_getD S 0
  simp only [Fin.val_zero] at h0
  rw [h0, List.map_ofFn]
  conv_rhs => rw [swOf_cons]
  congr 1
  congr 1
  funext i
  simp only [Function.comp, ASMC.ext0_succ, Fin.cons_succ, ASMC.reset]
  rw [swOf_getD S (a (ρ i))]

/-- **resampling**: for a continuation `K` that does not depend on the order of the slots `1 … m` of
the resampled systems -/
theorem resample_E (r : SMC.Run) (hN : r.N = m + 1) (S : ASMC.Sys (St L) m) (t : ℕ) (ht : t ≠ 0)
    (K : SMC.Swarm → ℚ)
    (hK : ∀ (a : Fin m → Fin (m+1)) (ρ : Equiv.Perm (Fin m)),
      K (swOf ((fun j => ASMC.reset (1 / ((m + 1 : ℕ) : ℚ)) (S ((Fin.cons 0 a : Fin (m+1) → Fin (m+1)) j)))
        ∘ ASMC.ext0 ρ))
      = K (swOf (fun j => ASMC.reset (1 / ((m + 1 : ℕ) : ℚ)) (S ((Fin.cons 0 a : Fin (m+1) → Fin (m+1)) j))))) :
    Dist.E (SMC.resample r (swOf S)) K
      = if essRule r.θ m t (ASMC.wts S) then ASMC.resC (1 / (r.N : ℚ)) S (fun S' => K (swOf S'))
        else K (swOf S) := by
  unfold SMC.resample
  rw [needResample_swOf r S t ht]
  split
  · rw [Dist.E_norm, E_fmap, ancestorSeqs_eq, hN, Nat.add_sub_cancel]
    rw [E_seqD m _ (fun _ a => ASMC.wbar S a) (fun _ (a : Fin (m+1)) => a.val) (fun _ h => E_ancestor S h)]
    unfold ASMC.resC
    apply Finset.sum_congr rfl
    intro a _
    congr 1
    rw [sortNat_ofFn]
    have hl := layout_eq S a (Tuple.sort (fun i => (a i).val)) (1 / ((m + 1 : ℕ) : ℚ))
    exact (congrArg K hl).trans (hK a (Tuple.sort (fun i => (a i).val)))
  · exact E_pure _ _

end PhyModel.PG
