import PhyModel.Model.Proposal
import PhyModel.Proofs.LikProofs
/-! Expectation calculus for the finite distribution monad `Dist`: the expectation `E` of `pure`,
`bind`, `uniform` and of the derived operations `fmap`, `scale`, `categorical`, `norm`, each as a
list sum `lsum`, so that statements about samplers become statements about sums. -/
namespace PhyModel
open Dist

theorem E_eq_lsum {α} (d : Dist α) (h : α → ℚ) : E d h = lsum d (fun ap => ap.2 * h ap.1) := rfl

theorem E_pure {α} (a : α) (h : α → ℚ) : E (Dist.pure a) h = h a :=
  (add_zero _).trans (one_mul _)

theorem E_bind {α β} (d : Dist α) (k : α → Dist β) (h : β → ℚ) :
    E (Dist.bind d k) h = E d (fun a => E (k a) h) := by
  rw [E_eq_lsum, E_eq_lsum]
  unfold Dist.bind
  rw [lsum_flatMap]
  apply lsum_congr
  intro ap _
  rw [lsum_map, E_eq_lsum, ← lsum_mul_left]
  apply lsum_congr
  intro bq _
  ring

theorem E_uniform {α} (l : List α) (h : α → ℚ) :
    E (uniform l) h = (1 / (l.length : ℚ)) * lsum l h := by
  rw [E_eq_lsum]
  unfold uniform
  rw [lsum_map, lsum_mul_left]

theorem E_fmap {α β} (g : α → β) (d : Dist α) (h : β → ℚ) :
    E (Dist.fmap g d) h = E d (fun a => h (g a)) :=
  lsum_map _ d _

theorem E_congr {α} (d : Dist α) {h h' : α → ℚ} (hh : ∀ ap ∈ d, h ap.1 = h' ap.1) : E d h = E d h' := by
  rw [E_eq_lsum, E_eq_lsum]
  apply lsum_congr
  intro ap hap
  rw [hh ap hap]

/-- `1 / 0 = 0` makes side conditions unnecessary -/
theorem E_bind_uniform {α β} (d : Dist α) (k : α → Dist β) (L : List α) (g : α → List β) (c c' : ℚ)
    (hd : ∀ h, E d h = (1 / c) * lsum L h)
    (hk : ∀ a ∈ L, ∀ h, E (k a) h = (1 / c') * lsum (g a) h) (h : β → ℚ) :
    E (Dist.bind d k) h = (1 / (c * c')) * lsum (L.flatMap g) h := by
  rw [E_bind, hd, lsum_flatMap, ← one_div_mul_one_div, mul_assoc]
  congr 1
  rw [← lsum_mul_left]
  exact lsum_congr _ fun a ha => hk a ha h

theorem Dist.mem_bind {α β} {d : Dist α} {k : α → Dist β} {bq : β × ℚ} :
    bq ∈ Dist.bind d k ↔ ∃ ap ∈ d, ∃ b ∈ k ap.1, (b.1, ap.2 * b.2) = bq := by
  rw [Dist.bind, List.mem_flatMap]
  exact exists_congr fun ap => and_congr_right fun _ => List.mem_map

namespace Dist

theorem E_nil {α} (h : α → ℚ) : E ([] : Dist α) h = 0 := rfl

theorem E_cons {α} (a : α) (q : ℚ) (d : Dist α) (h : α → ℚ) :
    E ((a, q) :: d) h = q * h a + E d h := rfl

theorem E_append {α} (d₁ d₂ : Dist α) (h : α → ℚ) : E (d₁ ++ d₂) h = E d₁ h + E d₂ h :=
  lsum_append d₁ d₂ _

theorem E_scale {α} (c : ℚ) (d : Dist α) (h : α → ℚ) : E (scale c d) h = c * E d h := by
  unfold scale
  rw [E_eq_lsum, lsum_map, E_eq_lsum, ← lsum_mul_left]
  apply lsum_congr; intro aq _; ring

theorem foldl_add_eq (l : List ℚ) (c : ℚ) : l.foldl (· + ·) c = c + l.sum := by
  induction l generalizing c with
  | nil => exact (add_zero c).symm
  | cons a l ih => rw [List.foldl_cons, ih, List.sum_cons, add_assoc]

/-- total weight of a weighted list, as `lsum` -/
theorem categorical_tot {α} (l : List (α × ℚ)) :
    (l.map (·.2)).foldl (· + ·) 0 = lsum l (fun aw => aw.2) := by
  rw [foldl_add_eq, zero_add]; rfl

theorem categorical_eq {α} (l : List (α × ℚ)) :
    categorical l = l.map (fun aw => (aw.1, aw.2 / lsum l (fun aw => aw.2))) := by
  unfold categorical
  rw [categorical_tot]

/-- expectation of a categorical draw: weighted mean (with Lean's `x / 0 = 0` when all weights
cancel) -/
theorem E_categorical {α} (l : List (α × ℚ)) (h : α → ℚ) :
    E (categorical l) h = lsum l (fun aw => aw.2 * h aw.1) / lsum l (fun aw => aw.2) := by
  rw [categorical_eq, E_eq_lsum, lsum_map, div_eq_mul_inv, ← lsum_mul_right]
  exact lsum_congr l fun aw _ => div_mul_eq_mul_div _ _ _ |>.trans (div_eq_mul_inv _ _)

/-- total mass of a categorical draw is 1 as soon as the total weight is non-zero -/
theorem categorical_mass {α} (l : List (α × ℚ)) (hl : lsum l (fun aw => aw.2) ≠ 0) :
    E (categorical l) (fun _ => 1) = 1 := by
  rw [E_categorical]; simp only [mul_one]; exact div_self hl

section norm
variable {α : Type} [BEq α] [LawfulBEq α]

theorem E_addTo (a : α) (q : ℚ) (l : List (α × ℚ)) (h : α → ℚ) :
    E (addTo a q l) h = E l h + q * h a := by
  induction l with
  | nil => exact (add_zero _).trans (zero_add _).symm
  | cons bp l ih =>
    obtain ⟨b, p⟩ := bp
    unfold addTo
    split
    · rename_i hab
      rw [eq_of_beq hab, E_cons, E_cons]; ring
    · rw [E_cons, E_cons, ih]; ring

theorem E_foldl_addTo (d acc : List (α × ℚ)) (h : α → ℚ) :
    E (d.foldl (fun acc aq => addTo aq.1 aq.2 acc) acc) h = E acc h + E d h := by
  induction d generalizing acc with
  | nil => exact (add_zero _).symm
  | cons aq d ih => rw [List.foldl_cons, ih, E_addTo, add_assoc]; rfl

theorem E_filter_ne_zero {β} (d : Dist β) (h : β → ℚ) :
    E (d.filter fun aq => aq.2 != 0) h = E d h := by
  have hbne : ∀ q : ℚ, (q != 0) = true ↔ q ≠ 0 := fun _ => bne_iff_ne
  induction d with
  | nil => rfl
  | cons aq d ih =>
    obtain ⟨a, q⟩ := aq
    rw [List.filter_cons]
    by_cases hq : q = 0
    · rw [if_neg fun hb => (hbne q).mp hb hq, ih, E_cons, hq, zero_mul, zero_add]
    · rw [if_pos ((hbne q).mpr hq), E_cons, E_cons, ih]

/-- merging equal outcomes and dropping impossible ones does not change any expectation -/
theorem E_norm (d : Dist α) (h : α → ℚ) : E (norm d) h = E d h := by
  unfold norm
  rw [E_filter_ne_zero, E_foldl_addTo, E_nil, zero_add]
end norm

end Dist
end PhyModel
