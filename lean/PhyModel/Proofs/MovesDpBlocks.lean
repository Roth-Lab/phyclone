import PhyModel.Proofs.MovesDpForest
/-! The candidate lists of the data-point step form blocks on well-formed trees (`dpBlock_of_wf`): every
candidate list is a function `dpCore` of the tree with the data point removed, which the candidates share
up to equivalence.  Hence the unconditional invariance theorem of the data-point step. -/
namespace PhyModel
open Orders.Forest PhyModel.Moves Gibbs

namespace Canon

/-- well-formed tree: canonical representation, data points (outliers included) pairwise distinct and
below the sentinel, no empty clone -/
structure WFT (x : T) : Prop where
  canonF : canon x.f = x.f
  sortedOut : sortNat x.out = x.out
  nodup : (x.f.all ++ x.out).Nodup
  ne : NE x.f
  small : ∀ a ∈ x.f.all ++ x.out, a < big

instance decNE : ∀ f : DF, Decidable (NE f)
  | .nil => isTrue trivial
  | .cons d k s =>
    have := decNE k
    have := decNE s
    inferInstanceAs (Decidable (d ≠ [] ∧ NE k ∧ NE s))

instance (x : T) : Decidable (WFT x) :=
  decidable_of_iff (canon x.f = x.f ∧ sortNat x.out = x.out ∧ (x.f.all ++ x.out).Nodup ∧ NE x.f ∧
    ∀ a ∈ x.f.all ++ x.out, a < big)
    ⟨fun h => ⟨h.1, h.2.1, h.2.2.1, h.2.2.2.1, h.2.2.2.2⟩, fun h => ⟨h.1, h.2, h.3, h.4, h.5⟩⟩

theorem WFT.wf {x : T} (w : WFT x) : WF x.f :=
  ⟨(List.nodup_append.mp w.nodup).1, w.ne, fun a ha => w.small a (List.mem_append_left _ ha)⟩

theorem WFT.eq_mk' {x : T} (w : WFT x) {g : DF} (h : Eqv x.f g) {o : List Nat} (ho : x.out.Perm o) :
    x = T.mk' g o := by
  rw [← mk'_congr h w.wf ho]
  unfold T.mk'
  rw [w.canonF, w.sortedOut]

theorem one_lt_length_of_mem_ne {l : List Nat} {a b : Nat} (ha : a ∈ l) (hb : b ∈ l) (h : a ≠ b) :
    1 < l.length := by
  match l, ha, hb with
  | [c], ha, hb => exact absurd ((List.mem_singleton.mp ha).trans (List.mem_singleton.mp hb).symm) h
  | _ :: _ :: _, _, _ => exact Nat.succ_lt_succ (Nat.succ_pos _)

theorem holderSize_spec (i : Nat) (f : DF) :
    (∃ nd ∈ nodesOf f, i ∈ nd.1 ∧ holderSize i f = nd.1.length) ∨
      ((∀ nd ∈ nodesOf f, i ∉ nd.1) ∧ holderSize i f = 0) := by
  unfold holderSize
  cases hf : (nodesOf f).find? (fun nd => nd.1.contains i) with
  | none =>
    exact Or.inr ⟨fun nd hnd hi => by simpa [hi] using List.find?_eq_none.mp hf nd hnd, rfl⟩
  | some nd =>
    exact Or.inl ⟨nd, List.mem_of_find?_eq_some hf,
      List.contains_iff_mem.mp (List.find?_some (p := fun nd : List Nat × DF => nd.1.contains i) hf), rfl⟩

theorem holderSize_eq {f : DF} (w : WF f) {nd : List Nat × DF} (hnd : nd ∈ nodesOf f) {i : Nat}
    (hi : i ∈ nd.1) : holderSize i f = nd.1.length := by
  rcases holderSize_spec i f with ⟨nd', hnd', hi', e⟩ | ⟨hno, _⟩
  · rw [e, node_unique w hnd' hnd hi' hi]
  · exact absurd hi (hno nd hnd)

/-- the candidate list of the data-point step as a function of the tree with `i` removed -/
def dpCore (outl : Bool) (i : Nat) (f0 : DF) (out0 : List Nat) : List T :=
  ((nodesOf f0).map fun nd => T.mk' (addDpAt (nd.1.headD 0) i f0) out0) ++
    (if outl then [T.mk' f0 (out0 ++ [i])] else [])

theorem dpCands_eq (outl : Bool) (x : T) (i : Nat) :
    dpCands outl x i = dpCore outl i (removeDp i x.f) (x.out.filter (· != i)) := rfl

/-- the context of `dpCore` -/
structure Base (i : Nat) (f0 : DF) (out0 : List Nat) : Prop where
  wf : WF f0
  inf : i ∉ f0.all
  iout : i ∉ out0
  ibig : i < big

theorem mem_dpCore {outl : Bool} {i : Nat} {f0 : DF} {out0 : List Nat} (b : Base i f0 out0) {t : T} :
    t ∈ dpCore outl i f0 out0 ↔
      (∃ a ∈ f0.all, t = T.mk' (addDpAt a i f0) out0) ∨ (outl = true ∧ t = T.mk' f0 (out0 ++ [i])) := by
  unfold dpCore
  rw [List.mem_append, mem_map_headD b.wf (fun a => T.mk' (addDpAt a i f0) out0)
    fun nd hnd a ha c hc => by rw [addDpAt_congr_key i (same_node_iff b.wf hnd ha hc)]]
  apply or_congr Iff.rfl
  cases outl <;> simp

theorem dpCore_nodup {outl : Bool} {i : Nat} {f0 : DF} {out0 : List Nat} (b : Base i f0 out0) :
    (dpCore outl i f0 out0).Nodup := by
  unfold dpCore
  refine List.nodup_append.mpr ⟨?_, ?_, ?_⟩
  · -- `i` shares its clone with `c` in `addDpAt a i f0` iff `a` did in `f0`
    exact nodup_map_headD b.wf (fun a => addDpAt a i f0) out0 (together i) (together_eqv i)
      (fun a _ => addDpAt_wf a b.wf b.inf b.ibig)
      fun a _ c hc => together_addDpAt b.inf fun e => b.inf (e ▸ hc)
  · cases outl
    · exact List.nodup_nil
    · exact List.nodup_singleton _
  · intro t ht t' ht' e
    subst e
    obtain ⟨nd, _, rfl⟩ := List.mem_map.mp ht
    cases outl
    · exact absurd ht' List.not_mem_nil
    · have : sortNat out0 = sortNat (out0 ++ [i]) := congrArg T.out (List.mem_singleton.mp ht')
      have hi : i ∈ sortNat out0 := by rw [this, mem_sortNat]; exact List.mem_append_right _ (List.mem_singleton_self i)
      exact b.iout (mem_sortNat.mp hi)

/-- `dpCore` depends on the reduced tree only up to equivalence -/
theorem dpCore_perm {outl : Bool} {i : Nat} {f0 f0' : DF} {out0 out0' : List Nat} (b : Base i f0 out0)
    (hf : Eqv f0 f0') (ho : out0.Perm out0') : (dpCore outl i f0 out0).Perm (dpCore outl i f0' out0') := by
  have b' : Base i f0' out0' := ⟨hf.wf b.wf, fun h => b.inf (hf.all_perm.mem_iff.mpr h),
    fun h => b.iout (ho.mem_iff.mpr h), b.ibig⟩
  rw [List.perm_ext_iff_of_nodup (dpCore_nodup b) (dpCore_nodup b')]
  intro t
  rw [mem_dpCore b, mem_dpCore b']
  have e1 : ∀ a, T.mk' (addDpAt a i f0) out0 = T.mk' (addDpAt a i f0') out0' := fun a =>
    mk'_congr (addDpAt_eqv a i hf) (addDpAt_wf a b.wf b.inf b.ibig) ho
  have e2 : T.mk' f0 (out0 ++ [i]) = T.mk' f0' (out0' ++ [i]) := mk'_congr hf b.wf (ho.append_right _)
  apply or_congr
  · constructor
    · rintro ⟨a, ha, rfl⟩; exact ⟨a, hf.all_perm.mem_iff.mp ha, e1 a⟩
    · rintro ⟨a, ha, rfl⟩; exact ⟨a, hf.all_perm.mem_iff.mpr ha, (e1 a).symm⟩
  · rw [e2]

/-- every candidate reduces to the same tree when `i` is removed again, and `i` is movable in it -/
theorem dpCore_base {outl : Bool} {i : Nat} {f0 : DF} {out0 : List Nat} (b : Base i f0 out0) {y : T}
    (hy : y ∈ dpCore outl i f0 out0) :
    Eqv (removeDp i y.f) f0 ∧ (y.out.filter (· != i)).Perm out0 ∧ dpMovable y i = true := by
  rcases (mem_dpCore b).mp hy with ⟨a, ha, rfl⟩ | ⟨_, rfl⟩
  · have hai : a ≠ i := fun e => b.inf (e ▸ ha)
    refine ⟨?_, ?_, ?_⟩
    · exact (removeDp_eqv i (canon_eqv _)).trans (Eqv.of_eq (removeDp_addDpAt a b.inf))
    · show ((sortNat out0).filter (· != i)).Perm out0
      rw [List.filter_bne_eq_self_of_not_mem (fun h => b.iout (mem_sortNat.mp h))]
      exact sortNat_perm out0
    · have ht : together i a (canon (addDpAt a i f0)) = true := by
        rw [together_eqv i a (canon_eqv _), together_addDpAt b.inf hai]
        obtain ⟨nd, hnd, hand⟩ := mem_all_iff.mp ha
        exact together_iff.mpr ⟨nd, hnd, hand, hand⟩
      obtain ⟨nd, hnd, hi, ha'⟩ := together_iff.mp ht
      unfold dpMovable
      rw [Bool.or_eq_true, decide_eq_true_eq]; right
      show 1 < holderSize i (canon (addDpAt a i f0))
      rw [holderSize_eq (canon_wf (addDpAt_wf a b.wf b.inf b.ibig)) hnd hi]
      exact one_lt_length_of_mem_ne ha' hi hai
  · refine ⟨?_, ?_, ?_⟩
    · exact (removeDp_eqv i (canon_eqv f0)).trans (Eqv.of_eq (removeDp_of_not_mem b.inf))
    · show ((sortNat (out0 ++ [i])).filter (· != i)).Perm out0
      have := (sortNat_perm (out0 ++ [i])).filter (· != i)
      rw [List.filter_append, List.filter_bne_eq_self_of_not_mem b.iout] at this
      simpa using this
    · unfold dpMovable
      rw [Bool.or_eq_true]; left
      show (sortNat (out0 ++ [i])).contains i = true
      rw [List.contains_iff_mem, mem_sortNat]; simp

/-- a movable data point that is not an outlier sits in a clone with at least two points -/
theorem holder_of_movable {x : T} {i : Nat} (hm : dpMovable x i = true) (ho : i ∉ x.out) :
    ∃ nd ∈ nodesOf x.f, i ∈ nd.1 ∧ 1 < nd.1.length := by
  unfold dpMovable at hm
  rcases Bool.or_eq_true_iff.mp hm with hm | hm
  · exact absurd (List.contains_iff_mem.mp hm) ho
  · have hm : 1 < holderSize i x.f := of_decide_eq_true hm
    rcases holderSize_spec i x.f with ⟨nd, hnd, hi, e⟩ | ⟨_, e⟩
    · exact ⟨nd, hnd, hi, e ▸ hm⟩
    · exact absurd (e ▸ hm) (Nat.not_lt_zero 1)

theorem not_mem_out_of_mem_all {x : T} (w : WFT x) {i : Nat} (h : i ∈ x.f.all) : i ∉ x.out :=
  fun ho => (List.nodup_append.mp w.nodup).2.2 i h i ho rfl

theorem base_of_movable {x : T} (w : WFT x) {i : Nat} (hm : dpMovable x i = true) :
    Base i (removeDp i x.f) (x.out.filter (· != i)) := by
  refine ⟨removeDp_wf w.wf ?_, ?_, ?_, ?_⟩
  · intro nd hnd hi
    have ho := not_mem_out_of_mem_all w (mem_all_iff.mpr ⟨nd, hnd, hi⟩)
    obtain ⟨nd', hnd', hi', hlen⟩ := holder_of_movable hm ho
    rw [node_unique w.wf hnd hnd' hi hi']; exact hlen
  · rw [removeDp_all]; intro h; exact (mem_filter_ne.mp h).2 rfl
  · intro h; exact (mem_filter_ne.mp h).2 rfl
  · by_cases ho : i ∈ x.out
    · exact w.small i (List.mem_append_right _ ho)
    · obtain ⟨nd, hnd, hi, _⟩ := holder_of_movable hm ho
      exact w.small i (List.mem_append_left _ (mem_all_iff.mpr ⟨nd, hnd, hi⟩))

theorem self_mem_dpCands {outl : Bool} {x : T} (w : WFT x) {i : Nat} (hm : dpMovable x i = true)
    (hout : x.out ≠ [] → outl = true) : x ∈ dpCands outl x i := by
  rw [dpCands_eq, mem_dpCore (base_of_movable w hm)]
  by_cases ho : i ∈ x.out
  · right
    have hif : i ∉ x.f.all := fun h => not_mem_out_of_mem_all w h ho
    exact ⟨hout (List.ne_nil_of_mem ho), w.eq_mk' (Eqv.of_eq (removeDp_of_not_mem hif).symm)
      (filter_ne_append_perm (List.nodup_append.mp w.nodup).2.1 ho).symm⟩
  · left
    obtain ⟨nd, hnd, hi, hlen⟩ := holder_of_movable hm ho
    -- another point of the same clone
    obtain ⟨a, ha'⟩ := List.exists_mem_of_ne_nil _
      (filter_ne_ne_nil (i := i) ((nodes_nodup_pairwise w.wf.nodup).1 nd hnd) hlen)
    obtain ⟨ha, hai⟩ := mem_filter_ne.mp ha'
    refine ⟨a, ?_, ?_⟩
    · rw [removeDp_all, mem_filter_ne]; exact ⟨mem_all_iff.mpr ⟨nd, hnd, ha⟩, hai⟩
    · exact w.eq_mk' (addDpAt_removeDp_eqv w.wf.nodup hai (same_node_iff w.wf hnd ha hi))
        (List.Perm.of_eq (List.filter_bne_eq_self_of_not_mem ho).symm)

/-- The candidate lists of the data-point step form blocks on any list of well-formed trees that is
closed under the step. -/
theorem dpBlock_of_wf (outl : Bool) (S : List T) (i : Nat) (hwf : ∀ x ∈ S, WFT x)
    (hout : outl = false → ∀ x ∈ S, x.out = [])
    (hcl : ∀ x ∈ S, dpMovable x i = true → ∀ y ∈ dpCands outl x i, y ∈ S) : DpBlock outl S i := by
  have mem : ∀ {x}, x ∈ S.filter (fun x => dpMovable x i) → x ∈ S ∧ dpMovable x i = true :=
    fun hx => List.mem_filter.mp hx
  refine ⟨?_, ?_, ?_, ?_⟩
  · intro x hx
    exact self_mem_dpCands (hwf x (mem hx).1) (mem hx).2
      fun hne => eq_true_of_ne_false fun h => hne (hout h x (mem hx).1)
  · intro x hx
    rw [dpCands_eq]; exact dpCore_nodup (base_of_movable (hwf x (mem hx).1) (mem hx).2)
  · intro x hx y hy
    have hb := base_of_movable (hwf x (mem hx).1) (mem hx).2
    exact List.mem_filter.mpr ⟨hcl x (mem hx).1 (mem hx).2 y hy, (dpCore_base hb hy).2.2⟩
  · intro x hx y hy
    have hb := base_of_movable (hwf x (mem hx).1) (mem hx).2
    obtain ⟨hf, ho, _⟩ := dpCore_base hb hy
    rw [dpCands_eq, dpCands_eq]
    exact (dpCore_perm hb hf.symm ho.symm).symm

/-- the candidates are the support of the step -/
theorem mem_dpStep_of_mem_dpCands (c : Moves.Cfg) {x y : T} {i : Nat} (hm : dpMovable x i = true)
    (hy : y ∈ dpCands c.outliers x i) : ∃ yq ∈ dpStep c x i, yq.1 = y := by
  rw [dpStep_eq, if_pos hm]
  unfold gibbsK Dist.categorical
  simp only [List.mem_map, List.map_map]
  exact ⟨_, ⟨y, hy, rfl⟩, rfl⟩

/-- One Gibbs step of the data-point move leaves `π` invariant on any duplicate-free list of
well-formed trees closed under the step. -/
theorem dpStep_invariant (c : Moves.Cfg) (i : Nat) (S : List T) (hS : S.Nodup) (hwf : ∀ x ∈ S, WFT x)
    (hout : c.outliers = false → ∀ x ∈ S, x.out = [])
    (hcl : ∀ x ∈ S, ∀ yq ∈ dpStep c x i, yq.1 ∈ S)
    (hπ : ∀ x ∈ S, 0 ≤ pOneOf c x) : Gibbs.Inv S (pOneOf c) (fun x => dpStep c x i) := by
  apply dpStep_invariant_of_block c i S hS hπ
  apply dpBlock_of_wf c.outliers S i hwf hout
  intro x hx hm y hy
  obtain ⟨yq, hyq, rfl⟩ := mem_dpStep_of_mem_dpCands c hm hy
  exact hcl x hx yq hyq

end Canon
end PhyModel
