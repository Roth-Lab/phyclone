import PhyModel.Proofs.StoreWF_SF
/-! Forest lemmas, part 2 (C07): the payload-rewriting passes `updAll`, `updPath` (only the cached
`r` changes), `reindex` (only `idx` changes: consecutive fresh indices), `relabelSF` (only `name`
changes: consecutive labels), `setRec` and `Store.recAt`. -/
namespace PhyModel.Store
open Store.Store SF

/-- what well-formedness reads from a payload -/
def core (n : NodeRec) : Nat × Int × List Nat := (n.idx, n.name, n.dps)

def SF.cores (f : SF) : List (Nat × Int × List Nat) := f.recs.map core

theorem updAll_map {β} (h : NodeRec → β) (hh : ∀ n r, h { n with r := r } = h n) (dt : Data) (f : SF) :
    (updAll dt f).recs.map h = f.recs.map h := by
  induction f with
  | nil => rfl
  | cons n k s ihk ihs => simp [updAll, ihk, ihs, hh]

theorem updPath_map {β} (h : NodeRec → β) (hh : ∀ n r, h { n with r := r } = h n) (dt : Data) (i : Nat)
    (f : SF) : (updPath dt i f).1.recs.map h = f.recs.map h := by
  induction f with
  | nil => rfl
  | cons n k s ihk ihs =>
    simp only [updPath]
    split
    · simp [hh]
    · split
      · simp [hh, ihk]
      · simp [ihs]

theorem updAll_cores (dt : Data) (f : SF) : (updAll dt f).cores = f.cores :=
  updAll_map core (fun _ _ => rfl) dt f

theorem updPath_cores (dt : Data) (i : Nat) (f : SF) : (updPath dt i f).1.cores = f.cores :=
  updPath_map core (fun _ _ => rfl) dt i f

/-! ### `reindex` -/

theorem reindex_snd (f : SF) (c : Nat) : (reindex f c).2 = c + f.numNodes := by
  induction f generalizing c with
  | nil => rfl
  | cons n k s ihk ihs => simp only [reindex, ihs, ihk, SF.numNodes]; omega

theorem reindex_idxs (f : SF) (c : Nat) : (reindex f c).1.idxs = List.range' c f.numNodes := by
  induction f generalizing c with
  | nil => rfl
  | cons n k s ihk ihs =>
    simp only [reindex, idxs_cons, ihk, ihs, reindex_snd, SF.numNodes]
    rw [show 1 + k.numNodes + s.numNodes = (k.numNodes + s.numNodes) + 1 by omega, List.range'_succ]
    congr 1
    rw [← List.range'_append_1]

theorem reindex_map {β} (h : NodeRec → β) (hh : ∀ n c, h { n with idx := c } = h n) (f : SF) (c : Nat) :
    (reindex f c).1.recs.map h = f.recs.map h := by
  induction f generalizing c with
  | nil => rfl
  | cons n k s ihk ihs => simp [reindex, ihk, ihs, hh]

theorem reindex_names (f : SF) (c : Nat) : (reindex f c).1.names = f.names :=
  reindex_map (·.name) (fun _ _ => rfl) f c

theorem reindex_numNodes (f : SF) (c : Nat) : (reindex f c).1.numNodes = f.numNodes := by
  rw [numNodes_eq_names, numNodes_eq_names, reindex_names]

theorem reindex_idx_bounds {f : SF} {c : Nat} {n : NodeRec} (h : n ∈ (reindex f c).1.recs) :
    c ≤ n.idx ∧ n.idx < c + f.numNodes := by
  have : n.idx ∈ (reindex f c).1.idxs := List.mem_map_of_mem h
  rw [reindex_idxs, List.mem_range'_1] at this
  exact this

theorem reindex_idxs_nodup (f : SF) (c : Nat) : (reindex f c).1.idxs.Nodup := by
  rw [reindex_idxs]; exact List.nodup_range'

/-! ### `relabelSF` -/

theorem relabelSF_next (f : SF) (c : Int) : (relabelSF f c).2.1 = c + (f.numNodes : Int) := by
  induction f generalizing c with
  | nil => simp [relabelSF, SF.numNodes]
  | cons n k s ihk ihs => simp only [relabelSF, ihs, ihk, SF.numNodes]; push_cast; omega

theorem relabelSF_map {β} (h : NodeRec → β) (hh : ∀ n c, h { n with name := c } = h n) (f : SF) (c : Int) :
    (relabelSF f c).1.recs.map h = f.recs.map h := by
  induction f generalizing c with
  | nil => rfl
  | cons n k s ihk ihs => simp [relabelSF, ihk, ihs, hh]

theorem relabelSF_numNodes (f : SF) (c : Int) : (relabelSF f c).1.numNodes = f.numNodes := by
  rw [numNodes_eq, numNodes_eq, ← List.length_map (f := fun n => n.idx),
    relabelSF_map _ (fun _ _ => rfl), List.length_map]

theorem relabelSF_bounds {f : SF} {c : Int} {nm : Int} (h : nm ∈ (relabelSF f c).1.names) :
    c ≤ nm ∧ nm < c + (f.numNodes : Int) := by
  induction f generalizing c with
  | nil => simp [relabelSF] at h
  | cons n k s ihk ihs =>
    simp only [relabelSF, names_cons, List.mem_cons, List.mem_append] at h
    simp only [SF.numNodes]; push_cast
    rcases h with rfl | h | h
    · omega
    · have := ihk h; omega
    · have := ihs h; rw [relabelSF_next] at this; omega

theorem relabelSF_names_nodup (f : SF) (c : Int) : (relabelSF f c).1.names.Nodup := by
  induction f generalizing c with
  | nil => simp [relabelSF]
  | cons n k s ihk ihs =>
    simp only [relabelSF, names_cons, List.nodup_cons, List.mem_append, not_or, List.nodup_append]
    refine ⟨⟨fun h => ?_, fun h => ?_⟩, ihk _, ihs _, fun a ha b hb hab => ?_⟩
    · have := relabelSF_bounds h; omega
    · have := relabelSF_bounds h; rw [relabelSF_next] at this; omega
    · have h1 := relabelSF_bounds ha; have h2 := relabelSF_bounds hb
      rw [relabelSF_next] at h2; omega

theorem relabelSF_ren_fst (f : SF) (c : Int) : (relabelSF f c).2.2.map (·.1) = f.names := by
  induction f generalizing c with
  | nil => rfl
  | cons n k s ihk ihs => simp [relabelSF, ihk, ihs]

theorem relabelSF_ren_snd (f : SF) (c : Int) : (relabelSF f c).2.2.map (·.2) = (relabelSF f c).1.names := by
  induction f generalizing c with
  | nil => rfl
  | cons n k s ihk ihs => simp [relabelSF, ihk, ihs]

/-- each relabelled payload is an old payload under its new name, and the renaming records the pair -/
theorem relabelSF_mem {f : SF} {c : Int} {n' : NodeRec} (h : n' ∈ (relabelSF f c).1.recs) :
    ∃ n ∈ f.recs, n' = { n with name := n'.name } ∧ (n.name, n'.name) ∈ (relabelSF f c).2.2 := by
  induction f generalizing c with
  | nil => simp [relabelSF] at h
  | cons n k s ihk ihs =>
    simp only [relabelSF, recs_cons, List.mem_cons, List.mem_append] at h
    rcases h with rfl | h | h
    · exact ⟨n, by simp, rfl, by simp [relabelSF]⟩
    · obtain ⟨m, hm, h1, h2⟩ := ihk h
      exact ⟨m, by simp [hm], h1, by simp [relabelSF, h2]⟩
    · obtain ⟨m, hm, h1, h2⟩ := ihs h
      exact ⟨m, by simp [hm], h1, by simp [relabelSF, h2]⟩

/-! ### `setRec` -/

theorem recs_setRec (i : Nat) (g : NodeRec → NodeRec) (f : SF) :
    (setRec i g f).recs = f.recs.map (fun n => if n.idx = i then g n else n) := recs_mapRecs _ f

theorem recAt_some {s : Store} {i : Nat} {n : NodeRec} (h : s.recAt i = some n) :
    ∃ k, s.forest.findSub i = some (n, k) := by
  obtain ⟨x, hx, rfl⟩ := Option.map_eq_some_iff.1 h
  exact ⟨x.2, hx⟩

end PhyModel.Store
