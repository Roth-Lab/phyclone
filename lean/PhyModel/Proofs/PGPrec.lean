import PhyModel.Proofs.PGLevel
import PhyModel.Proofs.OrdersUniform
/-! # C01 instance: forests up to sibling order (`Canon.Eqv`) built from root lists, the
"must come before" pairs `Orders.prec` of such forests, and the first half of
`reachable_iff_order`: a tree reached along `σ` has `σ` among its compatible orders. -/

namespace PhyModel.PG
open Orders Orders.Forest Proposal PGSpec Canon

theorem ne_iff : ∀ f : DF, AllNonempty f ↔ NE f
  | .nil => Iff.rfl
  | .cons d k s => by
    simp only [AllNonempty, NE, ne_iff k, ne_iff s]

theorem eqv_ofRoots_cons (a : List ℕ × DF) {l l' : List (List ℕ × DF)}
    (h : Eqv (ofRoots l) (ofRoots l')) : Eqv (ofRoots (a :: l)) (ofRoots (a :: l')) :=
  .cons (List.Perm.refl _) (Eqv.refl _) h

theorem eqv_ofRoots_perm {l l' : List (List ℕ × DF)} (h : l.Perm l') : Eqv (ofRoots l) (ofRoots l') := by
  induction h with
  | nil => exact Eqv.refl _
  | cons a _ ih => exact eqv_ofRoots_cons a ih
  | swap a b l => exact .swap _ _ _ _ _
  | trans _ _ ih₁ ih₂ => exact ih₁.trans ih₂

theorem eqv_ofRoots_head {d d' : List ℕ} {k k' : DF} (hd : d.Perm d') (hk : Eqv k k')
    (l : List (List ℕ × DF)) : Eqv (ofRoots ((d, k) :: l)) (ofRoots ((d', k') :: l)) :=
  .cons hd hk (Eqv.refl _)

/-! ### `prec` -/

theorem mem_prec_cons {d : List ℕ} {k s : DF} {ab : ℕ × ℕ} :
    ab ∈ prec (.cons d k s) ↔ ((ab.1 ∈ k.all ∧ ab.2 ∈ d) ∨ ab ∈ prec k) ∨ ab ∈ prec s := by
  obtain ⟨a, b⟩ := ab
  simp only [mem_prec_iff, Prod.mk.injEq, exists_eq_right_right]

theorem mem_prec_eqv {f g : DF} (h : Eqv f g) (ab : ℕ × ℕ) : ab ∈ prec f ↔ ab ∈ prec g := by
  induction h with
  | nil => exact Iff.rfl
  | cons hd hk _ ihk ihs =>
    rw [mem_prec_cons, mem_prec_cons, ihk, ihs, hd.mem_iff, hk.all_perm.mem_iff]
  | swap d₁ k₁ d₂ k₂ s =>
    simp only [mem_prec_cons]
    exact or_left_comm
  | trans _ _ ih₁ ih₂ => exact ih₁.trans ih₂

theorem mem_prec_ofRoots {l : List (List ℕ × DF)} {ab : ℕ × ℕ} :
    ab ∈ prec (ofRoots l) ↔ ∃ r ∈ l, (ab.1 ∈ r.2.all ∧ ab.2 ∈ r.1) ∨ ab ∈ prec r.2 := by
  induction l with
  | nil => simp only [ofRoots, prec, List.not_mem_nil, false_and, exists_false]
  | cons r l ih => simp only [ofRoots, mem_prec_cons, ih, List.mem_cons, exists_eq_or_imp]

theorem mem_prec_roots {f : DF} {ab : ℕ × ℕ} :
    ab ∈ prec f ↔ ∃ r ∈ f.roots, (ab.1 ∈ r.2.all ∧ ab.2 ∈ r.1) ∨ ab ∈ prec r.2 := by
  rw [← mem_prec_ofRoots, ofRoots_roots]

/-- the pairs of a placement: those of the parent, and "everything below the new data point's clone
comes before the new data point" -/
theorem prec_placement (p : T) (i : ℕ) (kt : Kind × T) (hkt : kt ∈ placements p i) (ab : ℕ × ℕ)
    (hab : ab ∈ prec kt.2.f) : ab ∈ prec p.f ∨ (ab.2 = i ∧ ab.1 ∈ p.f.all) := by
  rcases mem_placements.mp hkt with ⟨j, hj, rfl⟩ | ⟨cr, hcr, rfl⟩ | rfl
  · obtain ⟨r, hr, h⟩ := mem_prec_ofRoots.mp ((mem_prec_eqv (canon_eqv _) ab).mp hab)
    rcases addAt_mem i j _ r hr with hr | ⟨d, k, hm, rfl⟩
    · exact Or.inl (mem_prec_roots.mpr ⟨r, hr, h⟩)
    · rcases h with ⟨h1, h2⟩ | h
      · rcases List.mem_append.mp h2 with h2 | h2
        · exact Or.inl (mem_prec_roots.mpr ⟨(d, k), hm, Or.inl ⟨h1, h2⟩⟩)
        · exact Or.inr ⟨List.mem_singleton.mp h2, (mem_all_iff_roots _ _).mpr ⟨(d, k), hm, Or.inr h1⟩⟩
      · exact Or.inl (mem_prec_roots.mpr ⟨(d, k), hm, Or.inr h⟩)
  · obtain ⟨hc, hr, _⟩ := mem_splits _ _ hcr
    obtain ⟨r, hr', h⟩ := mem_prec_ofRoots.mp ((mem_prec_eqv (canon_eqv _) ab).mp hab)
    rcases List.mem_cons.mp hr' with rfl | hr'
    · rcases h with ⟨h1, h2⟩ | h
      · refine Or.inr ⟨List.mem_singleton.mp h2, ?_⟩
        rw [all_ofRoots, List.mem_flatMap] at h1
        obtain ⟨z, hz, h1⟩ := h1
        exact (mem_all_iff_roots _ _).mpr ⟨z, hc z hz, (List.mem_append.mp h1).symm⟩
      · obtain ⟨z, hz, h⟩ := mem_prec_ofRoots.mp h
        exact Or.inl (mem_prec_roots.mpr ⟨z, hc z hz, h⟩)
    · exact Or.inl (mem_prec_roots.mpr ⟨r, hr r hr', h⟩)
  · exact Or.inl ((mem_prec_eqv (canon_eqv _) ab).mp hab)

/-- **a tree reached along `σ` is compatible with `σ`** (at every level, with the prefix placed so far) -/
theorem level_compat (c : Cfg) (σ : List ℕ) (t : ℕ) (x : T) (hx : x ∈ level c σ t) :
    CompatAll x.f x.out (σ.take t) := by
  refine ⟨(level_inv c σ t x hx).perm.symm, ?_⟩
  revert t x
  refine level_induction (by simp [T.empty, prec]) fun t hlt p hp ih kt hkt _ ab hab => ?_
  rw [List.take_succ_eq_append_getElem hlt]
  rcases prec_placement p _ kt hkt ab hab with h | ⟨h2, h1⟩
  · exact (ih ab h).trans (List.sublist_append_left _ _)
  · have hmem : ab.1 ∈ σ.take t :=
      (level_inv c σ t p hp).perm.subset (List.mem_append_left _ h1)
    rw [h2]
    exact List.Sublist.append (List.singleton_sublist.mpr hmem) (List.Sublist.refl [σ[t]])

end PhyModel.PG
