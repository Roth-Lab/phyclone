import PhyModel.Proofs.StoreWF_SF2
/-! C06, generic layer: the cache invariant split into its `p`-part (`POK`) and its `r`-part (`ROK`),
the `r`-part "except on the path to node `i`" (`ROKx`), and the two recomputation passes:
`updAll` establishes `ROK` outright, `updPath i` turns `ROKx i` into `ROK`.  (What the forest functions do
to the preorder payload list `recs` is in `Proofs/StoreWF_SF.lean` and `Proofs/StoreWF_SF2.lean`.) -/
namespace PhyModel.Store.C06

/-! ### the invariant in parts -/

/-- `p`-part of the cache invariant: every clone's `p` is the prior times its data -/
def POK (dt : Data) : SF → Prop
  | .nil => True
  | .cons n k s => n.p = (List.range dt.S).map (fun sm => nodeP dt sm n.dps) ∧ POK dt k ∧ POK dt s

/-- `r`-part of the cache invariant, with the nodes satisfying `E n kids` excused -/
def ROKe (dt : Data) (E : NodeRec → SF → Prop) : SF → Prop
  | .nil => True
  | .cons n k s => (E n k ∨ n.r = recompR dt n k) ∧ ROKe dt E k ∧ ROKe dt E s

/-- every clone's `r` is `p ⊙ S(children's r)` -/
def ROK (dt : Data) : SF → Prop := ROKe dt fun _ _ => False

/-- "OK except on the path to `i`": the `r`-equation may fail at node `i` and at its ancestors only -/
def ROKx (dt : Data) (i : Nat) : SF → Prop := ROKe dt fun n k => n.idx = i ∨ i ∈ k.idxs

/-- the `r`-equation may fail at the proper ancestors of node `i` only -/
def ROKs (dt : Data) (i : Nat) : SF → Prop := ROKe dt fun _ k => i ∈ k.idxs

theorem ROKe_mono {dt : Data} {E E' : NodeRec → SF → Prop} (h : ∀ n k, E n k → E' n k) :
    ∀ f, ROKe dt E f → ROKe dt E' f
  | .nil, _ => trivial
  | .cons n k s, ⟨h1, h2, h3⟩ =>
    ⟨h1.elim (fun e => Or.inl (h n k e)) Or.inr, ROKe_mono h k h2, ROKe_mono h s h3⟩

theorem ROK.toROKx {dt : Data} {f : SF} (i : Nat) (h : ROK dt f) : ROKx dt i f :=
  ROKe_mono (fun _ _ e => e.elim) f h
theorem ROK.toROKs {dt : Data} {f : SF} (i : Nat) (h : ROK dt f) : ROKs dt i f :=
  ROKe_mono (fun _ _ e => e.elim) f h
theorem ROKs.toROKx {dt : Data} {f : SF} {i : Nat} (h : ROKs dt i f) : ROKx dt i f :=
  ROKe_mono (fun _ _ e => Or.inr e) f h

theorem ROK_cons {dt : Data} {n : NodeRec} {k s : SF} :
    ROK dt (.cons n k s) ↔ n.r = recompR dt n k ∧ ROK dt k ∧ ROK dt s := by
  simp [ROK, ROKe]

theorem ROKx_cons {dt : Data} {i : Nat} {n : NodeRec} {k s : SF} :
    ROKx dt i (.cons n k s) ↔
      ((n.idx = i ∨ i ∈ k.idxs) ∨ n.r = recompR dt n k) ∧ ROKx dt i k ∧ ROKx dt i s := Iff.rfl

theorem ROKs_cons {dt : Data} {i : Nat} {n : NodeRec} {k s : SF} :
    ROKs dt i (.cons n k s) ↔ (i ∈ k.idxs ∨ n.r = recompR dt n k) ∧ ROKs dt i k ∧ ROKs dt i s :=
  Iff.rfl

theorem cacheOKsf_iff (dt : Data) (f : SF) : CacheOKsf dt f ↔ POK dt f ∧ ROK dt f := by
  induction f with
  | nil => exact ⟨fun _ => ⟨trivial, trivial⟩, fun _ => trivial⟩
  | cons n k s ihk ihs =>
    rw [ROK_cons]
    show _ ∧ _ ∧ CacheOKsf dt k ∧ CacheOKsf dt s ↔ (_ ∧ POK dt k ∧ POK dt s) ∧ _
    rw [ihk, ihs]
    exact ⟨fun ⟨a, b, ⟨c, d⟩, e, g⟩ => ⟨⟨a, c, e⟩, b, d, g⟩,
      fun ⟨⟨a, c, e⟩, b, d, g⟩ => ⟨a, b, ⟨c, d⟩, e, g⟩⟩

/-! ### indices -/

@[simp] theorem idxs_nil : SF.nil.idxs = [] := rfl
@[simp] theorem names_nil : SF.nil.names = [] := rfl
@[simp] theorem names_cons (n : NodeRec) (k s : SF) :
    (SF.cons n k s).names = n.name :: (k.names ++ s.names) := by simp [SF.names, SF.recs]

theorem numNodes_cons (n : NodeRec) (k s : SF) :
    (SF.cons n k s).numNodes = 1 + k.numNodes + s.numNodes := rfl

theorem mem_idxs_cons {i : Nat} {n : NodeRec} {k s : SF} :
    i ∈ (SF.cons n k s).idxs ↔ n.idx = i ∨ i ∈ k.idxs ∨ i ∈ s.idxs := by
  rw [SF.idxs_cons, List.mem_cons, List.mem_append, eq_comm]

theorem not_mem_idxs_cons {i : Nat} {n : NodeRec} {k s : SF} :
    i ∉ (SF.cons n k s).idxs ↔ n.idx ≠ i ∧ i ∉ k.idxs ∧ i ∉ s.idxs := by
  rw [mem_idxs_cons, not_or, not_or]

theorem nodup_cons_idxs {n : NodeRec} {k s : SF} (h : (SF.cons n k s).idxs.Nodup) :
    n.idx ∉ k.idxs ∧ n.idx ∉ s.idxs ∧ k.idxs.Nodup ∧ s.idxs.Nodup ∧
      (∀ j, j ∈ k.idxs → j ∉ s.idxs) := by
  rw [SF.idxs_cons, List.nodup_cons, List.nodup_append] at h
  obtain ⟨h1, h2, h3, h4⟩ := h
  rw [List.mem_append, not_or] at h1
  exact ⟨h1.1, h1.2, h2, h3, fun j hj hj' => h4 j hj j hj' rfl⟩

/-- if `i` does not occur, the `r`-part except on the path to `i` is the whole `r`-part -/
theorem ROKx.toROK {dt : Data} {i : Nat} : ∀ {f : SF}, i ∉ f.idxs → ROKx dt i f → ROK dt f
  | .nil, _, _ => trivial
  | .cons n k s, hi, h => by
    rw [not_mem_idxs_cons] at hi
    exact ROK_cons.2 ⟨h.1.resolve_left (not_or.2 ⟨hi.1, hi.2.1⟩), ROKx.toROK hi.2.1 h.2.1,
      ROKx.toROK hi.2.2 h.2.2⟩

theorem ROKs.toROK {dt : Data} {i : Nat} {f : SF} (hi : i ∉ f.idxs) (h : ROKs dt i f) : ROK dt f :=
  ROKx.toROK hi h.toROKx

/-! ### `updAll` -/

theorem recompR_setR (dt : Data) (n : NodeRec) (x : List Vec) (k : SF) :
    recompR dt { n with r := x } k = recompR dt n k := rfl

/-- `Tree.update` makes every `r`-equation true, whatever the `r`s were before -/
theorem ROK_updAll (dt : Data) : ∀ f, ROK dt (updAll dt f)
  | .nil => trivial
  | .cons n k s => by
    rw [updAll, ROK_cons]
    exact ⟨rfl, ROK_updAll dt k, ROK_updAll dt s⟩

theorem POK_updAll (dt : Data) : ∀ f, POK dt f → POK dt (updAll dt f)
  | .nil, _ => trivial
  | .cons _ k s, ⟨h1, h2, h3⟩ => ⟨h1, POK_updAll dt k h2, POK_updAll dt s h3⟩

theorem cacheOKsf_updAll (dt : Data) (f : SF) (h : POK dt f) : CacheOKsf dt (updAll dt f) :=
  (cacheOKsf_iff dt _).2 ⟨POK_updAll dt f h, ROK_updAll dt f⟩

theorem isNil_updAll (dt : Data) (f : SF) : (updAll dt f).isNil = f.isNil := by
  cases f <;> rfl

/-! ### `updPath` -/

theorem updPath_cons (dt : Data) (i : Nat) (n : NodeRec) (k s : SF) :
    updPath dt i (.cons n k s) =
      if n.idx = i then (.cons { n with r := recompR dt n k } k s, true)
      else if (updPath dt i k).2 = true then
        (.cons { n with r := recompR dt n (updPath dt i k).1 } (updPath dt i k).1 s, true)
      else (.cons n k (updPath dt i s).1, (updPath dt i s).2) := rfl

theorem updPath_found (dt : Data) (i : Nat) : ∀ f, (updPath dt i f).2 = true ↔ i ∈ f.idxs
  | .nil => ⟨nofun, nofun⟩
  | .cons n k s => by
    rw [updPath_cons, mem_idxs_cons, ← updPath_found dt i k, ← updPath_found dt i s]
    by_cases h1 : n.idx = i
    · rw [if_pos h1]
      exact ⟨fun _ => Or.inl h1, fun _ => rfl⟩
    · rw [if_neg h1, or_iff_right h1]
      by_cases h2 : (updPath dt i k).2 = true
      · rw [if_pos h2]
        exact ⟨fun _ => Or.inl h2, fun _ => rfl⟩
      · rw [if_neg h2, or_iff_right h2]

/-- recomputing along the path from `i` to the top repairs exactly the excused equations -/
theorem ROK_updPath (dt : Data) (i : Nat) (f : SF) :
    f.idxs.Nodup → ROKx dt i f → ROK dt (updPath dt i f).1 := by
  induction f with
  | nil => exact fun _ _ => trivial
  | cons n k s ihk ihs =>
    intro hnd h
    obtain ⟨hnk, hns, hk, hs, hks⟩ := nodup_cons_idxs hnd
    rw [ROKx_cons] at h
    rw [updPath_cons]
    by_cases h1 : n.idx = i
    · rw [if_pos h1, ROK_cons]
      exact ⟨rfl, ROKx.toROK (h1 ▸ hnk) h.2.1, ROKx.toROK (h1 ▸ hns) h.2.2⟩
    · rw [if_neg h1]
      by_cases h2 : (updPath dt i k).2 = true
      · rw [if_pos h2, ROK_cons]
        have hik := (updPath_found dt i k).1 h2
        exact ⟨rfl, ihk hk h.2.1, ROKx.toROK (hks i hik) h.2.2⟩
      · rw [if_neg h2]
        have hik : i ∉ k.idxs := fun e => h2 ((updPath_found dt i k).2 e)
        exact ROK_cons.2 ⟨h.1.resolve_left (not_or.2 ⟨h1, hik⟩), ROKx.toROK hik h.2.1,
          ihs hs h.2.2⟩

theorem POK_updPath (dt : Data) (i : Nat) (f : SF) : POK dt f → POK dt (updPath dt i f).1 := by
  induction f with
  | nil => exact id
  | cons n k s ihk ihs =>
    intro h
    rw [updPath_cons]
    split
    · exact h
    · split
      · exact ⟨h.1, ihk h.2.1, h.2.2⟩
      · exact ⟨h.1, h.2.1, ihs h.2.2⟩

theorem isNil_updPath (dt : Data) (i : Nat) (f : SF) : (updPath dt i f).1.isNil = f.isNil := by
  cases f with
  | nil => rfl
  | cons n k s =>
    rw [updPath_cons]
    split
    · rfl
    · split <;> rfl

/-- `updPath i` re-establishes the cache invariant when the only violated `r`-equations are those
of the nodes on the path from `i` to the top -/
theorem cacheOKsf_updPath (dt : Data) (i : Nat) (f : SF) (hnd : f.idxs.Nodup) (hp : POK dt f)
    (hr : ROKx dt i f) : CacheOKsf dt (updPath dt i f).1 :=
  (cacheOKsf_iff dt _).2 ⟨POK_updPath dt i f hp, ROK_updPath dt i f hnd hr⟩

end PhyModel.Store.C06
