import PhyModel.Model.RunLoop
import Mathlib.Algebra.Order.Field.Rat
/-! Helper lemmas for C19: the guards of the run-loop skeleton never fire on inputs in range. -/
namespace PhyModel.RunLoop

theorem ok_bind {α β} (a : α) (f : α → R β) : (Except.ok a >>= f) = f a := rfl

theorem idx_ok {α} (l : List α) (i : ℕ) (h : i < l.length) : idx l i = .ok l[i] := by
  unfold idx
  rw [List.getElem?_eq_getElem h]
  rfl

theorem idx_zero_ok {α} (a : α) (l : List α) : idx (a :: l) 0 = .ok a := rfl

theorem pyMod_ok (a b : ℕ) (h : 1 ≤ b) : pyMod a b = .ok (a % b) :=
  if_neg (Nat.ne_of_gt h)

theorem fromPath_ok (T i : ℕ) (h1 : 1 ≤ i) (h2 : i ≤ T) : fromPath T i = .ok ⟨i, 0⟩ := by
  obtain ⟨j, rfl⟩ := Nat.exists_eq_add_one_of_ne_zero (Nat.ne_of_gt h1)
  have : (path T)[j + 1]? = some (some ⟨j + 1, 0⟩) := by
    rw [path, List.getElem?_cons_succ, List.getElem?_map, List.getElem?_range h2]
    rfl
  unfold fromPath idx
  rw [this]
  rfl

theorem fromPath_fail (T i : ℕ) (h : T < i) : fromPath T i = .error .indexOutOfRange := by
  have : (path T)[i]? = none := by
    apply List.getElem?_eq_none
    rw [path, List.length_cons, List.length_map, List.length_range]
    exact h
  unfold fromPath idx
  rw [this]
  rfl

theorem expand_length (sw : List P) : ∀ ms : List ℕ, ms.length = sw.length → (expand sw ms).length = ms.sum := by
  induction sw with
  | nil =>
    intro ms h
    rw [List.length_eq_zero_iff.1 h]
    rfl
  | cons p ps ih =>
    intro ms h
    obtain ⟨m, ms, rfl⟩ := List.exists_cons_of_length_eq_add_one h
    show (List.replicate m p ++ expand ps ms).length = _
    rw [List.length_append, List.length_replicate, ih ms (Nat.succ.inj h), List.sum_cons]

theorem initSwarm_ok (N T : ℕ) (hN : 1 ≤ N) (hT : 1 ≤ T) :
    ∃ sw, initSwarm N T = .ok sw ∧ sw.length = N ∧ sw.head? = some ⟨1, 0⟩ := by
  refine ⟨⟨1, 0⟩ :: (List.range (N - 1)).map fun j => ⟨1, j + 1⟩, ?_, ?_, rfl⟩
  · unfold initSwarm
    rw [fromPath_ok T 1 (le_refl 1) hT]
    rfl
  · rw [List.length_cons, List.length_map, List.length_range, Nat.sub_add_cancel hN]

theorem resampleStep_ok (N : ℕ) (sw : List P) (fire : Bool) (mult : List ℕ) (hN : 1 ≤ N)
    (hl : sw.length = N) (hm : mult.length = N) (hs : mult.sum = N - 1) :
    ∃ sw', resampleStep N sw fire mult = .ok sw' ∧ sw'.length = N ∧ sw'.head? = sw.head? := by
  obtain ⟨p, ps, rfl⟩ := List.exists_cons_of_length_pos (hl ▸ hN)
  cases fire with
  | false => exact ⟨p :: ps, rfl, hl, rfl⟩
  | true =>
    refine ⟨p :: expand (p :: ps) mult, ?_, ?_, rfl⟩
    · have hd : drawsGuard ((N : ℤ) - 1) = .ok ((N : ℤ) - 1).toNat :=
        if_neg (Int.not_lt.2 (Int.sub_nonneg_of_le (Int.ofNat_le.2 hN)))
      unfold resampleStep
      rw [hd]
      rfl
    · rw [List.length_cons, expand_length _ _ (hm.trans hl.symm), hs, Nat.sub_add_cancel hN]

theorem updateStep_ok (N T it : ℕ) (sw : List P) (hN : 1 ≤ N) (hl : sw.length = N) (h2 : it + 1 ≤ T) :
    ∃ sw', updateStep T it sw = .ok sw' ∧ sw'.length = N ∧ sw'.head? = some ⟨it + 1, 0⟩ := by
  obtain ⟨p, ps, rfl⟩ := List.exists_cons_of_length_pos (hl ▸ hN)
  refine ⟨⟨it + 1, 0⟩ :: (List.range ((p :: ps).length - 1)).map fun j => ⟨it + 1, j + 1⟩, ?_, ?_, rfl⟩
  · unfold updateStep
    rw [fromPath_ok T (it + 1) (Nat.le_add_left 1 it) h2]
    rfl
  · rw [List.length_cons, List.length_map, List.length_range, hl, Nat.sub_add_cancel hN]

theorem loop_ok (N T : ℕ) (o : Oracle) (hN : 1 ≤ N)
    (hm : ∀ k, (o.mult k).length = N ∧ (o.mult k).sum = N - 1) :
    ∀ (fuel it : ℕ) (sw : List P), it ≤ T → T ≤ it + fuel → sw.length = N → sw.head? = some ⟨it, 0⟩ →
      ∃ sw', loop N T o fuel it sw = .ok sw' ∧ sw'.length = N ∧ sw'.head? = some ⟨T, 0⟩ := by
  intro fuel
  induction fuel with
  | zero =>
    intro it sw h1 h2 hl hh
    obtain rfl : it = T := Nat.le_antisymm h1 h2
    exact ⟨sw, rfl, hl, hh⟩
  | succ fuel ih =>
    intro it sw h1 h2 hl hh
    show ∃ sw', (if it < T then _ else _) = _ ∧ _
    by_cases hlt : it < T
    · have h2' : T ≤ it + 1 + fuel := Nat.add_right_comm it fuel 1 ▸ h2
      obtain ⟨sw1, e1, l1, hd1⟩ := updateStep_ok N T it sw hN hl hlt
      rw [if_pos hlt, e1, ok_bind]
      dsimp only
      split
      · obtain ⟨sw2, e2, l2, hd2⟩ := resampleStep_ok N sw1 (o.fire it) (o.mult it) hN l1 (hm it).1 (hm it).2
        rw [e2, ok_bind]
        exact ih (it + 1) sw2 hlt h2' l2 (hd2.trans hd1)
      · exact ih (it + 1) sw1 hlt h2' l1 hd1
    · obtain rfl : it = T := Nat.le_antisymm h1 (Nat.le_of_not_lt hlt)
      rw [if_neg hlt]
      exact ⟨sw, rfl, hl, hh⟩

theorem csmc_ok (N T : ℕ) (o : Oracle) (hN : 1 ≤ N) (hT : 1 ≤ T)
    (hm : ∀ k, (o.mult k).length = N ∧ (o.mult k).sum = N - 1) :
    ∃ sw, csmc N T o = .ok sw ∧ sw.length = N ∧ sw.head? = some ⟨T, 0⟩ := by
  obtain ⟨sw0, e0, l0, hd0⟩ := initSwarm_ok N T hN hT
  obtain ⟨sw1, e1, l1, hd1⟩ := resampleStep_ok N sw0 (o.fire 0) (o.mult 0) hN l0 (hm 0).1 (hm 0).2
  unfold csmc
  rw [e0, ok_bind, e1, ok_bind]
  exact loop_ok N T o hN hm T 1 sw1 hT (Nat.le_add_left T 1) l1 (hd1.trans hd0)

/-! ### subtree node choice -/

theorem choice_ok {α} (l : List α) (u : ℕ) (h : l.length ≠ 0) : ∃ a, choice l u = .ok a ∧ a ∈ l := by
  have hlt : u % l.length < l.length := Nat.mod_lt _ (Nat.pos_of_ne_zero h)
  refine ⟨l[u % l.length], ?_, List.getElem_mem _⟩
  rw [choice, if_neg h, idx_ok l _ hlt]

theorem filterMap_id_nil_iff (labels : List (Option ℕ)) :
    (labels.filterMap id).length = 0 ↔ ∀ l ∈ labels, l = none := by
  rw [List.length_eq_zero_iff, List.filterMap_eq_nil_iff]
  rfl

theorem choice_empty {α} (l : List α) (u : ℕ) (h : l.length = 0) : choice l u = .error .emptyChoice :=
  if_pos h

theorem subtreeStep_nil (labels : List (Option ℕ)) (u : ℕ) (h : (labels.filterMap id).length = 0) :
    subtreeStep labels u = .ok .fallback :=
  if_pos h

theorem subtreeStep_node (labels : List (Option ℕ)) (u a : ℕ) (h : (labels.filterMap id).length ≠ 0)
    (ha : choice (labels.filterMap id) u = .ok a) : subtreeStep labels u = .ok (.node a) := by
  show (if (labels.filterMap id).length = 0 then _ else _) = _
  rw [if_neg h, ha]
  rfl

theorem subtreeStepOld_nil (labels : List (Option ℕ)) (u : ℕ) (h : (labels.filterMap id).length = 0) :
    subtreeStepOld labels u = .error .emptyChoice := by
  unfold subtreeStepOld
  rw [choice_empty _ u h]
  rfl

theorem subtreeStepOld_node (labels : List (Option ℕ)) (u a : ℕ)
    (ha : choice (labels.filterMap id) u = .ok a) : subtreeStepOld labels u = .ok (.node a) := by
  unfold subtreeStepOld
  rw [ha]
  rfl

/-! ### weights -/

theorem total_cons (a : ℚ) (l : List ℚ) : total (a :: l) = a + total l := rfl

theorem total_nonneg (ws : List ℚ) (hp : ∀ w ∈ ws, 0 < w) : 0 ≤ total ws := by
  induction ws with
  | nil => exact le_refl _
  | cons a l ih =>
    rw [total_cons]
    exact add_nonneg (hp a List.mem_cons_self).le (ih fun w hw => hp w (List.mem_cons_of_mem a hw))

theorem total_pos (ws : List ℚ) (hne : ws ≠ []) (hp : ∀ w ∈ ws, 0 < w) : 0 < total ws := by
  obtain ⟨a, l, rfl⟩ := List.exists_cons_of_ne_nil hne
  rw [total_cons]
  exact add_pos_of_pos_of_nonneg (hp a List.mem_cons_self)
    (total_nonneg l fun w hw => hp w (List.mem_cons_of_mem a hw))

theorem total_map_div (ws : List ℚ) (s : ℚ) : total (ws.map (· / s)) = total ws / s := by
  induction ws with
  | nil => exact (zero_div s).symm
  | cons a l ih => rw [List.map_cons, total_cons, total_cons, ih, add_div]

theorem particlesGuard_ok (c : Cfg) (h : 1 ≤ c.numParticles) : particlesGuard c = .ok () :=
  if_neg fun hc => Nat.ne_of_gt h hc.1

end PhyModel.RunLoop
