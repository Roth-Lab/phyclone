import PhyModel.Proofs.TablePos
import PhyModel.Proofs.PropKeys
/-! Placing data point `i` on a parent state produces trees that mention only the parent's data
points and `i` (canonicalisation included), so `Good` is inherited by every placement. -/
namespace PhyModel
open Orders.Forest C19P

namespace Proposal

theorem addAt_mem (i : ℕ) : ∀ (j : ℕ) (rs : List (List ℕ × DF)) (y : List ℕ × DF), y ∈ addAt i j rs →
    y ∈ rs ∨ ∃ d k, (d, k) ∈ rs ∧ y = (d ++ [i], k) := by
  intro j rs
  induction rs generalizing j with
  | nil => intro y h; cases j <;> exact absurd h List.not_mem_nil
  | cons x r ih =>
    intro y h
    obtain ⟨d, k⟩ := x
    cases j with
    | zero =>
      rcases List.mem_cons.mp h with rfl | h
      · exact Or.inr ⟨d, k, List.mem_cons_self, rfl⟩
      · exact Or.inl (List.mem_cons_of_mem _ h)
    | succ j =>
      rcases List.mem_cons.mp h with rfl | h
      · exact Or.inl List.mem_cons_self
      · exact (ih j y h).imp (List.mem_cons_of_mem _)
          fun ⟨d, k, hm, e⟩ => ⟨d, k, List.mem_cons_of_mem _ hm, e⟩

theorem mem_all_ofRoots (l : List (List ℕ × DF)) (x : ℕ) :
    x ∈ (ofRoots l).all ↔ ∃ r ∈ l, x ∈ r.1 ∨ x ∈ r.2.all := by
  rw [mem_all_iff_roots, roots_ofRoots]

/-- the data points of a placed tree are those of the parent plus `i` -/
theorem placements_idx (p : T) (i : ℕ) : ∀ kt ∈ placements p i, ∀ x, x ∈ kt.2.f.all ++ kt.2.out →
    x ∈ p.f.all ++ p.out ∨ x = i := by
  intro kt hkt x hx
  -- canonicalisation keeps the data points, so it is enough to look at the tree before it
  have key : ∀ (g : DF) (o : List ℕ), kt.2 = T.mk' g o → (x ∈ g.all → x ∈ p.f.all ∨ x = i) →
      (x ∈ o → x ∈ p.out ∨ x = i) → x ∈ p.f.all ++ p.out ∨ x = i := by
    intro g o e hg ho
    rw [e, T.mk', List.mem_append, mem_canon_all, mem_sortNat] at hx
    rw [List.mem_append]
    rcases hx with hx | hx
    · exact (hg hx).imp_left Or.inl
    · exact (ho hx).imp_left Or.inr
  have hroot : ∀ y ∈ p.f.roots, x ∈ y.1 ∨ x ∈ y.2.all → x ∈ p.f.all :=
    fun y hy hxy => (mem_all_iff_roots p.f x).2 ⟨y, hy, hxy⟩
  rw [placements_eq] at hkt
  simp only [List.mem_append, List.mem_map, List.mem_range, List.mem_singleton] at hkt
  rcases hkt with (⟨j, _, rfl⟩ | ⟨⟨c, r⟩, hcr, rfl⟩) | rfl
  ·
    refine key _ _ rfl (fun h => ?_) Or.inl
    obtain ⟨y, hy, hxy⟩ := (mem_all_ofRoots _ x).1 h
    rcases addAt_mem i j _ y hy with hy | ⟨d, k, hm, rfl⟩
    · exact Or.inl (hroot y hy hxy)
    · rcases hxy with hxy | hxy
      · rcases List.mem_append.1 hxy with hxd | hxi
        · exact Or.inl (hroot _ hm (Or.inl hxd))
        · exact Or.inr (List.mem_singleton.1 hxi)
      · exact Or.inl (hroot _ hm (Or.inr hxy))
  ·
    obtain ⟨hc, hr, _⟩ := mem_splits _ _ hcr
    refine key _ _ rfl (fun h => ?_) Or.inl
    obtain ⟨y, hy, hxy⟩ := (mem_all_ofRoots _ x).1 h
    rcases List.mem_cons.1 hy with rfl | hy
    · rcases hxy with hxi | hxy
      · exact Or.inr (List.mem_singleton.1 hxi)
      · obtain ⟨z, hz, hxz⟩ := (mem_all_ofRoots _ x).1 hxy
        exact Or.inl (hroot z (hc z hz) hxz)
    · exact Or.inl (hroot y (hr y hy) hxy)
  ·
    refine key _ _ rfl Or.inl (fun h => ?_)
    exact (List.mem_append.1 h).imp_right List.mem_singleton.1

theorem placements_good (dt : Data) (p : T) (i : ℕ) (hp : Good dt p.f p.out) (hi : GoodIdx dt i) :
    ∀ kt ∈ placements p i, Good dt kt.2.f kt.2.out := by
  intro kt hkt x hx
  rcases placements_idx p i kt hkt x hx with h | rfl
  · exact hp x h
  · exact hi

end Proposal
end PhyModel
