import PhyModel.Proofs.PGResample
import PhyModel.Proofs.PGInj
import PhyModel.Proofs.PropSampler
/-! # C01, stage 3: the propagation step of the executable sweep against `ASMC.propC`.

`SMC.propose` (sample a placement, weight it with `incrWeight` using the table probability found by
`lookupQ`) is the abstract proposal `q` with the incremental weight `incr` (`propose_E`).  One step of the
code at any position `t` is `ASMC.propC` (`prop_E`); `SMC.update` is the case `t ≥ 1` (`update_E`),
`SMC.initSwarm` the case `t = 0` (`init_E`).  The final draw is `ASMC.sel` (`select_E`), and `SMC.sweep`
is written as a functional of the current swarm (`contE`, `sweep_E`).  The retained path (`PathOK`) is a
hypothesis here; it is discharged in `PGRetained`. -/

namespace PhyModel.PG
open Proposal PGSpec

/-! ### `lookupQ` is the table probability when no tree is listed twice -/

theorem lookupQ_eq_tprob (tab : List (T × ℚ)) (hn : (tab.map (·.1)).Nodup) (x : T) :
    SMC.lookupQ tab x = tprob tab x := by
  induction tab with
  | nil => simp [SMC.lookupQ, tprob, lsum]
  | cons a tab ih =>
    simp only [List.map_cons, List.nodup_cons] at hn
    rw [tprob_cons]
    by_cases hax : a.1 = x
    · have h1 : SMC.lookupQ (a :: tab) x = a.2 := by
        unfold SMC.lookupQ
        simp [hax]
      rw [h1, if_pos hax, tprob_eq_zero tab x (hax ▸ hn.1), add_zero]
    · have h1 : SMC.lookupQ (a :: tab) x = SMC.lookupQ tab x := by
        unfold SMC.lookupQ
        have : (a.1 == x) = false := by simpa using hax
        simp [this]
      rw [h1, if_neg hax, zero_add, ih hn.2]

variable {dt : Data} {c : Cfg} {σ : List ℕ} {L : List T} {κ : ℚ}

/-- the run configuration with `m + 1` particles -/
def runOf (dt : Data) (c : Cfg) (m : ℕ) (θ : ℚ) : SMC.Run := ⟨dt, c, m + 1, θ⟩

theorem lookupQ_table (dt : Data) (hinj : Inj c σ) {t : ℕ} {p : T} (hp : p ∈ level c σ t) {i : ℕ}
    (hi : σ[t]? = some i) (b : Bool) (y : T) :
    SMC.lookupQ (table dt c b p i) y = tprob (table dt c b p i) y :=
  lookupQ_eq_tprob _ ((table_keys_perm dt c b p i).nodup_iff.mpr (hinj t p i hp hi)) y

theorem ite_kappa_ne_zero (hκ : 0 < κ) (t : ℕ) : (if t = 0 then κ else (1 : ℚ)) ≠ 0 := by
  split_ifs
  · exact ne_of_gt hκ
  · exact one_ne_zero

/-- **one proposed particle**: `κ_t` is `κ` at the first step (where the abstract swarm starts with
weight 1 and the code's with `1/N`) and 1 afterwards -/
theorem propose_E (h : Hyp dt c σ) (hκ : 0 < κ) (hinj : Inj c σ) (hL : ∀ x ∈ states c σ, x ∈ L) (θ : ℚ)
    (m : ℕ) {t : ℕ} (p : St L) (hp : p.1 ∈ level c σ t) {i : ℕ} (hi : σ[t]? = some i) (W : ℚ)
    (G : T × ℚ → ℚ) :
    Dist.E (SMC.propose (runOf dt c m θ) (t == 0) (t + 1 == σ.length) p.1 W i) G
      = ∑ y : St L, (spec dt c σ κ L hL θ m).q t p y *
          G (y.1, W / (if t = 0 then κ else 1) * ASMC.incr (spec dt c σ κ L hL θ m) t p y) := by
  have hwf := level_wf h.nodup h.big hp hi
  have hpos := level_placements_pos h hp hi
  unfold SMC.propose
  simp only [runOf]
  rw [E_fmap, sampler_eq_table_proof dt c (t == 0) p.1 i (level_first hp) hwf.keys]
  have hkeys : ∀ tq ∈ table dt c (t == 0) p.1 i, tq.1 ∈ L := fun tq htq =>
    level_mem_L hL (child_mem_level hp hi (table_entry dt c _ p.1 i h.op0 h.op1 hpos tq htq).2)
  rw [lsum_table_eq _ hkeys (fun y => G (y, W * incrWeight dt c (t == 0) (t + 1 == σ.length) p.1 y
    (SMC.lookupQ (table dt c (t == 0) p.1 i) y)))]
  refine Finset.sum_congr rfl fun y _ => ?_
  rw [show (spec dt c σ κ L hL θ m).q t p y = _ from qT_of_mem hp hi y.1]
  -- only the trees listed in the table matter, and those are children of `p`
  by_cases h0 : tprob (table dt c (t == 0) p.1 i) y.1 = 0
  · rw [h0, zero_mul, zero_mul]
  · obtain ⟨q, hm⟩ := mem_of_tprob_pos _ _
      (lt_of_le_of_ne (tprob_nonneg _ (table_nonneg h hp hi _) _) (Ne.symm h0))
    have hc := (table_entry dt c _ p.1 i h.op0 h.op1 hpos _ hm).2
    rw [lookupQ_table dt hinj hp hi, incr_eq_incrWeight h hκ hL θ m hp hi hc, ← mul_assoc,
      div_mul_cancel₀ _ (ite_kappa_ne_zero hκ t)]

/-! ### one step of the sweep -/

/-- the code's initial weight `1/N` -/
abbrev uN (m : ℕ) : ℚ := 1 / ((m + 1 : ℕ) : ℚ)

theorem uN_pos (m : ℕ) : 0 < uN m := by unfold uN; positivity

/-- the retained path of the start tree `x` along `σ`, as states of the specification -/
structure PathOK (c : Cfg) (σ : List ℕ) (x : T) (path : ℕ → St L) : Prop where
  lvl : ∀ t, t ≤ σ.length → (path t).1 ∈ level c σ t
  child : ∀ t (ht : t < σ.length), (path (t+1)).1 ∈ children c (path t).1 σ[t]
  restr : ∀ t, t ≤ σ.length → SMC.restrict x (σ.take t) = (path t).1

theorem PathOK.parent (h : Hyp dt c σ) (hL : ∀ x ∈ states c σ, x ∈ L) (θ : ℚ) (m : ℕ) {x : T}
    {path : ℕ → St L} (hp : PathOK c σ x path) {t : ℕ} (ht : t < σ.length) :
    (spec dt c σ κ L hL θ m).parent (path (t+1)) = path t :=
  spec_parent_child h hL θ m (hp.lvl t (le_of_lt ht)) (List.getElem?_eq_getElem ht) (hp.child t ht)

theorem good_S0 (h : Hyp dt c σ) (hL : ∀ x ∈ states c σ, x ∈ L) (θ : ℚ) (m : ℕ) {x : T} {path : ℕ → St L}
    (hp : PathOK c σ x path) :
    ASMC.Good (spec dt c σ (uN m) L hL θ m) 0 (path 0) (ASMC.S0 (spec dt c σ (uN m) L hL θ m)) :=
  (spec_valid h (uN_pos m) hL θ m).good_S0 (gT_pos h (uN_pos m) (hp.lvl 0 (Nat.zero_le _)))

/-- **one propagation step of the code**: the retained particle moves along the path, every other slot
proposes.  The code's weights are `κ_t` times the abstract ones, `κ_t = 1/N` at the first step (where the
code starts from weights `1/N`, the specification from weights 1) and 1 afterwards. -/
theorem prop_E (h : Hyp dt c σ) (hL : ∀ x ∈ states c σ, x ∈ L) (θ : ℚ) (m : ℕ)
    {x : T} {path : ℕ → St L} (hp : PathOK c σ x path) {t : ℕ} (ht : t < σ.length)
    (S : ASMC.Sys (St L) m) (hS : ASMC.Good (spec dt c σ (uN m) L hL θ m) t (path t) S)
    (H : SMC.Swarm → ℚ) :
    Dist.E (Dist.fmap (fun l => ((path (t+1)).1, SMC.retainedW (runOf dt c m θ) (t == 0) (t + 1 == σ.length)
          (S 0).1.1 (path (t+1)).1 ((if t = 0 then uN m else 1) * (S 0).2) σ[t]) :: l)
        (SMC.proposeAll (runOf dt c m θ) (t == 0) (t + 1 == σ.length) σ[t]
          (List.ofFn fun j : Fin m => ((S j.succ).1.1, (if t = 0 then uN m else 1) * (S j.succ).2)))) H
      = ASMC.propC (spec dt c σ (uN m) L hL θ m) t (path (t+1)) S (fun S' => H (swOf S')) := by
  have hi : σ[t]? = some σ[t] := List.getElem?_eq_getElem ht
  have hlev : ∀ j, (S j).1.1 ∈ level c σ t := fun j => mem_of_gT_pos (hS.2 j).2
  have hch : (path (t+1)).1 ∈ children c (S 0).1.1 σ[t] := by rw [hS.1]; exact hp.child t ht
  rw [E_fmap, proposeAll_eq]
  rw [E_seqD m _ (fun j (y : St L) => (spec dt c σ (uN m) L hL θ m).q t (S j.succ).1 y)
    (fun j (y : St L) => (y.1, (S j.succ).2 * ASMC.incr (spec dt c σ (uN m) L hL θ m) t (S j.succ).1 y))]
  · unfold ASMC.propC
    refine Finset.sum_congr rfl fun y _ => ?_
    congr 2
    rw [swOf_cons]
    congr 2
    show SMC.retainedW _ _ _ _ _ _ _ = (S 0).2 * ASMC.incr _ t (S 0).1 (path (t+1))
    rw [incr_eq_incrWeight h (uN_pos m) hL θ m (hlev 0) hi hch, ← lookupQ_table dt (inj_of_hyp h) (hlev 0) hi]
    unfold SMC.retainedW
    simp only [runOf]
    ring
  · intro j G
    have := propose_E h (uN_pos m) (inj_of_hyp h) hL θ m (S j.succ).1 (hlev j.succ) hi
      ((if t = 0 then uN m else 1) * (S j.succ).2) G
    rw [mul_div_cancel_left₀ _ (ite_kappa_ne_zero (uN_pos m) t)] at this
    exact this

/-- **propagation** at a step `t ≥ 1` -/
theorem update_E (h : Hyp dt c σ) (hinj : Inj c σ) (hL : ∀ x ∈ states c σ, x ∈ L) (θ : ℚ) (m : ℕ)
    {x : T} {path : ℕ → St L} (hp : PathOK c σ x path) {t : ℕ} (ht0 : t ≠ 0) (ht : t < σ.length)
    (S : ASMC.Sys (St L) m) (hS : ASMC.Good (spec dt c σ (uN m) L hL θ m) t (path t) S)
    (H : SMC.Swarm → ℚ) :
    Dist.E (SMC.update (runOf dt c m θ) x σ t (swOf S)) H
      = ASMC.propC (spec dt c σ (uN m) L hL θ m) t (path (t+1)) S (fun S' => H (swOf S')) := by
  have := prop_E h hL θ m hp ht S hS H
  simp only [if_neg ht0, one_mul, beq_eq_false_iff_ne.mpr ht0] at this
  unfold SMC.update
  rw [swOf_cons]
  simp only [List.getElem?_eq_getElem ht]
  rw [hp.restr (t+1) ht]
  exact this

theorem select_E {m : ℕ} (S : ASMC.Sys (St L) m) (hh : T → ℚ) :
    Dist.E (SMC.select (swOf S)) hh = ∑ y : St L, ASMC.sel S y * hh y.1 := by
  unfold SMC.select
  rw [Dist.E_categorical, swOf, lsum_ofFn, lsum_ofFn, ASMC.sum_sel_mul, Finset.sum_div]
  exact Finset.sum_congr rfl fun k _ => mul_div_right_comm _ _ _

/-- **the first step** (`_init_swarm`): every slot starts from the empty tree -/
theorem init_E (h : Hyp dt c σ) (hL : ∀ x ∈ states c σ, x ∈ L) (θ : ℚ) (m : ℕ)
    {x : T} {path : ℕ → St L} (hp : PathOK c σ x path) (hne : σ ≠ []) (H : SMC.Swarm → ℚ) :
    Dist.E (SMC.initSwarm (runOf dt c m θ) x σ) H
      = ASMC.propC (spec dt c σ (uN m) L hL θ m) 0 (path 1) (ASMC.S0 (spec dt c σ (uN m) L hL θ m))
          (fun S' => H (swOf S')) := by
  obtain ⟨i, rest, rfl⟩ := List.exists_cons_of_ne_nil hne
  have hlast : rest.isEmpty = (0 + 1 == (i :: rest).length) := by
    cases rest <;> rfl
  have := prop_E h hL θ m hp (Nat.zero_lt_succ _) _ (good_S0 h hL θ m hp) H
  simp only [if_pos, ASMC.S0, mul_one, ← hlast] at this
  unfold SMC.initSwarm
  simp only [runOf, Nat.add_sub_cancel]
  rw [List.map_const', List.length_range, ← List.ofFn_const, show SMC.restrict x [i] = (path 1).1 from hp.restr 1 (Nat.succ_le_succ (Nat.zero_le _))]
  exact this

/-! ### the sweep -/

/-- what remains of the executable sweep from step `t`, as a functional of the current swarm -/
def contE (r : SMC.Run) (x : T) (σ : List ℕ) : ℕ → ℕ → SMC.Swarm → (SMC.Swarm → ℚ) → ℚ
  | 0, _, sw, G => G sw
  | fuel+1, t, sw, G =>
    if t ≥ σ.length then G sw
    else Dist.E (Dist.bind (SMC.resample r sw) fun sw' => SMC.update r x σ t sw')
      (fun sw' => contE r x σ fuel (t+1) sw' G)

theorem sweep_E (r : SMC.Run) (x : T) (σ : List ℕ) : ∀ (fuel t : ℕ) (d : Dist SMC.Swarm) (G : SMC.Swarm → ℚ),
    Dist.E (SMC.sweep r x σ fuel t d) G = Dist.E d (fun sw => contE r x σ fuel t sw G) := by
  intro fuel
  induction fuel with
  | zero => intro t d G; rfl
  | succ fuel ih =>
    intro t d G
    simp only [SMC.sweep, contE]
    by_cases ht : t ≥ σ.length
    · simp only [ht, if_true]
    · simp only [ht, if_false]
      rw [ih, Dist.E_norm, E_bind]

end PhyModel.PG
