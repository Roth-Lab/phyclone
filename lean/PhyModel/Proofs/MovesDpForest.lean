import PhyModel.Proofs.MovesNodes
import PhyModel.Proofs.MovesDp
/-! Facts about `removeDp` / `addDpAt` on well-formed forests, towards the block structure of the
data-point move. -/
namespace PhyModel
open Orders Orders.Forest PhyModel.Moves

namespace Canon

theorem mem_filter_ne {i a : Nat} {l : List Nat} : a ∈ l.filter (· != i) ↔ a ∈ l ∧ a ≠ i := by
  simp [List.mem_filter]

theorem filter_ne_append_perm {i : Nat} {l : List Nat} (hn : l.Nodup) (hi : i ∈ l) :
    (l.filter (· != i) ++ [i]).Perm l := by
  rw [← hn.erase_eq_filter]
  exact (List.perm_append_comm.trans (List.perm_cons_erase hi).symm)

theorem filter_ne_ne_nil {i : Nat} {l : List Nat} (hn : l.Nodup) (hl : 1 < l.length) :
    l.filter (· != i) ≠ [] := by
  intro he
  have h := List.le_length_erase (a := i) (l := l)
  rw [hn.erase_eq_filter, he] at h
  exact absurd (Nat.sub_pos_of_lt hl) (Nat.not_lt.mpr h)

theorem NE_of_nodes {f : DF} (h : ∀ nd ∈ nodesOf f, nd.1 ≠ []) : NE f := by
  induction f with
  | nil => trivial
  | cons d k s ihk ihs =>
    exact ⟨h _ (mem_nodesOf_cons.mpr (Or.inl rfl)), ihk fun nd hn => h nd (nodesOf_kids_sub hn),
      ihs fun nd hn => h nd (nodesOf_sibs_sub hn)⟩

theorem removeDp_all (i : Nat) (f : DF) : (removeDp i f).all = f.all.filter (· != i) := by
  induction f with
  | nil => rfl
  | cons d k s ihk ihs => simp only [removeDp, Forest.all, ihk, ihs, List.filter_append]

theorem removeDp_of_not_mem {i : Nat} {f : DF} (h : i ∉ f.all) : removeDp i f = f := by
  induction f with
  | nil => rfl
  | cons d k s ihk ihs =>
    simp only [Forest.all, List.mem_append, not_or] at h
    simp only [removeDp, ihk h.1.1, ihs h.2, List.filter_bne_eq_self_of_not_mem h.1.2]

theorem nodesOf_removeDp (i : Nat) (f : DF) :
    nodesOf (removeDp i f) = (nodesOf f).map fun nd => (nd.1.filter (· != i), removeDp i nd.2) := by
  induction f with
  | nil => rfl
  | cons d k s ihk ihs => simp only [removeDp, nodesOf, ihk, ihs, List.map_cons, List.map_append]

theorem removeDp_addDpAt {i : Nat} (key : Nat) {f : DF} (h : i ∉ f.all) :
    removeDp i (addDpAt key i f) = f := by
  induction f with
  | nil => rfl
  | cons d k s ihk ihs =>
    simp only [Forest.all, List.mem_append, not_or] at h
    simp only [addDpAt, removeDp, ihk h.1.1, ihs h.2]
    congr 1
    split
    · rw [List.filter_append, List.filter_bne_eq_self_of_not_mem h.1.2]; simp
    · exact List.filter_bne_eq_self_of_not_mem h.1.2

theorem nodesOf_addDpAt (key i : Nat) (f : DF) :
    nodesOf (addDpAt key i f) =
      (nodesOf f).map fun nd => (if nd.1.contains key then nd.1 ++ [i] else nd.1, addDpAt key i nd.2) := by
  induction f with
  | nil => rfl
  | cons d k s ihk ihs => simp only [addDpAt, nodesOf, ihk, ihs, List.map_cons, List.map_append]

theorem mem_ite_append {key i a : Nat} {d : List Nat}
    (h : a ∈ (if d.contains key then d ++ [i] else d)) : a ∈ d ∨ (a = i ∧ key ∈ d) := by
  split at h
  · rename_i hc
    exact (List.mem_append.mp h).imp_right fun h' => ⟨List.mem_singleton.mp h', List.contains_iff_mem.mp hc⟩
  · exact Or.inl h

theorem mem_addDpAt_all {key i a : Nat} {f : DF} (h : a ∈ (addDpAt key i f).all) :
    a ∈ f.all ∨ (a = i ∧ key ∈ f.all) := by
  rw [mem_all_iff, nodesOf_addDpAt] at h
  obtain ⟨_, hnd', ha⟩ := h
  obtain ⟨nd, hnd, rfl⟩ := List.mem_map.mp hnd'
  exact (mem_ite_append ha).imp (fun h' => mem_all_iff.mpr ⟨nd, hnd, h'⟩)
    fun h' => ⟨h'.1, mem_all_iff.mpr ⟨nd, hnd, h'.2⟩⟩

theorem addDpAt_ne (key i : Nat) {f : DF} (h : NE f) : NE (addDpAt key i f) := by
  induction f with
  | nil => trivial
  | cons d k s ihk ihs =>
    simp only [addDpAt]
    refine ⟨?_, ihk h.2.1, ihs h.2.2⟩
    split
    · simp
    · exact h.1

theorem addDpAt_nodup (key : Nat) {i : Nat} {f : DF} (hn : f.all.Nodup) (hi : i ∉ f.all) :
    (addDpAt key i f).all.Nodup := by
  obtain ⟨h1, h2⟩ := nodes_nodup_pairwise hn
  have hi' : ∀ nd ∈ nodesOf f, i ∉ nd.1 := fun nd hnd h => hi (mem_all_iff.mpr ⟨nd, hnd, h⟩)
  rw [(all_perm_nodes _).nodup_iff, nodesOf_addDpAt, List.flatMap_map, List.nodup_flatMap]
  refine ⟨fun nd hnd => ?_, h2.imp_of_mem fun {nd₁ nd₂} m₁ m₂ hd a a₁ a₂ => ?_⟩
  · split
    · exact List.nodup_append.mpr ⟨h1 nd hnd, List.nodup_singleton _, fun a ha b hb e =>
        hi' nd hnd (List.mem_singleton.mp hb ▸ e ▸ ha)⟩
    · exact h1 nd hnd
  · -- a common point of two changed clones is a common point of the old ones, or `key` is
    rcases mem_ite_append a₁ with b₁ | ⟨e₁, c₁⟩ <;> rcases mem_ite_append a₂ with b₂ | ⟨e₂, c₂⟩
    · exact hd b₁ b₂
    · exact hi' nd₁ m₁ (e₂ ▸ b₁)
    · exact hi' nd₂ m₂ (e₁ ▸ b₂)
    · exact hd c₁ c₂

theorem addDpAt_wf (key : Nat) {i : Nat} {f : DF} (w : WF f) (hi : i ∉ f.all) (hb : i < big) :
    WF (addDpAt key i f) := by
  refine ⟨addDpAt_nodup key w.nodup hi, addDpAt_ne key i w.ne, ?_⟩
  intro a ha
  rcases mem_addDpAt_all ha with h | ⟨h, _⟩
  · exact w.small a h
  · exact h ▸ hb

/-- `i` shares a clone with `b` after insertion at `key` iff `key` shared one with `b` before -/
theorem together_addDpAt {key i b : Nat} {f : DF} (hi : i ∉ f.all) (hb : b ≠ i) :
    together i b (addDpAt key i f) = together key b f := by
  induction f with
  | nil => rfl
  | cons d k s ihk ihs =>
    simp only [Forest.all, List.mem_append, not_or] at hi
    simp only [addDpAt, together, ihk hi.1.1, ihs hi.2]
    congr 2
    by_cases hc : d.contains key = true
    · simp only [hc, if_true, Bool.true_and]
      have : (d ++ [i]).contains i = true := by simp
      rw [this, Bool.true_and]
      simp only [List.contains_eq_mem, List.mem_append, List.mem_singleton, hb, or_false]
    · simp only [Bool.not_eq_true] at hc
      simp only [hc, Bool.false_eq_true, if_false, Bool.false_and]
      have : d.contains i = false := by simpa using hi.1.2
      rw [this, Bool.false_and]

/-- putting `i` back next to `key` undoes its removal, up to equivalence -/
theorem addDpAt_removeDp_eqv {key i : Nat} {f : DF} (hn : f.all.Nodup) (hk : key ≠ i)
    (h : ∀ nd ∈ nodesOf f, key ∈ nd.1 ↔ i ∈ nd.1) : Eqv f (addDpAt key i (removeDp i f)) := by
  induction f with
  | nil => exact .nil
  | cons d k s ihk ihs =>
    obtain ⟨hkn, hd, hs, _, _⟩ := all_nodup_cons hn
    simp only [removeDp, addDpAt]
    refine .cons ?_ (ihk hkn (fun nd hnd => h nd (nodesOf_kids_sub hnd)))
      (ihs hs (fun nd hnd => h nd (nodesOf_sibs_sub hnd)))
    have hiff := h (d, k) (mem_nodesOf_cons.mpr (Or.inl rfl))
    by_cases hid : i ∈ d
    · have : (d.filter (· != i)).contains key = true := by
        rw [List.contains_iff_mem, mem_filter_ne]; exact ⟨hiff.mpr hid, hk⟩
      rw [if_pos this]
      exact (filter_ne_append_perm hd hid).symm
    · have : ¬ (d.filter (· != i)).contains key = true := by
        rw [List.contains_iff_mem, mem_filter_ne]; exact fun hh => hid (hiff.mp hh.1)
      rw [if_neg this, List.filter_bne_eq_self_of_not_mem hid]

/-- removing a data point whose clone keeps another point preserves well-formedness -/
theorem removeDp_wf {i : Nat} {f : DF} (w : WF f)
    (h : ∀ nd ∈ nodesOf f, i ∈ nd.1 → 1 < nd.1.length) : WF (removeDp i f) := by
  refine ⟨?_, NE_of_nodes ?_, fun a ha => ?_⟩
  · rw [removeDp_all]; exact w.nodup.filter _
  · rw [nodesOf_removeDp]
    intro nd' hnd'
    obtain ⟨nd, hnd, rfl⟩ := List.mem_map.mp hnd'
    by_cases hid : i ∈ nd.1
    · exact filter_ne_ne_nil ((nodes_nodup_pairwise w.nodup).1 nd hnd) (h nd hnd hid)
    · rw [List.filter_bne_eq_self_of_not_mem hid]; exact node_ne w.ne nd hnd
  · rw [removeDp_all] at ha
    exact w.small a (mem_filter_ne.mp ha).1

end Canon
end PhyModel
