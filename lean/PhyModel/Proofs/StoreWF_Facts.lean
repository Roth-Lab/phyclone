import PhyModel.Proofs.StoreWF_Base
/-! Consequences of `WF` used by several operations (C07): looking a name up gives the payload,
payloads are determined by their index / name, where a data point of `_data` lives, and
`Store.touch` (the `defaultdict` key creation) — identity on `Full` stores, invariant-preserving
in general. -/
namespace PhyModel.Store
open Store.Store SF AL

theorem WFG.eq_of_idx {rs : List NodeRec} (h : WFG rs) {a b : NodeRec} (ha : a ∈ rs) (hb : b ∈ rs)
    (e : a.idx = b.idx) : a = b := List.inj_on_of_nodup_map h.idxs_nodup ha hb e

theorem WFG.eq_of_name {rs : List NodeRec} (h : WFG rs) {a b : NodeRec} (ha : a ∈ rs) (hb : b ∈ rs)
    (e : a.name = b.name) : a = b := List.inj_on_of_nodup_map h.names_nodup ha hb e

theorem idx_lt_fresh {s : Store} {n : NodeRec} (hn : n ∈ s.forest.recs) : n.idx < s.fresh :=
  Nat.lt_of_le_of_lt (le_maxIdx hn) (Nat.lt_add_of_pos_left Nat.one_pos)

theorem fresh_pos (s : Store) : 0 < s.fresh := Nat.lt_add_right _ Nat.one_pos

theorem WF.name_ne_outKey {s : Store} (hw : WF s) {n : NodeRec} (hn : n ∈ s.forest.recs) : n.name ≠ outKey :=
  fun hc => absurd (hc ▸ hw.name_nonneg n hn) (by decide)

theorem WF.rec_of_lookup {s : Store} (h : WF s) {nm : Int} {i : Nat} (hl : s.nodeIdx.lookup nm = some i) :
    ∃ n ∈ s.forest.recs, n.name = nm ∧ n.idx = i := (h.nodeIdx_iff nm i).1 (mem_of_lookup hl)

theorem WF.lookup_of_rec {s : Store} (h : WF s) {n : NodeRec} (hn : n ∈ s.forest.recs) :
    s.nodeIdx.lookup n.name = some n.idx :=
  lookup_of_mem h.nodeIdx_keys ((h.nodeIdx_iff _ _).2 ⟨n, hn, rfl, rfl⟩)

theorem WF.lookupRev_of_rec {s : Store} (h : WF s) {n : NodeRec} (hn : n ∈ s.forest.recs) :
    s.nodeIdxRev.lookup n.idx = some n.name :=
  lookup_of_mem h.nodeIdxRev_keys ((h.nodeIdxRev_iff _ _).2 ⟨n, hn, rfl, rfl⟩)

/-- the payload found at the index registered for a name carries that name -/
theorem WF.findSub_of_lookup {s : Store} (h : WF s) {nm : Int} {i : Nat} {x : NodeRec × SF}
    (hl : s.nodeIdx.lookup nm = some i) (hf : s.forest.findSub i = some x) :
    x.1 ∈ s.forest.recs ∧ x.1.name = nm ∧ x.1.idx = i := by
  obtain ⟨n, hn, h1, h2⟩ := h.rec_of_lookup hl
  have hx := findSub_mem hf
  have hxi := (findSub_some hf).1
  have : x.1 = n := h.g.eq_of_idx hx hn (hxi.trans h2.symm)
  exact ⟨hx, this ▸ h1, hxi⟩

theorem WF.key_cases {s : Store} (h : WF s) {e : Int × List Nat} (he : e ∈ s.data) :
    (e.1 = outKey ∧ s.outliers = e.2) ∨ ∃ n ∈ s.forest.recs, n.name = e.1 ∧ n.dps.Perm e.2 := by
  have hl : s.data.lookup e.1 = some e.2 := lookup_of_mem h.data_keys he
  rcases h.data_sub e he with h1 | h1
  · left; refine ⟨h1, ?_⟩
    simp [Store.outliers, Store.dataOf, ← h1, hl]
  · right
    obtain ⟨n, hn, hnm⟩ := mem_names.1 h1
    refine ⟨n, hn, hnm, ?_⟩
    have := h.payload_data n hn
    simpa [Store.dataOf, hnm, hl] using this

/-- a data point listed in `_data` is an outlier or in the payload of a clone, and conversely -/
theorem WF.mem_vals_iff {s : Store} (h : WF s) {d : Nat} :
    d ∈ vals s.data ↔ d ∈ s.outliers ∨ ∃ n ∈ s.forest.recs, d ∈ n.dps := by
  constructor
  · intro hd
    obtain ⟨e, he, hde⟩ := List.mem_flatMap.1 hd
    rcases h.key_cases he with ⟨_, h2⟩ | ⟨n, hn, _, hp⟩
    · left; rw [h2]; exact hde
    · right; exact ⟨n, hn, hp.symm.subset hde⟩
  · rintro (hd | ⟨n, hn, hd⟩)
    · exact mem_vals_of_mem_dOf (k := outKey) hd
    · exact mem_vals_of_mem_dOf (k := n.name) ((h.payload_data n hn).subset hd)

theorem WF.not_in_tree {s : Store} (h : WF s) {dp : Nat} (hd : s.isDataPointInTree dp = false) :
    dp ∉ vals s.data := by
  rw [h.mem_vals_iff]
  simp only [isDataPointInTree, Bool.or_eq_false_iff, List.any_eq_false, List.contains_iff_mem] at hd
  rintro (h1 | ⟨n, hn, h1⟩)
  · exact absurd h1 (by simpa using hd.2)
  · exact hd.1 n hn (by simpa using h1)

/-! ### `touch` -/

theorem touch_fold_id {d : List (Int × List Nat)} {nms : List Int} (h : ∀ nm ∈ nms, nm ∈ keys d) :
    nms.foldl (fun d nm => if alHas d nm then d else d ++ [(nm, [])]) d = d := by
  induction nms with
  | nil => rfl
  | cons a l ih =>
    have ha : alHas d a = true := alHas_iff.2 (h a (by simp))
    simp only [List.foldl_cons, ha, if_true]
    exact ih fun nm hnm => h nm (by simp [hnm])

/-- on a store where the touched names have their `_data` keys, `touch` does nothing -/
theorem touch_of_full {s : Store} {nms : List Int} (h : ∀ nm ∈ nms, nm ∈ keys s.data) : s.touch nms = s := by
  simp [touch, touch_fold_id h]

theorem touch_names_of_full {s : Store} (hf : Full s) {nms : List Int} (hsub : ∀ nm ∈ nms, nm ∈ s.nodes) :
    s.touch nms = s :=
  touch_of_full fun nm hnm => by obtain ⟨n, hn, rfl⟩ := mem_names.1 (hsub nm hnm); exact hf n hn

theorem touch_nodes_of_full {s : Store} (h : Full s) : s.touch s.nodes = s := touch_names_of_full h fun _ h => h

/-- one `defaultdict` read -/
theorem WFD.touch_step {rs : List NodeRec} {d : List (Int × List Nat)} (h : WFD rs d) {nm : Int}
    (hnm : nm ∈ rs.map (·.name)) :
    WFD rs (if alHas d nm then d else d ++ [(nm, [])]) ∧
      ∀ k, k ∈ keys (if alHas d nm then d else d ++ [(nm, [])]) ↔ k = nm ∨ k ∈ keys d := by
  split
  · rename_i hh
    exact ⟨h, fun k => ⟨Or.inr, fun h' => h'.elim (fun e => e ▸ alHas_iff.1 hh) id⟩⟩
  · rename_i hh
    have hk : nm ∉ keys d := fun hc => hh (alHas_iff.2 hc)
    rw [← alSet_of_not_mem [] hk]
    refine ⟨⟨nodup_keys_alSet _ h.data_keys, fun k hk' => ?_, fun n hn => ?_, ?_⟩, fun k => mem_keys_alSet _⟩
    · rcases (mem_keys_alSet _).1 hk' with rfl | h1
      · exact Or.inr hnm
      · exact h.data_sub k h1
    · by_cases hn' : n.name = nm
      · rw [hn', dOf_alSet_self, ← dOf_of_not_mem hk, ← hn']; exact h.payload_data n hn
      · rw [dOf_alSet_ne hn']; exact h.payload_data n hn
    · rw [(vals_alSet_perm h.data_keys nm []).nodup_iff]
      exact ((vals_perm_split h.data_keys nm).nodup_iff.1 h.data_nodup).sublist (List.sublist_append_right _ _)

theorem WFD.touch_fold {rs : List NodeRec} {d : List (Int × List Nat)} (h : WFD rs d) {nms : List Int}
    (hsub : ∀ nm ∈ nms, nm ∈ rs.map (·.name)) :
    WFD rs (nms.foldl (fun d nm => if alHas d nm then d else d ++ [(nm, [])]) d) ∧
      ∀ k, (k ∈ keys d ∨ k ∈ nms) →
        k ∈ keys (nms.foldl (fun d nm => if alHas d nm then d else d ++ [(nm, [])]) d) := by
  induction nms generalizing d with
  | nil => exact ⟨h, fun k hk => hk.elim id fun h => absurd h List.not_mem_nil⟩
  | cons a l ih =>
    obtain ⟨h1, hk1⟩ := h.touch_step (hsub a List.mem_cons_self)
    obtain ⟨h2, h3⟩ := ih h1 fun nm hnm => hsub nm (List.mem_cons_of_mem _ hnm)
    refine ⟨h2, fun k hk => h3 k ?_⟩
    rcases hk with hk | hk
    · exact Or.inl ((hk1 k).2 (Or.inr hk))
    · rcases List.mem_cons.1 hk with rfl | hk
      · exact Or.inl ((hk1 _).2 (Or.inl rfl))
      · exact Or.inr hk

/-- `touch` on names of the store's own clones preserves well-formedness (no `Full` needed) and
gives the touched clones their keys -/
theorem touch_wf {s : Store} (h : WF s) {nms : List Int} (hsub : ∀ nm ∈ nms, nm ∈ s.nodes) :
    WF (s.touch nms) ∧ (∀ nm ∈ nms, nm ∈ keys (s.touch nms).data) ∧
      (∀ k ∈ keys s.data, k ∈ keys (s.touch nms).data) := by
  obtain ⟨h2, h3⟩ := h.d.touch_fold (nms := nms) hsub
  refine ⟨?_, fun nm hnm => h3 nm (Or.inr hnm), fun k hk => h3 k (Or.inl hk)⟩
  rw [wf_iff]; exact ⟨h.g, h.m, h2⟩

end PhyModel.Store
