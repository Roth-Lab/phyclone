import PhyModel.Proofs.GraphOf
import PhyModel.Proofs.StoreCache_addDp
import PhyModel.Proofs.StoreWF_Upd
import PhyModel.Proofs.C07Example
/-! Edits of the store model that only touch payloads leave `graphOf` of the forest exactly as it was:
the cache passes (`Tree.update`, `_update_path_to_root`), `relabel_nodes`, the data-point edits and the
key-creating reads (`touch`).  Each keeps the edge list, and the graph is determined by it
(`graphOf_eq_of_edges`). -/
namespace PhyModel.Graph
open PhyModel.Store

/-- `_update_path_to_root` rewrites cached vectors only: same edges -/
theorem edgesOf_updPath (dt : Data) (i : Nat) : ∀ (f : SF) (par : Nat),
    Store.edgesOf par (updPath dt i f).1 = Store.edgesOf par f
  | .nil, _ => rfl
  | .cons n k s, par => by
    rw [C06.updPath_cons]
    split
    · rfl
    · split
      · simp [edgesOf_updPath dt i k]
      · simp [edgesOf_updPath dt i s]

theorem graphOf_updatePathToRoot {dt : Data} {s s' : Store} {src : Option Int}
    (h : Store.updatePathToRoot dt s src = some s') : graphOf s'.forest = graphOf s.forest := by
  cases src with
  | none => rw [C06.updatePath_none dt s s' h]
  | some name =>
    obtain ⟨i, _, _, rfl⟩ := C06.updatePath_some dt s s' name h
    exact graphOf_eq_of_edges (edgesOf_updPath dt i s.forest 0)

/-- a payload map that keeps the graph index keeps the edges -/
theorem edgesOf_mapRecs (g : NodeRec → NodeRec) (hi : ∀ n, (g n).idx = n.idx) : ∀ (f : SF) (par : Nat),
    Store.edgesOf par (f.mapRecs g) = Store.edgesOf par f
  | .nil, _ => rfl
  | .cons n k s, par => by
    simp only [SF.mapRecs, edgesOf_cons, hi, edgesOf_mapRecs g hi k, edgesOf_mapRecs g hi s]

theorem graphOf_mapRecs (g : NodeRec → NodeRec) (hi : ∀ n, (g n).idx = n.idx) (f : SF) :
    graphOf (f.mapRecs g) = graphOf f :=
  graphOf_eq_of_edges (edgesOf_mapRecs g hi f 0)

/-- `Tree.update` rewrites cached vectors only -/
theorem edgesOf_updAll (dt : Data) : ∀ (f : SF) (par : Nat), Store.edgesOf par (updAll dt f) = Store.edgesOf par f
  | .nil, _ => rfl
  | .cons n k s, par => by
    simp only [updAll, edgesOf_cons, edgesOf_updAll dt k, edgesOf_updAll dt s]

theorem graphOf_updAll (dt : Data) (f : SF) : graphOf (updAll dt f) = graphOf f :=
  graphOf_eq_of_edges (edgesOf_updAll dt f 0)

/-- `relabel_nodes` rewrites names only -/
theorem edgesOf_relabelSF : ∀ (f : SF) (c : Int) (par : Nat),
    Store.edgesOf par (Store.relabelSF f c).1 = Store.edgesOf par f
  | .nil, _, _ => rfl
  | .cons n k s, c, par => by
    simp only [Store.relabelSF, edgesOf_cons, edgesOf_relabelSF k, edgesOf_relabelSF s]

/-- replacing the payload of clone `i` by one with the same graph index -/
theorem graphOf_setRec {i : Nat} {n' : NodeRec} (hi : n'.idx = i) (f : SF) :
    graphOf (Store.setRec i (fun _ => n') f) = graphOf f :=
  graphOf_mapRecs _ (fun n => by split <;> simp_all) f

/-! ### store operations that leave the graph alone -/

theorem graphOf_update (dt : Data) (s : Store) : graphOf (s.update dt).forest = graphOf s.forest :=
  graphOf_updAll dt s.forest

theorem graphOf_relabelNodes (s : Store) : graphOf s.relabelNodes.forest = graphOf s.forest :=
  graphOf_eq_of_edges (edgesOf_relabelSF s.forest 0 0)

theorem graphOf_touch (s : Store) (l : List Int) : graphOf (s.touch l).forest = graphOf s.forest := rfl

theorem graphOf_addDataPointToNode {dt : Data} {s s' : Store} {dp : Nat} {node : Int}
    (h : s.addDataPointToNode dt dp node = some s') : graphOf s'.forest = graphOf s.forest := by
  rcases (addDp_unf h).2 with ⟨-, rfl⟩ | ⟨i, n, k, n', q, -, hk, hn', -, h⟩
  · rfl
  · rw [graphOf_updatePathToRoot h]
    exact graphOf_setRec ((C06.recAdd_spec dt _ _ _ hn').1.trans (SF.findSub_some hk).1) s.forest

theorem graphOf_removeDataPointFromNode {dt : Data} {s s' : Store} {dp : Nat} {node : Int}
    (h : s.removeDataPointFromNode dt dp node = some s') : graphOf s'.forest = graphOf s.forest := by
  rcases (rmDp_unf h).2 with ⟨-, rfl⟩ | ⟨i, n, k, n', -, hk, hn', h⟩
  · rfl
  · rw [graphOf_updatePathToRoot h]
    exact graphOf_setRec ((recRemove_fields hn').1.trans (SF.findSub_some hk).1) s.forest

theorem graphOf_removeDataPointFromOutliers {s s' : Store} {dp : Nat}
    (h : s.removeDataPointFromOutliers dp = some s') : graphOf s'.forest = graphOf s.forest := by
  rw [(rmOut_unf h).1]

/-! ### non-vacuity -/

open C07Ex in
example : graphOf (t2.update dt).forest = graphOf t2.forest ∧ graphOf t2.relabelNodes.forest = graphOf t2.forest ∧
    (t2.addDataPointToNode dt 3 1).map (fun s => graphOf s.forest) = some (graphOf t2.forest) ∧
    (t2.removeDataPointFromNode dt 1 1).map (fun s => graphOf s.forest) = some (graphOf t2.forest) ∧
    (t2.removeDataPointFromOutliers 2).map (fun s => graphOf s.forest) = some (graphOf t2.forest) ∧
    graphOf t2.forest = ⟨[0, 2, 1], [(0, 2), (2, 1)]⟩ :=
  -- evaluating `update` would recompute every cached vector in the kernel
  ⟨graphOf_update dt t2, graphOf_relabelNodes t2, by decide +kernel⟩

end PhyModel.Graph
