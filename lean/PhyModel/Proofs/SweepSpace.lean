import PhyModel.Model.Sweep
import PhyModel.Proofs.HoldsMoves
import PhyModel.Proofs.PGSubKernel
import PhyModel.Proofs.OrdersUniform
/-! # Whole sweep: the common state space.

C01 works on the subtype of the computed list `PGSpec.allStates c D` with the target `PG.piD` (`pOne` on
`PGSpec.finals c D`, 0 on the partial trees); C04 works on duplicate-free lists of well-formed trees that
are closed under the moves.  The bridge: under `PG.HypD`

* `x ∈ PGSpec.finals c D ↔ RunOK.Holds c D x` (`mem_finals_iff_holds`): the complete trees the SMC levels
  enumerate are exactly the well-formed trees holding the data points `D`;
* `Sweep.space c D = (finals c D).eraseDups` is duplicate free, consists of well-formed trees holding `D`,
  is closed under every step of the data-point move and every re-attachment of the prune-regraft move
  (`space_*`), and carries a non-negative (positive) `pOne`;
* a sum over the subtype weighted by `piD` is the list sum over `space c D` weighted by `pOne`
  (`sum_piD_eq_lsum`). -/

namespace PhyModel.Sweep
open Proposal PGSpec PG RunOK PhyModel.Moves

theorem nodup_eraseDups {α : Type} [BEq α] [LawfulBEq α] : ∀ (n : ℕ) (l : List α), l.length ≤ n → l.eraseDups.Nodup
  | _, [], _ => List.nodup_nil
  | 0, _ :: _, h => absurd h (Nat.not_succ_le_zero _)
  | n + 1, a :: l, h => by
    rw [List.eraseDups_cons, List.nodup_cons]
    refine ⟨fun hm => ?_, nodup_eraseDups n _ ?_⟩
    · have := (List.mem_filter.mp (List.mem_eraseDups.mp hm)).2
      rw [beq_self_eq_true] at this
      exact Bool.false_ne_true this
    · exact Nat.le_trans (List.length_filter_le _ _) (Nat.le_of_succ_le_succ h)

variable {dt : Data} {c : Proposal.Cfg} {D : List ℕ}

/-- **the complete trees enumerated by the SMC levels are the well-formed trees holding `D`** -/
theorem mem_finals_iff_holds (h : HypD dt c D) {x : T} : x ∈ finals c D ↔ Holds c D x := by
  constructor
  · intro hx
    obtain ⟨w, hp⟩ := finals_wft h hx
    exact ⟨w, hp⟩
  · intro hx
    exact wft_mem_finals hx.wft hx.perm

theorem mem_space {x : T} : x ∈ space c D ↔ x ∈ finals c D := by
  unfold space; exact List.mem_eraseDups

theorem space_nodup (c : Proposal.Cfg) (D : List ℕ) : (space c D).Nodup := nodup_eraseDups _ _ (Nat.le_refl _)

theorem mem_space_iff_holds (h : HypD dt c D) {x : T} : x ∈ space c D ↔ Holds c D x :=
  mem_space.trans (mem_finals_iff_holds h)

theorem finals_sub_allStates {x : T} (hx : x ∈ finals c D) : x ∈ allStates c D := by
  obtain ⟨σ, hσ, hxl⟩ := mem_finals.mp hx
  exact states_sub_allStates hσ x (mem_states.mpr ⟨σ.length, Nat.le_refl _, hxl⟩)

theorem space_pOne_pos (h : HypD dt c D) {x : T} (hx : x ∈ space c D) : 0 < pOneT dt c x :=
  finals_pOne_pos h (mem_space.mp hx)

/-- the move configuration of `run.py:setup_samplers` for the kernel configuration `c` -/
def mvCfg (dt : Data) (c : Proposal.Cfg) : Moves.Cfg := ⟨dt, c.α, c.op != 0⟩

theorem mvCfg_out (dt : Data) (c : Proposal.Cfg) : (mvCfg dt c).outliers = true → c.op ≠ 0 := by
  intro ho h0
  simp [mvCfg, h0] at ho

/-! ### the hypotheses of `dataPointMove_invariant` and `pruneRegraft_invariant` on `space c D` -/

theorem space_wf (h : HypD dt c D) : ∀ x ∈ space c D, Canon.WFT x :=
  fun _ hx => toCanon ((mem_space_iff_holds h).mp hx).wft

theorem space_data (h : HypD dt c D) : ∀ x ∈ space c D, (x.f.all ++ x.out).Perm D :=
  fun _ hx => ((mem_space_iff_holds h).mp hx).perm

theorem space_out (h : HypD dt c D) : (mvCfg dt c).outliers = false → ∀ x ∈ space c D, x.out = [] := by
  intro ho x hx
  refine ((mem_space_iff_holds h).mp hx).wft.out ?_
  simpa [mvCfg] using ho

theorem space_dp_closed (h : HypD dt c D) :
    ∀ i ∈ D, ∀ x ∈ space c D, ∀ yq ∈ dpStep (mvCfg dt c) x i, yq.1 ∈ space c D := by
  intro i _ x hx yq hyq
  exact (mem_space_iff_holds h).mpr
    (dpStep_holds (mvCfg dt c) ((mem_space_iff_holds h).mp hx) (mvCfg_out dt c) i yq hyq)

theorem space_pr_closed (h : HypD dt c D) :
    ∀ x ∈ space c D, ∀ sub ∈ nodesOf x.f, ∀ y ∈ prCands x sub, y ∈ space c D := by
  intro x hx sub hsub y hy
  exact (mem_space_iff_holds h).mpr (prCands_hold ((mem_space_iff_holds h).mp hx) hsub y hy)

theorem space_pOne_nonneg (h : HypD dt c D) : ∀ x ∈ space c D, 0 ≤ pOneOf (mvCfg dt c) x :=
  fun _ hx => le_of_lt (space_pOne_pos h hx)

/-! ### sums over the C01 subtype = list sums over `space c D` -/

theorem piD_eq (x : T) : piD dt c D x = if x ∈ space c D then pOneT dt c x else 0 := by
  unfold piD
  by_cases hx : x ∈ finals c D
  · rw [if_pos hx, if_pos (mem_space.mpr hx)]
  · rw [if_neg hx, if_neg (fun h' => hx (mem_space.mp h'))]

/-- a `piD`-weighted sum over the C01 state type is the `pOne`-weighted list sum over `space c D` -/
theorem sum_piD_eq_lsum (F : T → ℚ) :
    ∑ s : St (allStates c D), piD dt c D s.1 * F s.1 = lsum (space c D) (fun x => pOneT dt c x * F x) := by
  rw [← sum_indicator_lsum (allStates c D) (fun x => pOneT dt c x * F x) (space c D) (space_nodup c D)
    (fun a ha => finals_sub_allStates (mem_space.mp ha))]
  apply Finset.sum_congr rfl
  intro s _
  rw [piD_eq]
  by_cases hs : s.1 ∈ space c D
  · rw [if_pos hs, if_pos hs]
  · rw [if_neg hs, if_neg hs, zero_mul]

end PhyModel.Sweep
