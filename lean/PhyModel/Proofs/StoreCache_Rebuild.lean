import PhyModel.Proofs.StoreCache_Gen
import PhyModel.Proofs.LikProofs
/-! C06, `rebuild_eq`: under the cache invariant every cached vector is the value of the
from-scratch recursion of `Model/Tree.lean` (`nodeP`, `nodeR`, `rootR`) on the forest with the same
shape and assignment, and both joint densities read from the cache equal `Density.pOne` /
`Density.pMarg` of that forest. -/
namespace PhyModel.Store.C06

theorem getD_map_range {α} (S : Nat) (f : Nat → α) (d : α) (s : Nat) (hs : s < S) :
    ((List.range S).map f).getD s d = f s := by
  simp [List.getD_eq_getElem?_getD, hs]

theorem recompR_getD (dt : Data) (n : NodeRec) (k : SF) (s : Nat) (hs : s < dt.S) :
    (recompR dt n k).getD s [] = pmul dt.G (n.p.getD s []) (prefixSum dt.G (Dc dt.G s k)) := by
  unfold recompR; rw [getD_map_range _ _ _ _ hs]

/-- every (clone, children) pair of a forest -/
def _root_.PhyModel.Store.SF.nodesK : SF → List (NodeRec × SF)
  | .nil => []
  | .cons n k s => (n, k) :: (nodesK k ++ nodesK s)

/-- the convolution of the cached `r` vectors is the `D` recursion on the rebuilt likelihood forest -/
theorem Dc_eq_D (dt : Data) (sm : Nat) (hs : sm < dt.S) (f : SF) :
    CacheOKsf dt f → Dc dt.G sm f = D dt.G (toLik dt sm f.toDF) := by
  induction f with
  | nil => exact fun _ => rfl
  | cons n k s ihk ihs =>
    intro ⟨hp, hr, hk, hsb⟩
    simp only [Dc, SF.toDF, toLik, D]
    rw [hr, recompR_getD dt n k sm hs, hp, getD_map_range _ _ _ _ hs, ihk hk, ihs hsb]

/-- a clone's cached vectors are the from-scratch `nodeP` / `nodeR` -/
theorem node_rebuild (dt : Data) (f : SF) :
    CacheOKsf dt f → ∀ x ∈ f.nodesK,
      x.1.p = (List.range dt.S).map (fun sm => nodeP dt sm x.1.dps) ∧
      x.1.r = (List.range dt.S).map (fun sm => nodeR dt sm x.1.dps x.2.toDF) := by
  induction f with
  | nil => exact fun _ _ hx => nomatch hx
  | cons n k s ihk ihs =>
    intro ⟨hp, hr, hk, hsb⟩ x hx
    simp only [SF.nodesK, List.mem_cons, List.mem_append] at hx
    rcases hx with rfl | hx | hx
    · refine ⟨hp, ?_⟩
      rw [hr]
      unfold recompR
      apply List.map_congr_left
      intro sm hsm
      have hs := List.mem_range.1 hsm
      show pmul dt.G (n.p.getD sm []) (prefixSum dt.G (Dc dt.G sm k)) = nodeR dt sm n.dps k.toDF
      rw [hp, getD_map_range _ _ _ _ hs, Dc_eq_D dt sm hs k hk]
      rfl
    · exact ihk hk x hx
    · exact ihs hsb x hx

theorem pmul_priorVec (dt : Data) (a : Vec) :
    pmul dt.G (priorVec dt) (prefixSum dt.G a) = (prefixSum dt.G a).map fun x => dt.prior * x := by
  unfold pmul prefixSum priorVec
  rw [List.map_map]
  apply List.map_congr_left
  intro k hk
  have hk' := List.mem_range.1 hk
  rw [getQ_map_range _ _ _ hk', getQ_map_range _ _ _ hk']
  rfl

/-- the virtual root's recomputed vector is the from-scratch `rootR` -/
theorem recompRoot_rebuild (dt : Data) (f : SF) (h : CacheOKsf dt f) :
    recompRoot dt f = (List.range dt.S).map fun sm => rootR dt sm f.toDF := by
  unfold recompRoot
  apply List.map_congr_left
  intro sm hsm
  rw [pmul_priorVec, Dc_eq_D dt sm (List.mem_range.1 hsm) f h]
  rfl

theorem root_rebuild (dt : Data) (s : Store) (h : CacheOK dt s) (hne : s.forest.isNil = false) :
    s.rootR = (List.range dt.S).map fun sm => rootR dt sm s.forest.toDF := by
  rw [h.2 hne, recompRoot_rebuild dt _ h.1]

theorem isNil_iff_numRoots (f : SF) : f.isNil = true ↔ f.toDF.numRoots = 0 := by
  cases f <;> simp [SF.isNil, SF.toDF, Orders.Forest.numRoots]

/-- the shape in which both `log_p_one` and `log_p` read the virtual root's cached vector -/
theorem prod_rootR_eq (dt : Data) (s : Store) (h : CacheOK dt s) (F : Vec → Rat) :
    (if s.forest.isNil then 1 else prodL ((List.range dt.S).map fun k => F (s.rootR.getD k []))) =
      if s.forest.toDF.numRoots = 0 then 1
      else prodL ((List.range dt.S).map fun k => F (rootR dt k s.forest.toDF)) := by
  by_cases hn : s.forest.isNil = true
  · rw [if_pos hn, if_pos ((isNil_iff_numRoots _).1 hn)]
  · rw [if_neg hn, if_neg (fun e => hn ((isNil_iff_numRoots _).2 e))]
    congr 1
    apply List.map_congr_left
    intro k hk
    rw [root_rebuild dt s h (by simpa using hn), getD_map_range _ _ _ _ (List.mem_range.1 hk)]

theorem dataOneC_eq (dt : Data) (s : Store) (h : CacheOK dt s) :
    Store.dataOneC dt s = Density.dataOne dt s.forest.toDF :=
  prod_rootR_eq dt s h fun v => getQ v (dt.G - 1)

theorem dataMargC_eq (dt : Data) (s : Store) (h : CacheOK dt s) :
    Store.dataMargC dt s = Density.dataMarg dt s.forest.toDF :=
  prod_rootR_eq dt s h vsum

theorem pOneC_eq (dt : Data) (α : Rat) (s : Store) (h : CacheOK dt s) :
    Store.pOneC dt α s = Density.pOne dt α s.forest.toDF s.outliers := by
  unfold Store.pOneC Density.pOne; rw [dataOneC_eq dt s h]

theorem pMargC_eq (dt : Data) (α : Rat) (s : Store) (h : CacheOK dt s) :
    Store.pMargC dt α s = Density.pMarg dt α s.forest.toDF s.outliers := by
  unfold Store.pMargC Density.pMarg; rw [dataMargC_eq dt s h]

end PhyModel.Store.C06
