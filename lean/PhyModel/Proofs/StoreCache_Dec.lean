import PhyModel.Proofs.StoreCache_Step
import PhyModel.Proofs.StoreWFB
/-! C06, decidable forms of the hypotheses (for the non-vacuity examples): `wfcB` decides the part `WFc`
of well-formedness (`cacheOKB` decides `CacheOK`: `cacheOKB_iff` in `Proofs/DictBuild.lean`), `alongB`
checks a state predicate (`WFc`, or C07's `WF` through `wfB`) along a concrete run, `dataNZB` decides
`DataNZ`. -/
namespace PhyModel.Store.C06

/-- decides `WFc` -/
def wfcB (s : Store) : Bool :=
  decide (s.forest.idxs.Nodup) && s.forest.recs.all fun n =>
    match s.nodeIdx.lookup n.name with
    | some j => j == n.idx
    | none => true

theorem wfcB_sound (s : Store) (h : wfcB s = true) : WFc s := by
  unfold wfcB at h
  rw [Bool.and_eq_true, decide_eq_true_iff, List.all_eq_true] at h
  refine ⟨h.1, fun n hn j hj => ?_⟩
  have := h.2 n hn
  rw [hj] at this
  exact (beq_iff_eq.1 this)

/-- checks `p` on every state an operation of `ops` is applied to, running from `sys` -/
def alongB (dt : Data) (p : Sys → Bool) : Sys → List Op → Bool
  | _, [] => true
  | sys, op :: ops => p sys && (match step dt sys op with
      | some sys' => alongB dt p sys' ops
      | none => true)

theorem alongB_sound (dt : Data) (p : Sys → Bool) : ∀ (ops : List Op) (sys : Sys),
    alongB dt p sys ops = true → Along dt (fun sy => p sy = true) sys ops
  | [], _, _ => trivial
  | op :: ops, sys, h => by
    simp only [alongB, Bool.and_eq_true] at h
    refine ⟨h.1, fun sys' hs => ?_⟩
    have h2 := h.2
    rw [hs] at h2
    exact alongB_sound dt p ops sys' h2

theorem along_wfc_of_bool (dt : Data) (ops : List Op) (sys : Sys)
    (h : alongB dt (fun sy => sy.all wfcB) sys ops = true) :
    Along dt (fun sy => ∀ s ∈ sy, WFc s) sys ops :=
  Along.mono (fun _ hsy s hs => wfcB_sound s (List.all_eq_true.1 hsy s hs))
    (alongB_sound dt _ ops sys h)

theorem along_wf_of_bool (dt : Data) (ops : List Op) (sys : Sys)
    (h : alongB dt (fun sy => sy.all Store.wfB) sys ops = true) :
    Along dt (fun sy => ∀ s ∈ sy, WF s) sys ops :=
  Along.mono (fun _ hsy s hs => (wfB_iff s).1 (List.all_eq_true.1 hsy s hs))
    (alongB_sound dt _ ops sys h)

theorem forall_wf_of_bool (sys : Sys) (h : sys.all Store.wfB = true) : ∀ s ∈ sys, WF s :=
  fun s hs => (wfB_iff s).1 (List.all_eq_true.1 h s hs)

theorem forall_cacheOK_of_bool (dt : Data) (sys : Sys) (h : sys.all (Store.cacheOKB dt) = true) :
    ∀ s ∈ sys, CacheOK dt s :=
  fun s hs => (cacheOKB_iff dt s).1 (List.all_eq_true.1 h s hs)

/-- decides `DataNZ` -/
def dataNZB (dt : Data) : Bool :=
  (List.range dt.n).all fun i => (List.range dt.S).all fun s => (List.range dt.G).all fun k =>
    getQ (dt.L i s) k != 0

theorem dataNZB_iff (dt : Data) : dataNZB dt = true ↔ DataNZ dt := by
  simp only [dataNZB, DataNZ, List.all_eq_true, List.mem_range, bne_iff_ne]
  exact ⟨fun h i s k hi hs hk => h i hi s hs k hk, fun h i hi s hs k hk => h i s k hi hs hk⟩

theorem dataNZB_sound (dt : Data) (h : dataNZB dt = true) : DataNZ dt := (dataNZB_iff dt).1 h

end PhyModel.Store.C06
