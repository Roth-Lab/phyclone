import PhyModel.Proofs.PropTable
/-! The sampler (mirror of `sample()`) draws each tree with the probability the
table (mirror of `log_p()`) reports — as equality of expectations of every test function. -/

namespace PhyModel
open Dist Proposal

namespace Proposal
/-- uniform number of children, uniform subset of that size, new clone above it -/
def newNodeD (p : T) (i : ℕ) : Dist T :=
  Dist.bind (Dist.uniform (List.range (p.f.roots.length + 1))) fun ch =>
    Dist.fmap (newT p i) (chooseK ch p.f.roots)
def existingD (p : T) (i : ℕ) : Dist T :=
  Dist.fmap (exT p i) (Dist.uniform (List.range p.f.roots.length))
def outOpt (c : Cfg) (p : T) (i : ℕ) : Dist T := if c.op ≠ 0 then [(outT p i, c.op)] else []
end Proposal

theorem sampler_bootstrap (dt : Data) (c : Cfg) (first : Bool) (p : T) (i : ℕ) (hk : c.kind = .bootstrap) :
    sampler dt c first p i
      = if first || p.f.roots.length = 0 then Dist.scale (1 - c.op) (newNodeD p i) ++ outOpt c p i
        else Dist.scale ((1 - c.op) / 2) (existingD p i) ++ Dist.scale ((1 - c.op) / 2) (newNodeD p i)
          ++ outOpt c p i := by
  unfold sampler
  simp only [hk, outOpt, bne_iff_ne, ne_eq]
  rfl

theorem sampler_semi0 (dt : Data) (c : Cfg) (first : Bool) (p : T) (i : ℕ) (hk : c.kind = .semi)
    (hr : p.f.roots.length = 0) :
    sampler dt c first p i = Dist.categorical (wts dt c (outL c p i ++ [newT p i ([], [])])) := by
  unfold sampler
  simp only [hk, hr, if_true, wts, outL, bne_iff_ne, ne_eq]
  split <;> rfl

theorem sampler_semi (dt : Data) (c : Cfg) (first : Bool) (p : T) (i : ℕ) (hk : c.kind = .semi)
    (hr : p.f.roots.length ≠ 0) :
    sampler dt c first p i
      = Dist.scale (1 / 2) (Dist.categorical (wts dt c (exL p i ++ outL c p i)))
        ++ Dist.scale (1 / 2) (newNodeD p i) := by
  unfold sampler
  simp only [hk, hr, if_false, wts, exL, outL, bne_iff_ne, ne_eq]
  split <;> rfl

theorem E_newNodeD (p : T) (i : ℕ) (hkeys : DistinctKeys p.f.roots) (h : T → ℚ) :
    E (newNodeD p i) h
      = lsum (splits p.f.roots) (fun cr =>
          1 / ((p.f.roots.length : ℚ) + 1) / binom p.f.roots.length cr.1.length * h (newT p i cr)) := by
  have hb : E (newNodeD p i) h
      = E (Dist.bind (Dist.uniform (List.range (p.f.roots.length + 1))) fun ch => chooseK ch p.f.roots)
          (fun cr => h (newT p i cr)) := by
    unfold newNodeD
    rw [E_bind, E_bind]
    apply E_congr
    intro ap _
    rw [E_fmap]
  rw [hb]
  apply E_newNode (fun x => x ∈ p.f.roots) p.f.roots (fun x hx => hx)
  intro c c' r hp hc
  simp only [newT]
  rw [newNode_perm p.f.roots hkeys i p.out c c' r hp hc]

theorem E_existingD (p : T) (i : ℕ) (h : T → ℚ) :
    E (existingD p i) h
      = (1 / (p.f.roots.length : ℚ)) * lsum (List.range p.f.roots.length) (fun j => h (exT p i j)) := by
  unfold existingD
  rw [E_fmap, E_uniform, List.length_range]

theorem E_outOpt (c : Cfg) (p : T) (i : ℕ) (h : T → ℚ) :
    E (outOpt c p i) h = lsum (if c.op ≠ 0 then [(outT p i, c.op)] else []) (fun tq => tq.2 * h tq.1) := rfl

theorem sampler_eq_table_proof (dt : Data) (c : Cfg) (first : Bool) (p : T) (i : ℕ)
    (hfirst : first = true → p.f.numRoots = 0) (hkeys : DistinctKeys p.f.roots) (h : T → ℚ) :
    E (sampler dt c first p i) h = lsum (table dt c first p i) (fun tq => tq.2 * h tq.1) := by
  rw [numRoots_eq] at hfirst
  cases hk : c.kind with
  | bootstrap =>
    rw [sampler_bootstrap dt c first p i hk, table_bootstrap dt c first p i hk,
      lsum_append, lsum_append, lsum_map, lsum_map]
    by_cases hr : p.f.roots.length = 0
    · have hrs : p.f.roots = [] := List.length_eq_zero_iff.mp hr
      simp only [hr, decide_true, Bool.or_true, if_true, E_append, E_scale, E_outOpt,
        E_newNodeD p i hkeys]
      have hb : binom 0 0 = 1 := by rw [binom_eq_choose 0 0 le_rfl, Nat.choose_self, Nat.cast_one]
      rw [hrs, lsum_splits_nil, lsum_splits_nil, List.range_zero, lsum_nil, zero_add]
      simp only [List.length_nil, hb, Nat.cast_zero, zero_add, div_one, one_mul]
    · have hf : first = false := by
        cases first with
        | false => rfl
        | true => exact absurd (hfirst rfl) hr
      simp only [hf, Bool.false_or, decide_eq_true_eq, hr, if_false, E_append, E_scale, E_outOpt,
        E_newNodeD p i hkeys, E_existingD]
      rw [← lsum_mul_left, ← lsum_mul_left, ← lsum_mul_left]
      congr 2
      · apply lsum_congr; intro j _; ring
      · apply lsum_congr; intro cr _; ring
  | semi =>
    by_cases hr : p.f.roots.length = 0
    · have hrs : p.f.roots = [] := List.length_eq_zero_iff.mp hr
      rw [sampler_semi0 dt c first p i hk hr, table_semi0 dt c first p i hk hr, ← E_eq_lsum,
        E_categorical_wts, E_categorical_wts]
      have hnew : newL p i = [newT p i ([], [])] := by rw [newL, hrs]; rfl
      rw [hnew]
      simp only [lsum_append, lsum_cons, lsum_nil]
      rw [add_comm (lsum (outL c p i) _), add_comm (lsum (outL c p i) _)]
    · rw [sampler_semi dt c first p i hk hr, table_semi dt c first p i hk hr, lsum_append, E_append,
        ← E_eq_lsum, lsum_map, E_scale, E_scale, E_newNodeD p i hkeys, ← lsum_mul_left]
      congr 1
      apply lsum_congr; intro cr _; ring
  | full =>
    unfold sampler
    simp only [hk]
    rfl

end PhyModel
