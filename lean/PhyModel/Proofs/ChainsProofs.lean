import PhyModel.Model.Chains
/-! Helper lemmas for C18: the keyed collection is "last write wins", and every write for key `i`
carries the same value, so the completion order is immaterial. -/
namespace PhyModel.Chains

theorem lookup_cons_eq {V : Type} (k : Nat) (v : V) (t : List (Nat × V)) (i : Nat) :
    ((k, v) :: t).lookup i = if i = k then some v else t.lookup i := by
  rw [List.lookup_cons]
  by_cases h : i = k
  · rw [if_pos h, beq_iff_eq.mpr h]
  · rw [if_neg h, beq_false_of_ne h]

theorem lookup_insert {V : Type} (m : List (Nat × V)) (k : Nat) (v : V) (i : Nat) :
    (insert m k v).lookup i = if i = k then some v else m.lookup i := by
  induction m with
  | nil => exact lookup_cons_eq k v [] i
  | cons p t ih =>
    obtain ⟨k', v'⟩ := p
    unfold insert
    split
    · next hk =>
      subst hk
      rw [lookup_cons_eq, lookup_cons_eq]
      split <;> rfl
    · next hk =>
      rw [lookup_cons_eq, lookup_cons_eq, ih]
      by_cases h : i = k'
      · rw [if_pos h, if_pos h, if_neg (h ▸ hk)]
      · rw [if_neg h, if_neg h]

theorem lookup_foldl_insert {R : Type} (l : List (ChainResult R)) (m : List (Nat × ChainResult R)) (i : Nat)
    (val : Option (ChainResult R)) (hval : ∀ r ∈ l, r.chainNum = i → val = some r) :
    (l.foldl (fun m r => insert m r.chainNum r) m).lookup i =
      if ∃ r ∈ l, r.chainNum = i then val else m.lookup i := by
  induction l generalizing m with
  | nil => exact (if_neg fun ⟨_, h, _⟩ => nomatch h).symm
  | cons r t ih =>
    rw [List.foldl_cons, ih _ fun r' hr' => hval r' (List.mem_cons_of_mem _ hr'), lookup_insert]
    by_cases ht : ∃ r' ∈ t, r'.chainNum = i
    · obtain ⟨r', h1, h2⟩ := ht
      rw [if_pos ⟨r', h1, h2⟩, if_pos ⟨r', List.mem_cons_of_mem _ h1, h2⟩]
    · rw [if_neg ht]
      by_cases hr : i = r.chainNum
      · rw [if_pos hr, if_pos ⟨r, List.mem_cons_self, hr.symm⟩]
        exact (hval r List.mem_cons_self hr.symm).symm
      · rw [if_neg hr, if_neg]
        rintro ⟨r', h1, h2⟩
        rcases List.mem_cons.mp h1 with rfl | e
        · exact hr h2.symm
        · exact ht ⟨r', e, h2⟩

theorem getElem?_submitFrom {G R : Type} (body : G → Nat → R) (n : Nat) (gs : List G) (j : Nat) :
    (submitFrom body n gs)[j]? = gs[j]?.map fun g => runChain body g (n + j) := by
  induction gs generalizing n j with
  | nil => rfl
  | cons g t ih =>
    cases j with
    | zero => rfl
    | succ j =>
      unfold submitFrom
      rw [List.getElem?_cons_succ, List.getElem?_cons_succ, ih, Nat.add_right_comm]
      rfl

theorem mem_completed {G R : Type} {body : G → Nat → R} {gs : List G} {ord : List Nat} {r : ChainResult R} :
    r ∈ completed (submitFrom body 0 gs) ord ↔ ∃ j ∈ ord, ∃ g, gs[j]? = some g ∧ r = runChain body g j := by
  unfold completed
  rw [List.mem_filterMap]
  refine exists_congr fun j => and_congr_right fun _ => ?_
  rw [getElem?_submitFrom, Nat.zero_add, Option.map_eq_some_iff]
  exact exists_congr fun g => and_congr_right fun _ => eq_comm

/-- every completed future with chain number `i` is *the* result of chain `i` -/
theorem completed_val {G R : Type} (body : G → Nat → R) (gs : List G) (ord : List Nat) (i : Nat) :
    ∀ r ∈ completed (submitFrom body 0 gs) ord, r.chainNum = i →
      (gs[i]?.map fun g => runChain body g i) = some r := by
  intro r hr hi
  obtain ⟨j, _, g, hg, rfl⟩ := mem_completed.mp hr
  obtain rfl : j = i := hi
  rw [hg]
  rfl

theorem exists_completed_iff {G R : Type} (body : G → Nat → R) (gs : List G) (ord : List Nat) (i : Nat) :
    (∃ r ∈ completed (submitFrom body 0 gs) ord, r.chainNum = i) ↔ (i ∈ ord ∧ i < gs.length) := by
  constructor
  · rintro ⟨r, hr, hi⟩
    obtain ⟨j, hj, g, hg, rfl⟩ := mem_completed.mp hr
    obtain rfl : j = i := hi
    exact ⟨hj, (List.getElem?_eq_some_iff.mp hg).1⟩
  · rintro ⟨ho, hl⟩
    exact ⟨_, mem_completed.mpr ⟨i, ho, gs[i], List.getElem?_eq_getElem hl, rfl⟩, rfl⟩

/-- the collected dict, read at key `i`, for *any* list of completed future indices -/
theorem lookup_collect {G R : Type} (body : G → Nat → R) (gs : List G) (ord : List Nat) (i : Nat) :
    (collect (completed (submitFrom body 0 gs) ord)).lookup i =
      if i ∈ ord then gs[i]?.map fun g => runChain body g i else none := by
  unfold collect
  rw [lookup_foldl_insert _ _ i _ (completed_val body gs ord i)]
  by_cases h : i ∈ ord
  · by_cases hl : i < gs.length
    · rw [if_pos ((exists_completed_iff body gs ord i).mpr ⟨h, hl⟩), if_pos h]
    · rw [if_neg (fun hh => hl ((exists_completed_iff body gs ord i).mp hh).2), if_pos h,
        List.getElem?_eq_none (Nat.le_of_not_lt hl)]
      rfl
  · rw [if_neg (fun hh => h ((exists_completed_iff body gs ord i).mp hh).1), if_neg h]
    rfl

end PhyModel.Chains
