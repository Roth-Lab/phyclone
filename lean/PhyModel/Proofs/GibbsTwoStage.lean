import Mathlib.MeasureTheory.Measure.Prod
/-! # Two-stage Gibbs invariance for densities (abstract measure theory)

`(X, μ)`, `(Y, ν)` s-finite measure spaces, `j : X → Y → ℝ≥0∞` a jointly measurable "joint
density" w.r.t. `μ ⊗ ν`.  If the first coordinate has (unnormalised) density `mX = ∫ j dν`, the
second coordinate is drawn from the conditional density `c1 x ·` and then a new first coordinate
from the conditional density `c2 y ·`, the new first coordinate again has density `mX`.

Everything is stated for `ℝ≥0∞`-valued functions and `∫⁻`, for every measurable test function `f`
(`f = indicator A` gives the statement about measures).

* `gibbs_two_stage_factorised` — the conditionals are given by factorisations
  `j x y = (∫ j x · dν) * c1 x y`, `j x y = (∫ j · y dμ) * c2 y x` (a.e.), `mX` is any a.e. version of
  the first marginal, no finiteness needed;
* `cond_mul_lintegral` — `m * ∫ (k / m) g = ∫ k g` for `m = ∫ k ≠ ⊤`;
* `gibbs_two_stage` — the conditionals are the quotients `j / mX`, `j / mY`, marginals a.e. finite;
* `cond_lintegral_eq_one` — the quotient is a probability density where the marginal is in `(0, ⊤)`;
* `lintegral_of_factor`, `eq_lintegral_mul_of_factor`, `quotient_of_factor` — a density that on a
  measurable set is *some* finite constant multiple of a probability density `p`: the constant is
  the marginal, the density is `marginal * p` (the hypothesis of `gibbs_two_stage_factorised`), the
  quotient `density / marginal` is `p`.  This is how `Props/C13.lean` uses the factorised form.
-/
open MeasureTheory Function
open scoped ENNReal

namespace PhyModel.GibbsTwoStage

variable {X Y : Type*} [MeasurableSpace X] [MeasurableSpace Y]

theorem mul_lintegral_of_factor {A : Type*} [MeasurableSpace A] (ρ : Measure A)
    {k c g : A → ℝ≥0∞} {m : ℝ≥0∞} (hcg : Measurable fun a => c a * g a)
    (h : ∀ᵐ a ∂ρ, k a = m * c a) : m * ∫⁻ a, c a * g a ∂ρ = ∫⁻ a, k a * g a ∂ρ := by
  rw [← lintegral_const_mul m hcg]
  refine lintegral_congr_ae ?_
  filter_upwards [h] with a ha
  rw [ha, mul_assoc]

/-- **Two-stage Gibbs invariance, factorised form.**  Pull `mX c1` back to `j`, swap, pull
`(∫ j dμ) c2` back to `j`, swap, integrate `y` out. -/
theorem gibbs_two_stage_factorised (μ : Measure X) (ν : Measure Y) [SFinite μ] [SFinite ν]
    (j : X → Y → ℝ≥0∞) (hj : Measurable (uncurry j))
    (mX : X → ℝ≥0∞) (c1 : X → Y → ℝ≥0∞) (c2 : Y → X → ℝ≥0∞)
    (hc1 : ∀ x, Measurable (c1 x)) (hc2 : Measurable (uncurry c2))
    (hmX : ∀ᵐ x ∂μ, mX x = ∫⁻ y, j x y ∂ν)
    (h1 : ∀ᵐ x ∂μ, ∀ᵐ y ∂ν, j x y = (∫⁻ y, j x y ∂ν) * c1 x y)
    (h2 : ∀ᵐ y ∂ν, ∀ᵐ x ∂μ, j x y = (∫⁻ x, j x y ∂μ) * c2 y x)
    (f : X → ℝ≥0∞) (hf : Measurable f) :
    ∫⁻ x, mX x * ∫⁻ y, c1 x y * ∫⁻ x', c2 y x' * f x' ∂μ ∂ν ∂μ = ∫⁻ x', mX x' * f x' ∂μ := by
  have hg : Measurable fun y => ∫⁻ x', c2 y x' * f x' ∂μ :=
    (hc2.mul (hf.comp measurable_snd)).lintegral_prod_right'
  calc ∫⁻ x, mX x * ∫⁻ y, c1 x y * ∫⁻ x', c2 y x' * f x' ∂μ ∂ν ∂μ
      = ∫⁻ x, ∫⁻ y, j x y * ∫⁻ x', c2 y x' * f x' ∂μ ∂ν ∂μ :=
        lintegral_congr_ae <| by
          filter_upwards [hmX, h1] with x hm hx
          rw [hm]
          exact mul_lintegral_of_factor ν ((hc1 x).mul hg) hx
    _ = ∫⁻ y, ∫⁻ x, j x y * ∫⁻ x', c2 y x' * f x' ∂μ ∂μ ∂ν :=
        lintegral_lintegral_swap (hj.mul (hg.comp measurable_snd)).aemeasurable
    _ = ∫⁻ y, ∫⁻ x', j x' y * f x' ∂μ ∂ν :=
        lintegral_congr_ae (h2.mono fun y hy => (lintegral_mul_const _ hj.of_uncurry_right).trans
          (mul_lintegral_of_factor μ (hc2.of_uncurry_left.mul hf) hy))
    _ = ∫⁻ x', ∫⁻ y, j x' y * f x' ∂ν ∂μ :=
        -- used right to left: without `f :=` the integrand is found only after a long search
        (lintegral_lintegral_swap (f := fun x y => j x y * f x)
          (hj.mul (hf.comp measurable_fst)).aemeasurable).symm
    _ = ∫⁻ x', mX x' * f x' ∂μ :=
        lintegral_congr_ae <| by
          filter_upwards [hmX] with x hm
          rw [hm, lintegral_mul_const _ hj.of_uncurry_left]

/-- where the mass is `0` both sides vanish because `k = 0` a.e. -/
theorem cond_mul_ae {A : Type*} [MeasurableSpace A] (ρ : Measure A) (k : A → ℝ≥0∞)
    (hk : Measurable k) (hfin : ∫⁻ a, k a ∂ρ ≠ ⊤) :
    ∀ᵐ a ∂ρ, k a = (∫⁻ a, k a ∂ρ) * (k a / ∫⁻ a, k a ∂ρ) := by
  by_cases h0 : ∫⁻ a, k a ∂ρ = 0
  · filter_upwards [(lintegral_eq_zero_iff hk).mp h0] with a ha
    rw [h0, zero_mul]; exact ha
  · exact ae_of_all _ fun a => (ENNReal.mul_div_cancel h0 hfin).symm

/-- `m * ∫ (k / m) g = ∫ k g` for `m = ∫ k ≠ ⊤` -/
theorem cond_mul_lintegral {A : Type*} [MeasurableSpace A] (ρ : Measure A) (k g : A → ℝ≥0∞)
    (hk : Measurable k) (hfin : ∫⁻ a, k a ∂ρ ≠ ⊤) :
    (∫⁻ a, k a ∂ρ) * ∫⁻ a, k a / (∫⁻ a, k a ∂ρ) * g a ∂ρ = ∫⁻ a, k a * g a ∂ρ := by
  rw [← lintegral_const_mul' _ _ hfin]
  refine lintegral_congr_ae ?_
  filter_upwards [cond_mul_ae ρ k hk hfin] with a ha
  rw [← mul_assoc, ← ha]

/-- where the marginal is neither `0` nor `⊤` the quotient `k / ∫ k` is a probability density -/
theorem cond_lintegral_eq_one {A : Type*} [MeasurableSpace A] (ρ : Measure A) (k : A → ℝ≥0∞)
    (hk : Measurable k) (h0 : ∫⁻ a, k a ∂ρ ≠ 0) (hfin : ∫⁻ a, k a ∂ρ ≠ ⊤) :
    ∫⁻ a, k a / (∫⁻ a, k a ∂ρ) ∂ρ = 1 := by
  simp_rw [div_eq_mul_inv]
  rw [lintegral_mul_const _ hk, ENNReal.mul_inv_cancel h0 hfin]

/-- **Two-stage Gibbs invariance.**  `j` jointly measurable, marginals
`mX x = ∫ j x y dν(y)` (finite for `μ`-a.e. `x`) and `mY y = ∫ j x y dμ(x)` (finite for `ν`-a.e.
`y`), conditional densities `c1 x y = j x y / mX x` and `c2 y x' = j x' y / mY y`.  If the first
coordinate has density `mX`, `y` is drawn from `c1 x ·` and `x'` from `c2 y ·`, then `x'` has density
`mX`: for every measurable `f`,
`∫ mX(x) ∫ c1(x,y) ∫ c2(y,x') f(x') dμ(x') dν(y) dμ(x) = ∫ mX(x') f(x') dμ(x')`. -/
theorem gibbs_two_stage (μ : Measure X) (ν : Measure Y) [SFinite μ] [SFinite ν]
    (j : X → Y → ℝ≥0∞) (hj : Measurable (uncurry j))
    (hX : ∀ᵐ x ∂μ, ∫⁻ y, j x y ∂ν ≠ ⊤) (hY : ∀ᵐ y ∂ν, ∫⁻ x, j x y ∂μ ≠ ⊤)
    (f : X → ℝ≥0∞) (hf : Measurable f) :
    ∫⁻ x, (∫⁻ y, j x y ∂ν) *
        ∫⁻ y, j x y / (∫⁻ y, j x y ∂ν) *
          ∫⁻ x', j x' y / (∫⁻ x, j x y ∂μ) * f x' ∂μ ∂ν ∂μ
      = ∫⁻ x', (∫⁻ y, j x' y ∂ν) * f x' ∂μ := by
  have hc2 : Measurable (uncurry fun y x' => j x' y / ∫⁻ x, j x y ∂μ) :=
    (hj.comp measurable_swap).div (hj.lintegral_prod_left'.comp measurable_fst)
  exact gibbs_two_stage_factorised μ ν j hj (fun x => ∫⁻ y, j x y ∂ν)
    (fun x y => j x y / ∫⁻ y, j x y ∂ν) (fun y x' => j x' y / ∫⁻ x, j x y ∂μ)
    (fun x => hj.of_uncurry_left.div measurable_const) hc2 (ae_of_all _ fun _ => rfl)
    (hX.mono fun x hx => cond_mul_ae ν (j x) hj.of_uncurry_left hx)
    (hY.mono fun y hy => cond_mul_ae μ (fun x => j x y) hj.of_uncurry_right hy) f hf

section Factor
/-! a density `k` that on a measurable set `S` is a finite constant `c` times a probability density
`p` on `S` -/
variable {A : Type*} [MeasurableSpace A] {ρ : Measure A} {S : Set A} (hS : MeasurableSet S)
  {k p : A → ℝ≥0∞} {c : ℝ≥0∞} (hc : c ≠ ⊤)
  (h : ∫⁻ a in S, p a ∂ρ = 1 ∧ ∀ a ∈ S, k a = c * p a)
include hS hc h

theorem lintegral_of_factor : ∫⁻ a in S, k a ∂ρ = c := by
  rw [setLIntegral_congr_fun hS h.2, lintegral_const_mul' _ _ hc, h.1, mul_one]

theorem quotient_of_factor {a₀ : A} (h₀ : a₀ ∈ S) (hk : k a₀ ≠ 0) :
    k a₀ / ∫⁻ a in S, k a ∂ρ = p a₀ := by
  rw [lintegral_of_factor hS hc h, h.2 a₀ h₀, mul_comm]
  exact ENNReal.mul_div_cancel_right (left_ne_zero_of_mul (h.2 a₀ h₀ ▸ hk)) hc

/-- the form `gibbs_two_stage_factorised` takes -/
theorem eq_lintegral_mul_of_factor : ∀ᵐ a ∂ρ.restrict S, k a = (∫⁻ a in S, k a ∂ρ) * p a :=
  ae_restrict_of_forall_mem hS ((lintegral_of_factor hS hc h).symm ▸ h.2)

end Factor

end PhyModel.GibbsTwoStage
