import PhyModel.Proofs.MovesKernel
/-! The prune-regraft move (C04): `Moves.pruneRegraft` as a uniform choice of the subtree root
followed by a Gibbs kernel over the re-attachments; invariance from the block structure. -/
namespace PhyModel
open Dist Gibbs

namespace Moves

/-- the forest left after pruning the subtree rooted at the clone `sub` -/
def prPruned (x : T) (sub : List Nat × DF) : DF := removeSub (sub.1.headD 0) x.f

/-- the candidate list of the prune-regraft move once the subtree root `sub` is chosen -/
def prCands (x : T) (sub : List Nat × DF) : List T :=
  let pruned := prPruned x sub
  ((nodesOf pruned).map fun nd => T.mk' (attachUnder (nd.1.headD 0) sub.1 sub.2 pruned) x.out) ++
    [T.mk' (.cons sub.1 sub.2 pruned) x.out]

/-- the kernel applied once the subtree root `sub` is chosen -/
def prStep (c : Cfg) (x : T) (sub : List Nat × DF) : Dist T :=
  if (nodesOf (prPruned x sub)).isEmpty then Dist.pure x else gibbsK (pOneOf c) (prCands x sub)

theorem pruneRegraft_eq (c : Cfg) (x : T) :
    pruneRegraft c x = if (nodesOf x.f).length ≤ 1 then Dist.pure x
      else Dist.norm (Dist.bind (Dist.uniform (nodesOf x.f)) (prStep c x)) := rfl

/-- more than one clone: the move does something -/
def prActive (x : T) : Bool := decide (1 < (nodesOf x.f).length)

/-- the subtree `sub` is not the whole tree -/
def prProper (x : T) (sub : List Nat × DF) : Bool := !(nodesOf (prPruned x sub)).isEmpty

/-- the block structure the prune-regraft move needs on `S`: on the states with more than one clone
the clones are pairwise distinct, and for every clone `sub` of such a state that is not the whole
tree, the re-attachments of `sub` form a block on which `sub` stays a clone, stays a proper
subtree, and the number of clones is constant. -/
structure PrBlock (S : List T) : Prop where
  nodup : ∀ x ∈ S, prActive x → (nodesOf x.f).Nodup
  block : ∀ z ∈ S, ∀ sub ∈ nodesOf z.f, Block (S.filter fun x => prActive x && decide (sub ∈ nodesOf x.f) && prProper x sub)
    (fun x => prCands x sub)
  count : ∀ x ∈ S, prActive x → ∀ sub ∈ nodesOf x.f, prProper x sub →
    ∀ y ∈ prCands x sub, (nodesOf y.f).length = (nodesOf x.f).length

instance (S : List T) : Decidable (PrBlock S) :=
  decidable_of_iff ((∀ x ∈ S, prActive x → (nodesOf x.f).Nodup) ∧
    (∀ z ∈ S, ∀ sub ∈ nodesOf z.f,
      Block (S.filter fun x => prActive x && decide (sub ∈ nodesOf x.f) && prProper x sub)
        (fun x => prCands x sub)) ∧
    (∀ x ∈ S, prActive x → ∀ sub ∈ nodesOf x.f, prProper x sub →
      ∀ y ∈ prCands x sub, (nodesOf y.f).length = (nodesOf x.f).length))
    ⟨fun h => ⟨h.1, h.2.1, h.2.2⟩, fun h => ⟨h.1, h.2, h.3⟩⟩

theorem prStep_eq (c : Cfg) (x : T) (sub : List Nat × DF) :
    prStep c x sub = if prProper x sub then gibbsK (pOneOf c) (prCands x sub) else Dist.pure x := by
  unfold prStep prProper
  cases (nodesOf (prPruned x sub)).isEmpty <;> rfl

theorem mem_prFilter {S : List T} {sub : List Nat × DF} {x : T} :
    x ∈ S.filter (fun x => prActive x && decide (sub ∈ nodesOf x.f) && prProper x sub) ↔
      x ∈ S ∧ prActive x = true ∧ sub ∈ nodesOf x.f ∧ prProper x sub = true := by
  simp only [List.mem_filter, Bool.and_eq_true, decide_eq_true_eq, and_assoc]

/-- The prune-regraft move leaves `π` invariant, given the block structure. -/
theorem pruneRegraft_invariant_of_block (c : Cfg) (S : List T) (hS : S.Nodup)
    (hπ : ∀ x ∈ S, 0 ≤ pOneOf c x) (hB : PrBlock S) :
    Gibbs.Inv S (pOneOf c) (pruneRegraft c) := by
  apply Inv.split prActive
  · -- more than one clone: uniform choice of the subtree root `sub`, then `prStep`
    have mem₁ : ∀ {x}, x ∈ S.filter prActive → x ∈ S ∧ prActive x = true := List.mem_filter.mp
    have hact : ∀ {x}, prActive x = true → 1 < (nodesOf x.f).length := of_decide_eq_true
    refine (Inv.label_mix (hS.filter _) (fun x => nodesOf x.f) (fun sub x => decide (sub ∈ nodesOf x.f))
      (fun _ _ => decide_eq_true_iff) (prStep c)
      (fun x hx => hB.nodup x (mem₁ hx).1 (mem₁ hx).2)
      (fun x hx hnil => absurd (hact (mem₁ hx).2) (by rw [hnil]; exact Nat.not_lt_zero 1)) ?_).congr
      fun x hx h => by rw [pruneRegraft_eq, if_neg (Nat.not_le.mpr (hact (mem₁ hx).2)), E_norm]
    intro sub
    -- on the states that carry `sub` as a proper subtree: Gibbs over the re-attachments, with
    -- `r` = 1 / number of clones; elsewhere `prStep` does nothing
    have e : ((S.filter prActive).filter fun x => decide (sub ∈ nodesOf x.f)).filter
        (fun x => prProper x sub)
        = S.filter fun x => prActive x && decide (sub ∈ nodesOf x.f) && prProper x sub := by
      rw [List.filter_filter, List.filter_filter]
      exact List.filter_congr fun x _ => by
        rw [Bool.and_comm, Bool.and_comm (prProper x sub), Bool.and_assoc]
    refine Inv.gibbs_or_id ((hS.filter _).filter _) (fun x => prProper x sub) (fun x => prCands x sub)
      (pOneOf c) (fun x => 1 / ((nodesOf x.f).length : ℚ))
      (fun x hx => hπ x (mem₁ (List.mem_filter.mp hx).1).1) ?_ ?_
      (fun x _ => by rw [one_div, div_eq_inv_mul])
      (fun x _ hp h => by rw [prStep_eq, if_pos hp])
      (fun x _ hp h => by rw [prStep_eq, if_neg (ne_true_of_eq_false hp), E_pure])
    · rw [e]
      exact Block.of_mem fun z hz => hB.block z (mem_prFilter.mp hz).1 sub (mem_prFilter.mp hz).2.2.1
    · intro x hx y hy
      rw [e] at hx
      obtain ⟨hxS, ha, hsub, hp⟩ := mem_prFilter.mp hx
      rw [hB.count x hxS ha sub hsub hp y hy]
  · refine Inv.of_id fun x hx h => ?_
    have hle : (nodesOf x.f).length ≤ 1 :=
      Nat.not_lt.mp (of_decide_eq_false ((Bool.not_eq_true' _).mp (List.mem_filter.mp hx).2))
    rw [pruneRegraft_eq, if_pos hle, E_pure]

end Moves
end PhyModel
