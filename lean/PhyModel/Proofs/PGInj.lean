import PhyModel.Proofs.PGAsmcSpec
import PhyModel.Proofs.PGReachable
import PhyModel.Proofs.MovesPrForest
/-! # C01, stage 3: no tree is a placement of the next data point in two ways (`Inj`), so
`SMC.lookupQ` finds *the* proposal probability of a proposed tree. -/

namespace PhyModel.PG
open Orders Orders.Forest Proposal PGSpec Canon

/-- no tree is a placement in two ways -/
def Inj (c : Cfg) (σ : List ℕ) : Prop :=
  ∀ (t : ℕ) (p : T) (i : ℕ), p ∈ level c σ t → σ[t]? = some i → (exL p i ++ newL p i ++ outL c p i).Nodup

theorem rootsHave_iff {a : ℕ} {f : DF} : rootsHave a f = true ↔ ∃ r ∈ f.roots, a ∈ r.1 := by
  induction f with
  | nil => simp only [rootsHave, roots, Bool.false_eq_true, List.not_mem_nil, false_and, exists_false]
  | cons d k s _ ihs =>
    rw [rootsHave, Bool.or_eq_true, ihs, List.contains_iff_mem]
    simp only [roots, List.mem_cons, exists_eq_or_imp]

theorem mem_addAt_self (i : ℕ) : ∀ (rs : List (List ℕ × DF)) (j : ℕ) (hj : j < rs.length),
    (rs[j].1 ++ [i], rs[j].2) ∈ addAt i j rs := by
  intro rs
  induction rs with
  | nil => intro j hj; exact absurd hj (Nat.not_lt_zero j)
  | cons x rs ih =>
    intro j hj
    obtain ⟨d, k⟩ := x
    cases j with
    | zero => exact List.mem_cons_self
    | succ j => exact List.mem_cons_of_mem _ (ih j (Nat.lt_of_succ_lt_succ hj))

theorem splits_sublist {α : Type} : ∀ (l : List α) (cr : List α × List α), cr ∈ splits l →
    cr.1.Sublist l ∧ cr.2.Sublist l
  | [], cr, h => by
    rw [splits, List.mem_singleton] at h
    rw [h]
    exact ⟨List.Sublist.refl _, List.Sublist.refl _⟩
  | a :: l, cr, h => by
    obtain ⟨c, hm, rfl | rfl⟩ := mem_splits_cons.mp h
    · exact ⟨(splits_sublist l c hm).1.cons_cons a, (splits_sublist l c hm).2.cons a⟩
    · exact ⟨(splits_sublist l c hm).1.cons a, (splits_sublist l c hm).2.cons_cons a⟩

theorem splits_nodup {α : Type} : ∀ (l : List α), l.Nodup → (splits l).Nodup := by
  intro l
  induction l with
  | nil => intro _; simp [splits]
  | cons a l ih =>
    intro hn
    obtain ⟨ha, hl⟩ := List.nodup_cons.mp hn
    simp only [splits]
    apply Orders.nodup_flatMap_of _ _ (ih hl)
    · intro cr hcr
      have hsub := splits_sublist l cr hcr
      rw [List.nodup_cons]
      refine ⟨?_, by simp⟩
      simp only [List.mem_singleton, Prod.mk.injEq, not_and]
      intro h1
      exact absurd (hsub.1.subset (h1 ▸ List.mem_cons_self)) ha
    · intro cr1 h1 cr2 h2 hne x hx1 hx2
      simp only [List.mem_cons, List.not_mem_nil, or_false] at hx1 hx2
      have s1 := splits_sublist l cr1 h1
      have s2 := splits_sublist l cr2 h2
      rcases hx1 with rfl | rfl <;> rcases hx2 with e | e
      · simp only [Prod.mk.injEq, List.cons.injEq, true_and] at e
        exact hne (Prod.ext e.1 e.2)
      · simp only [Prod.mk.injEq] at e
        exact ha (s2.1.subset (e.1 ▸ List.mem_cons_self))
      · simp only [Prod.mk.injEq] at e
        exact ha (s1.1.subset (e.1.symm ▸ List.mem_cons_self))
      · simp only [Prod.mk.injEq, List.cons.injEq, true_and] at e
        exact hne (Prod.ext e.1 e.2)

theorem roots_sublist_nodes : ∀ f : DF, f.roots.Sublist (Moves.nodesOf f)
  | .nil => List.Sublist.slnil
  | .cons d k s => by
    simp only [roots, Moves.nodesOf]
    exact ((roots_sublist_nodes s).trans (List.sublist_append_right _ _)).cons_cons _

theorem roots_nodup {f : DF} (w : WF f) : f.roots.Nodup := (nodesOf_nodup w).sublist (roots_sublist_nodes f)

theorem splits_ext {α : Type} : ∀ (l : List α), l.Nodup → ∀ cr₁ ∈ splits l, ∀ cr₂ ∈ splits l,
    (∀ x ∈ l, x ∈ cr₁.2 ↔ x ∈ cr₂.2) → cr₁ = cr₂
  | [], _, cr₁, h₁, cr₂, h₂, _ => by
    rw [splits, List.mem_singleton] at h₁ h₂
    rw [h₁, h₂]
  | a :: l, hn, cr₁, h₁, cr₂, h₂, h => by
    obtain ⟨ha, hl⟩ := List.nodup_cons.mp hn
    obtain ⟨c₁, m₁, e₁⟩ := mem_splits_cons.mp h₁
    obtain ⟨c₂, m₂, e₂⟩ := mem_splits_cons.mp h₂
    have ha₁ : a ∉ c₁.2 := fun hm => ha ((splits_sublist l c₁ m₁).2.subset hm)
    have ha₂ : a ∉ c₂.2 := fun hm => ha ((splits_sublist l c₂ m₂).2.subset hm)
    have ih := splits_ext l hl c₁ m₁ c₂ m₂
    rcases e₁ with rfl | rfl <;> rcases e₂ with rfl | rfl
    · rw [ih fun x hx => h x (List.mem_cons_of_mem _ hx)]
    · exact absurd ((h a List.mem_cons_self).mpr List.mem_cons_self) ha₁
    · exact absurd ((h a List.mem_cons_self).mp List.mem_cons_self) ha₂
    · rw [ih fun x hx => by
        have hxa : x ≠ a := ne_of_mem_of_not_mem hx ha
        simpa only [List.mem_cons, hxa, false_or] using h x (List.mem_cons_of_mem _ hx)]

section
variable {p : T} {i : ℕ}

/-- forests of the two kinds of placement inside the clone tree -/
def Fex (p : T) (i j : ℕ) : DF := ofRoots (addAt i j p.f.roots)
def Fnew (_p : T) (i : ℕ) (cr : List (List ℕ × DF) × List (List ℕ × DF)) : DF :=
  ofRoots (([i], ofRoots cr.1) :: cr.2)

theorem wf_of_canon {F : DF} (w : WF (Forest.canon F)) : WF F := (canon_eqv F).wf w

theorem root_mem_nodes {l : List (List ℕ × DF)} {r : List ℕ × DF} (h : r ∈ l) : r ∈ Moves.nodesOf (ofRoots l) :=
  mem_nodesOf_of_mem_roots (by rw [roots_ofRoots]; exact h)

/-- data of the parent's top-level clones: a data point of one of them is not the fresh one and
determines the clone -/
theorem root_of_mem (w : WF p.f) {x y : List ℕ × DF} (hx : x ∈ p.f.roots) (hy : y ∈ p.f.roots) {a : ℕ}
    (hax : a ∈ x.1) (hay : a ∈ y.1) : x = y :=
  node_unique w (mem_nodesOf_of_mem_roots hx) (mem_nodesOf_of_mem_roots hy) hax hay

theorem ne_fresh (hi : i ∉ p.f.all) {x : List ℕ × DF} (hx : x ∈ p.f.roots) {a : ℕ} (ha : a ∈ x.1) : a ≠ i := by
  rintro rfl
  exact hi ((mem_all_iff_roots _ _).mpr ⟨x, hx, Or.inl ha⟩)

theorem ex_node (w : WF p.f) {j : ℕ} (hj : j < p.f.roots.length) {F : DF} (he : Eqv (Fex p i j) F) :
    ∃ a ∈ p.f.roots[j].1, ∃ nd ∈ Moves.nodesOf F, a ∈ nd.1 ∧ i ∈ nd.1 := by
  obtain ⟨a, ha⟩ := List.exists_mem_of_ne_nil _ (node_ne w.ne _ (mem_nodesOf_of_mem_roots (List.getElem_mem hj)))
  have ht : together a i (Fex p i j) = true :=
    together_iff.mpr ⟨_, root_mem_nodes (mem_addAt_self i _ j hj), List.mem_append_left _ ha,
      List.mem_append_right _ (List.mem_singleton_self i)⟩
  rw [together_eqv a i he] at ht
  exact ⟨a, ha, together_iff.mp ht⟩

theorem ex_inj (w : WF p.f) (hi : i ∉ p.f.all) {j₁ j₂ : ℕ} (h₁ : j₁ < p.f.roots.length)
    (h₂ : j₂ < p.f.roots.length) (w₂ : WF (Fex p i j₂)) (he : Eqv (Fex p i j₁) (Fex p i j₂)) : j₁ = j₂ := by
  obtain ⟨a, ha, nd, hnd, han, hin⟩ := ex_node w h₁ he
  have : nd = (p.f.roots[j₂].1 ++ [i], p.f.roots[j₂].2) :=
    node_unique w₂ hnd (root_mem_nodes (mem_addAt_self i _ j₂ h₂)) hin
      (List.mem_append_right _ (List.mem_singleton_self i))
  rw [this] at han
  have ha2 : a ∈ p.f.roots[j₂].1 := (List.mem_append.mp han).resolve_right fun h =>
    ne_fresh hi (List.getElem_mem h₁) ha (List.mem_singleton.mp h)
  exact (List.Nodup.getElem_inj_iff (roots_nodup w)).mp
    (root_of_mem w (List.getElem_mem h₁) (List.getElem_mem h₂) ha ha2)

theorem ex_ne_new (w : WF p.f) (hi : i ∉ p.f.all) {j : ℕ} (hj : j < p.f.roots.length)
    {cr : List (List ℕ × DF) × List (List ℕ × DF)} (w₂ : WF (Fnew p i cr)) (he : Eqv (Fex p i j) (Fnew p i cr)) :
    False := by
  obtain ⟨a, ha, nd, hnd, han, hin⟩ := ex_node w hj he
  have : nd = ([i], ofRoots cr.1) :=
    node_unique w₂ hnd (root_mem_nodes List.mem_cons_self) hin (List.mem_singleton_self i)
  rw [this] at han
  exact ne_fresh hi (List.getElem_mem hj) ha (List.mem_singleton.mp han)

theorem mem_rest_iff (w : WF p.f) (hi : i ∉ p.f.all) {cr : List (List ℕ × DF) × List (List ℕ × DF)}
    (hcr : cr ∈ splits p.f.roots) {x : List ℕ × DF} (hx : x ∈ p.f.roots) {a : ℕ} (ha : a ∈ x.1) :
    x ∈ cr.2 ↔ rootsHave a (Fnew p i cr) = true := by
  rw [rootsHave_iff]
  unfold Fnew
  rw [roots_ofRoots]
  constructor
  · intro h; exact ⟨x, List.mem_cons_of_mem _ h, ha⟩
  · rintro ⟨y, hy, hay⟩
    rcases List.mem_cons.mp hy with rfl | hy
    · exact absurd (by simpa using hay) (ne_fresh hi hx ha)
    · have hyr := (splits_sublist _ _ hcr).2.subset hy
      rw [root_of_mem w hx hyr ha hay]; exact hy

theorem new_inj (w : WF p.f) (hi : i ∉ p.f.all) {cr₁ cr₂ : List (List ℕ × DF) × List (List ℕ × DF)}
    (h₁ : cr₁ ∈ splits p.f.roots) (h₂ : cr₂ ∈ splits p.f.roots) (he : Eqv (Fnew p i cr₁) (Fnew p i cr₂)) :
    cr₁ = cr₂ := by
  refine splits_ext _ (roots_nodup w) cr₁ h₁ cr₂ h₂ fun x hx => ?_
  obtain ⟨a, ha⟩ := List.exists_mem_of_ne_nil _ (node_ne w.ne _ (mem_nodesOf_of_mem_roots hx))
  rw [mem_rest_iff w hi h₁ hx ha, mem_rest_iff w hi h₂ hx ha, rootsHave_eqv a he]

end

theorem inj_of_nodup (c : Cfg) (σ : List ℕ) (hnd : σ.Nodup) (hbig : ∀ i ∈ σ, i < Forest.big) : Inj c σ := by
  intro t p i hp hi
  obtain ⟨hlt, rfl⟩ := List.getElem?_eq_some_iff.mp hi
  have w : WF p.f := (level_wft c σ hnd hbig hp).wf
  have hfresh : σ[t] ∉ p.f.all ++ p.out := fun hm =>
    getElem_not_mem_take hnd (le_refl t) hlt ((level_inv c σ t p hp).perm.subset hm)
  have hif : σ[t] ∉ p.f.all := fun hm => hfresh (List.mem_append_left _ hm)
  -- every clone-tree placement is a well-formed tree of the next level
  have wch : ∀ {y : T}, y ∈ children c p σ[t] → WF y.f := fun hy =>
    (level_wft c σ hnd hbig (child_mem_level hp hi hy)).wf
  have wex : ∀ j, j < p.f.roots.length → WF (Fex p σ[t] j) := fun j hj =>
    wf_of_canon (wch (mem_children_cases.mpr (Or.inl ⟨j, hj, rfl⟩)))
  have wnew : ∀ cr ∈ splits p.f.roots, WF (Fnew p σ[t] cr) := fun cr hcr =>
    wf_of_canon (wch (mem_children_cases.mpr (Or.inr (Or.inl ⟨cr, hcr, rfl⟩))))
  have hexL : (exL p σ[t]).Nodup := by
    refine List.Nodup.map_on (fun j₁ h₁ j₂ h₂ he => ?_) List.nodup_range
    have h₁' := List.mem_range.mp h₁
    have h₂' := List.mem_range.mp h₂
    exact ex_inj w hif h₁' h₂' (wex j₂ h₂') ((canon_eq_iff (wex j₁ h₁')).mp (congrArg T.f he))
  have hnewL : (newL p σ[t]).Nodup := by
    refine List.Nodup.map_on (fun cr₁ h₁ cr₂ h₂ he => ?_) (splits_nodup _ (roots_nodup w))
    exact new_inj w hif h₁ h₂ ((canon_eq_iff (wnew cr₁ h₁)).mp (congrArg T.f he))
  have houtL : (outL c p σ[t]).Nodup := by
    unfold outL; split <;> simp
  -- a clone-tree placement keeps the outliers of `p`, the outlier placement adds `σ[t]`
  have hout : ∀ y ∈ exL p σ[t] ++ newL p σ[t], y.out = sortNat p.out := by
    intro y hy
    rcases List.mem_append.mp hy with hy | hy
    · obtain ⟨j, _, rfl⟩ := List.mem_map.mp hy; rfl
    · obtain ⟨cr, _, rfl⟩ := List.mem_map.mp hy; rfl
  refine List.nodup_append.mpr ⟨List.nodup_append.mpr ⟨hexL, hnewL, ?_⟩, houtL, ?_⟩
  · intro y hy z hz hyz
    obtain ⟨j, hj, rfl⟩ := List.mem_map.mp hy
    obtain ⟨cr, hcr, rfl⟩ := List.mem_map.mp hz
    have hj' := List.mem_range.mp hj
    exact ex_ne_new w hif hj' (wnew cr hcr) ((canon_eq_iff (wex j hj')).mp (congrArg T.f hyz))
  · intro y hy z hz hyz
    obtain ⟨_, rfl⟩ := mem_outL.mp hz
    have ho : σ[t] ∈ sortNat p.out := by
      rw [← hout y hy, hyz]
      exact mem_sortNat.mpr (List.mem_append_right _ (List.mem_singleton_self _))
    exact hfresh (List.mem_append_right _ (mem_sortNat.mp ho))

theorem inj_of_hyp {dt : Data} {c : Cfg} {σ : List ℕ} (h : Hyp dt c σ) : Inj c σ :=
  inj_of_nodup c σ h.nodup h.big

end PhyModel.PG
