import PhyModel.Model.Proposal
import PhyModel.Proofs.CanonSort
import Mathlib.Data.List.Perm.Basic
import Mathlib.Data.List.Nodup
/-! The canonical form in terms of the list of top-level clones: `canon (ofRoots l)` sorts the
canonical forms of the clones, so it does not depend on the order of `l` as long as the sort keys
are pairwise distinct; and `canon` is idempotent. -/

namespace PhyModel
open Orders.Forest

namespace Proposal

/-- canonical form of one top-level clone -/
def cn (x : List ℕ × DF) : List ℕ × DF := (sortNat x.1, canon x.2)

/-- the top-level clones have pairwise distinct sort keys.  This holds for every tree whose data
points are distinct and whose clones are non-empty (the key is the smallest data index of the
clade); it is what makes the sibling order of the canonical form well defined. -/
def DistinctKeys (rs : List (List ℕ × DF)) : Prop := (rs.map fun x => rootKey (cn x)).Nodup

instance (rs : List (List ℕ × DF)) : Decidable (DistinctKeys rs) := by
  unfold DistinctKeys; infer_instance

end Proposal
open Proposal

theorem numRoots_eq (f : DF) : f.numRoots = f.roots.length := by
  induction f with
  | nil => rfl
  | cons d k s _ ihs => rw [numRoots, roots, List.length_cons, ihs, Nat.add_comm]

theorem canon_ofRoots (l : List (List ℕ × DF)) :
    canon (ofRoots l) = ofRoots (sortRoots (l.map cn)) := by
  induction l with
  | nil => rfl
  | cons x l ih =>
    obtain ⟨d, k⟩ := x
    simp only [ofRoots, canon, ih, roots_ofRoots, List.map_cons, sortRoots, List.foldr_cons, cn]

theorem canon_ofRoots_perm (rs c c' : List (List ℕ × DF)) (hk : DistinctKeys rs)
    (hp : c.Perm c') (hc : ∀ x ∈ c, x ∈ rs) : canon (ofRoots c) = canon (ofRoots c') := by
  rw [canon_ofRoots, canon_ofRoots]
  congr 1
  apply sortRoots_perm _ _ (hp.map cn)
  intro a ha b hb hab
  simp only [List.mem_map] at ha hb
  obtain ⟨a0, ha0, rfl⟩ := ha
  obtain ⟨b0, hb0, rfl⟩ := hb
  have := List.inj_on_of_nodup_map hk (hc a0 ha0) (hc b0 hb0) hab
  rw [this]

/-- the tree obtained by putting a new clone holding `i` above the chosen top-level clones does not
depend on the order in which they were chosen -/
theorem newNode_perm (rs : List (List ℕ × DF)) (hk : DistinctKeys rs) (i : ℕ) (out : List ℕ)
    (c c' r : List (List ℕ × DF)) (hp : c.Perm c') (hc : ∀ x ∈ c, x ∈ rs) :
    T.mk' (ofRoots (([i], ofRoots c) :: r)) out = T.mk' (ofRoots (([i], ofRoots c') :: r)) out := by
  simp only [T.mk', ofRoots, canon]
  rw [canon_ofRoots_perm rs c c' hk hp hc]

/-! ### `canon` is idempotent -/

theorem roots_canon_sorted (f : DF) : SortedK (roots (canon f)) := by
  induction f with
  | nil => exact List.Pairwise.nil
  | cons d k s _ ihs =>
    simp only [canon, roots_ofRoots]
    exact insertSorted_sorted _ _ ihs

theorem canon_idem_of_fix (f : DF) (h : ∀ y ∈ roots (canon f), cn y = y) :
    canon (canon f) = canon f := by
  conv_lhs => rw [← ofRoots_roots (canon f), canon_ofRoots]
  rw [List.map_congr_left h, List.map_id', sortRoots_of_sorted _ (roots_canon_sorted f), ofRoots_roots]

theorem canon_fix (f : DF) : ∀ y ∈ roots (canon f), cn y = y := by
  induction f with
  | nil => exact fun y hy => absurd hy List.not_mem_nil
  | cons d k s ihk ihs =>
    intro y hy
    simp only [canon, roots_ofRoots, mem_insertSorted] at hy
    rcases hy with rfl | hy
    · simp only [cn, sortNat_idem, canon_idem_of_fix k ihk]
    · exact ihs y hy

theorem canon_idem (f : DF) : canon (canon f) = canon f := canon_idem_of_fix f (canon_fix f)

theorem cn_cn (x : List ℕ × DF) : cn (cn x) = cn x := by
  simp only [cn, sortNat_idem, canon_idem]

end PhyModel
