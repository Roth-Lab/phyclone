import PhyModel.Proofs.ASMCSystem
/-! # Abstract conditional SMC: the law of the particle system.

`ValidTo sp T` collects the hypotheses on a specification.  `C sp u t x` is the law of the system after
`t` steps given that the retained particle is `x`, as a functional on test functions, peeled from the
last step.  It only sees the systems with positive weights and states in the support of the level's
target (`C_congr`), it is normalised (`C_const`), and its mixture `M` over `x ~ g t` obeys a recursion
that no longer mentions the retained path (`M_succ`). -/

open Finset

namespace ASMC

variable {X : Type} [Fintype X] [DecidableEq X] {m : ℕ}

/-- hypotheses on the abstract SMC specification -/
structure Valid (sp : Spec (m := m) X) : Prop where
  g0 : ∀ x, sp.g 0 x = if x = sp.x0 then 1 else 0
  gnn : ∀ t x, 0 ≤ sp.g t x
  qnn : ∀ t x x', 0 ≤ sp.q t x x'
  qsum : ∀ t x, 0 < sp.g t x → ∑ x', sp.q t x x' = 1
  qparent : ∀ t x x', 0 < sp.q t x x' → sp.parent x' = x
  qsupp : ∀ t x x', 0 < sp.g t x → 0 < sp.q t x x' → 0 < sp.g (t+1) x'
  gsupp : ∀ t x', 0 < sp.g (t+1) x' → 0 < sp.g t (sp.parent x') ∧ 0 < sp.q t (sp.parent x') x'
  rssymm : ∀ t (w : Fin (m+1) → ℚ) (σ : Equiv.Perm (Fin (m+1))), sp.rs t (w ∘ σ) = sp.rs t w

/-- the same hypotheses, required only of the steps `t < T` that a sweep of `T` steps performs (the
unbounded `Valid` cannot hold for a branching system on a finite state type: it asks for a proposal
out of every supported state of every level, for ever) -/
structure ValidTo (sp : Spec (m := m) X) (T : ℕ) : Prop where
  g0 : ∀ x, sp.g 0 x = if x = sp.x0 then 1 else 0
  gnn : ∀ t x, 0 ≤ sp.g t x
  qnn : ∀ t x x', 0 ≤ sp.q t x x'
  qsum : ∀ t x, t < T → 0 < sp.g t x → ∑ x', sp.q t x x' = 1
  qparent : ∀ t x x', t < T → 0 < sp.q t x x' → sp.parent x' = x
  qsupp : ∀ t x x', t < T → 0 < sp.g t x → 0 < sp.q t x x' → 0 < sp.g (t+1) x'
  gsupp : ∀ t x', t < T → 0 < sp.g (t+1) x' → 0 < sp.g t (sp.parent x') ∧ 0 < sp.q t (sp.parent x') x'
  rssymm : ∀ t (w : Fin (m+1) → ℚ) (σ : Equiv.Perm (Fin (m+1))), sp.rs t (w ∘ σ) = sp.rs t w

theorem Valid.to {sp : Spec (m := m) X} (hv : Valid sp) (T : ℕ) : ValidTo sp T :=
  ⟨hv.g0, hv.gnn, hv.qnn, fun t x _ => hv.qsum t x, fun t x x' _ => hv.qparent t x x',
    fun t x x' _ => hv.qsupp t x x', fun t x' _ => hv.gsupp t x', hv.rssymm⟩

theorem ValidTo.sum_g_congr {sp : Spec (m := m) X} {T : ℕ} (hv : ValidTo sp T) (t : ℕ) {a b : X → ℚ}
    (h : ∀ x, 0 < sp.g t x → a x = b x) : ∑ x, sp.g t x * a x = ∑ x, sp.g t x * b x := by
  refine Finset.sum_congr rfl fun x _ => ?_
  rcases (hv.gnn t x).lt_or_eq with hx | hx
  · rw [h x hx]
  · rw [← hx, zero_mul, zero_mul]

variable (sp : Spec (m := m) X) (u : ℚ)

def S0 : Sys X m := fun _ => (sp.x0, 1)

def stepC (t : ℕ) (x' : X) (S : Sys X m) (f : Sys X m → ℚ) : ℚ :=
  if sp.rs t (wts S) then resC u S (fun S1 => propC sp t x' S1 f) else propC sp t x' S f

/-- law of the particle system at time t given that the retained particle is x (as a functional) -/
def C : ℕ → X → (Sys X m → ℚ) → ℚ
  | 0, _, f => f (S0 sp)
  | t+1, x, f => C t (sp.parent x) (fun S => stepC sp u t x S f)

/-- every particle has positive weight and sits in the support of the level-t target -/
def GoodW (t : ℕ) (S : Sys X m) : Prop := ∀ i, 0 < (S i).2 ∧ 0 < sp.g t (S i).1

def Good (t : ℕ) (x : X) (S : Sys X m) : Prop := (S 0).1 = x ∧ GoodW sp t S

variable {sp} {u}

theorem tot_pos {t : ℕ} {S : Sys X m} (h : GoodW sp t S) : 0 < tot S := by
  unfold tot
  apply Finset.sum_pos
  · intro i _; exact (h i).1
  · exact ⟨0, mem_univ _⟩

theorem wbar_sum {t : ℕ} {S : Sys X m} (h : GoodW sp t S) : ∑ i, wbar S i = 1 := by
  unfold wbar
  rw [← Finset.sum_div]
  exact div_self (ne_of_gt (tot_pos h))

theorem incr_pos {T : ℕ} (hv : ValidTo sp T) {t : ℕ} (ht : t < T) {x x' : X} (hg : 0 < sp.g t x)
    (hq : 0 < sp.q t x x') : 0 < incr sp t x x' := by
  unfold incr
  exact div_pos (hv.qsupp t x x' ht hg hq) (Rat.mul_pos hg hq)

theorem propC_lin (t : ℕ) (x' : X) (S : Sys X m) : Lin (propC sp t x' S) := Lin.weighted _ _

theorem resC_lin (S : Sys X m) : Lin (resC u S) := Lin.weighted _ _

theorem stepC_lin (t : ℕ) (x' : X) (S : Sys X m) : Lin (stepC sp u t x' S) := by
  unfold stepC
  split
  · exact (resC_lin S).comp fun S1 => propC_lin t x' S1
  · exact propC_lin t x' S

theorem C_lin : ∀ (t : ℕ) (x : X), Lin (C sp u t x)
  | 0, _ => ⟨fun _ _ => rfl, fun _ _ => rfl⟩
  | t+1, x => (C_lin t _).comp fun S => stepC_lin t x S

/-- propagation lands in good systems (terms with a zero proposal probability vanish) -/
theorem propC_congr {T : ℕ} (hv : ValidTo sp T) {t : ℕ} (ht : t < T) {x' : X} {S : Sys X m}
    (hS : GoodW sp t S) (hx' : 0 < sp.g (t+1) x') (hpar : sp.parent x' = (S 0).1)
    {f f' : Sys X m → ℚ} (h : ∀ T, Good sp (t+1) x' T → f T = f' T) :
    propC sp t x' S f = propC sp t x' S f' := by
  unfold propC
  refine sum_prod_mul_congr _ (fun _ _ => hv.qnn _ _ _) fun y hz => ?_
  apply h
  refine ⟨by simp only [ext, Fin.cons_zero], fun i => ?_⟩
  refine Fin.cases ?_ (fun j => ?_) i
  · have hgs := hv.gsupp t x' ht hx'
    rw [hpar] at hgs
    simp only [ext, Fin.cons_zero]
    exact ⟨Rat.mul_pos (hS 0).1 (incr_pos hv ht hgs.1 hgs.2), hx'⟩
  · simp only [ext, Fin.cons_succ]
    exact ⟨Rat.mul_pos (hS j.succ).1 (incr_pos hv ht (hS j.succ).2 (hz j)),
      hv.qsupp t _ _ ht (hS j.succ).2 (hz j)⟩

theorem reset_good {t : ℕ} {S : Sys X m} (hu : 0 < u) (hS : GoodW sp t S)
    (b : Fin (m+1) → Fin (m+1)) : GoodW sp t (fun j => reset u (S (b j))) := by
  intro j
  exact ⟨hu, (hS (b j)).2⟩

theorem stepC_congr {T : ℕ} (hv : ValidTo sp T) (hu : 0 < u) {t : ℕ} (ht : t < T) {x' : X} {S : Sys X m}
    (hS : GoodW sp t S) (hx' : 0 < sp.g (t+1) x') (hpar : sp.parent x' = (S 0).1)
    {f f' : Sys X m → ℚ} (h : ∀ T, Good sp (t+1) x' T → f T = f' T) :
    stepC sp u t x' S f = stepC sp u t x' S f' := by
  unfold stepC
  split
  · exact resC_congr fun b hb =>
      propC_congr hv ht (reset_good hu hS b) hx' (by simp only [reset, hb, hpar]) h
  · exact propC_congr hv ht hS hx' hpar h

theorem ValidTo.good_S0 {T : ℕ} (hv : ValidTo sp T) {x : X} (hx : 0 < sp.g 0 x) :
    Good sp 0 x (S0 sp : Sys X m) := by
  have hx0 : x = sp.x0 := by
    by_contra hne
    rw [hv.g0, if_neg hne] at hx
    exact lt_irrefl _ hx
  subst hx0
  exact ⟨rfl, fun _ => ⟨one_pos, hx⟩⟩

theorem C_congr {T : ℕ} (hv : ValidTo sp T) (hu : 0 < u) : ∀ (t : ℕ) (x : X), t ≤ T → 0 < sp.g t x →
    ∀ {f f' : Sys X m → ℚ}, (∀ S, Good sp t x S → f S = f' S) → C sp u t x f = C sp u t x f' := by
  intro t
  induction t with
  | zero => exact fun x _ hx f f' h => h _ (hv.good_S0 hx)
  | succ t ih =>
    intro x ht hx f f' h
    simp only [C]
    have hgs := hv.gsupp t x ht hx
    apply ih _ (Nat.le_of_succ_le ht) hgs.1
    intro S hS
    exact stepC_congr hv hu ht hS.2 hx hS.1.symm h

#print axioms C_congr

theorem propC_one {T : ℕ} (hv : ValidTo sp T) {t : ℕ} (ht : t < T) (x' : X) {S : Sys X m} (hS : GoodW sp t S) :
    propC sp t x' S (fun _ => 1) = 1 := by
  unfold propC
  simp only [mul_one]
  rw [← Fintype.prod_sum]
  exact Finset.prod_eq_one fun i _ => hv.qsum t _ ht (hS i.succ).2

theorem resC_one {t : ℕ} {S : Sys X m} (hS : GoodW sp t S) :
    resC u S (fun _ => 1) = 1 := by
  unfold resC
  simp only [mul_one]
  rw [← Fintype.prod_sum]
  exact Finset.prod_eq_one fun _ _ => wbar_sum hS

theorem stepC_one {T : ℕ} (hv : ValidTo sp T) (hu : 0 < u) {t : ℕ} (ht : t < T) (x' : X) {S : Sys X m} (hS : GoodW sp t S) :
    stepC sp u t x' S (fun _ => 1) = 1 := by
  unfold stepC
  split
  · rw [resC_congr (f' := fun _ => 1) fun b _ => propC_one hv ht x' (reset_good hu hS b)]
    exact resC_one hS
  · exact propC_one hv ht x' hS

theorem C_one {T : ℕ} (hv : ValidTo sp T) (hu : 0 < u) : ∀ (t : ℕ) (x : X), t ≤ T → 0 < sp.g t x →
    C sp u t x (fun _ => 1) = 1 := by
  intro t
  induction t with
  | zero => intro x _ _; rfl
  | succ t ih =>
    intro x ht hx
    simp only [C]
    have hgs := hv.gsupp t x ht hx
    rw [C_congr hv hu t _ (Nat.le_of_succ_le ht) hgs.1 (f' := fun _ => 1)]
    · exact ih _ (Nat.le_of_succ_le ht) hgs.1
    · intro S hS
      exact stepC_one hv hu ht x hS.2

theorem C_const {T : ℕ} (hv : ValidTo sp T) (hu : 0 < u) (t : ℕ) (x : X) (ht : t ≤ T) (hx : 0 < sp.g t x)
    (c : ℚ) : C sp u t x (fun _ => c) = c := by
  have := (C_lin (sp := sp) (u := u) t x).smul_right c fun _ => 1
  rw [C_one hv hu t x ht hx] at this
  simpa only [one_mul] using this

variable (sp) (u)

/-- unnormalised law of the system when the retained particle is drawn from g t -/
def M (t : ℕ) (f : Sys X m → ℚ) : ℚ := ∑ x, sp.g t x * C sp u t x f

/-- coefficient of the retained child: q · incr = g(t+1) x' / g t x -/
def coef (t : ℕ) (x x' : X) : ℚ := sp.q t x x' * incr sp t x x'

def margP (t : ℕ) (S : Sys X m) (f : Sys X m → ℚ) : ℚ :=
  ∑ x' : X, coef sp t (S 0).1 x' * propC sp t x' S f

def stepM (t : ℕ) (S : Sys X m) (f : Sys X m → ℚ) : ℚ :=
  if sp.rs t (wts S) then resC u S (fun S1 => margP sp t S1 f) else margP sp t S f

variable {sp} {u}

theorem M_lin (t : ℕ) : Lin (M sp u t) := (Lin.weighted (sp.g t) id).comp (C_lin t)

theorem M_congr {T : ℕ} (hv : ValidTo sp T) (hu : 0 < u) (t : ℕ) (ht : t ≤ T) {f f' : Sys X m → ℚ}
    (h : ∀ S, GoodW sp t S → f S = f' S) : M sp u t f = M sp u t f' :=
  hv.sum_g_congr t fun x hx => C_congr hv hu t x ht hx fun S hS => h S hS.2

theorem stepM_eq (t : ℕ) (x : X) (S : Sys X m) (hS : (S 0).1 = x) (f : Sys X m → ℚ) :
    stepM sp u t S f = ∑ x' : X, coef sp t x x' * stepC sp u t x' S f := by
  subst hS
  unfold stepM stepC
  split
  · -- resampling keeps slot 0
    have : resC u S (fun S1 => margP sp t S1 f)
        = resC u S fun S1 => ∑ x' : X, coef sp t (S 0).1 x' * propC sp t x' S1 f :=
      resC_congr fun b hb => by simp only [margP, reset, hb]
    rw [this, (resC_lin S).sum]
    simp only [(resC_lin S).smul]
  · rfl

theorem coef_zero_of_not_parent {T : ℕ} (hv : ValidTo sp T) (t : ℕ) (ht : t < T) (x x' : X) (h : sp.parent x' ≠ x) :
    coef sp t x x' = 0 := by
  unfold coef
  have : sp.q t x x' = 0 := by
    by_contra hne
    have hpos : 0 < sp.q t x x' := lt_of_le_of_ne (hv.qnn t x x') (Ne.symm hne)
    exact h (hv.qparent t x x' ht hpos)
  rw [this]; simp

theorem g_coef {T : ℕ} (hv : ValidTo sp T) (t : ℕ) (ht : t < T) (x' : X) :
    sp.g t (sp.parent x') * coef sp t (sp.parent x') x' = sp.g (t+1) x' := by
  unfold coef incr
  by_cases hx' : 0 < sp.g (t+1) x'
  · obtain ⟨hg, hq⟩ := hv.gsupp t x' ht hx'
    rw [← mul_assoc, mul_div_cancel₀ _ (mul_ne_zero (ne_of_gt hg) (ne_of_gt hq))]
  · rw [le_antisymm (not_lt.mp hx') (hv.gnn _ _), zero_div, mul_zero, mul_zero]

/-- disintegration: the marginal measure satisfies a recursion that no longer mentions the retained path -/
theorem M_succ {T : ℕ} (hv : ValidTo sp T) (hu : 0 < u) (t : ℕ) (ht : t < T) (f : Sys X m → ℚ) :
    M sp u (t+1) f = M sp u t (fun S => stepM sp u t S f) := by
  have hR : M sp u t (fun S => stepM sp u t S f)
      = ∑ x, ∑ x', sp.g t x * (coef sp t x x' * C sp u t x (fun S => stepC sp u t x' S f)) := by
    unfold M
    rw [hv.sum_g_congr t fun x hx =>
      C_congr hv hu t x (Nat.le_of_lt ht) hx fun S hS => stepM_eq t x S hS.1 f]
    simp only [(C_lin t _).sum, (C_lin t _).smul, Finset.mul_sum]
  rw [hR, Finset.sum_comm]
  unfold M
  apply Finset.sum_congr rfl
  intro x' _
  simp only [C]
  rw [Finset.sum_eq_single (sp.parent x')]
  · rw [← mul_assoc, g_coef hv t ht]
  · intro x _ hne
    rw [coef_zero_of_not_parent hv t ht x x' (Ne.symm hne)]; simp
  · intro h; exact absurd (mem_univ _) h

#print axioms M_succ

end ASMC
