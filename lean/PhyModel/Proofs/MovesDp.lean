import PhyModel.Proofs.MovesKernel
/-! The data-point move (C04): `Moves.dpStep` as a Gibbs kernel over its candidate list,
invariance of one step from the block structure, lifting through the scan (`dpFold`) and the
uniformly random scan order (`dataPointMove`). -/
namespace PhyModel
open Dist Orders Gibbs

namespace Moves

/-- data point `i` may be moved: it is an outlier or its clone keeps another point -/
def dpMovable (x : T) (i : Nat) : Bool := x.out.contains i || decide (holderSize i x.f > 1)

/-- the candidate list of `dpStep` -/
def dpCands (outliers : Bool) (x : T) (i : Nat) : List T :=
  let f0 := removeDp i x.f
  let out0 := x.out.filter (· != i)
  ((nodesOf f0).map fun nd => T.mk' (addDpAt (nd.1.headD 0) i f0) out0) ++
    (if outliers then [T.mk' f0 (out0 ++ [i])] else [])

theorem dpStep_eq (c : Cfg) (x : T) (i : Nat) :
    dpStep c x i = if dpMovable x i then gibbsK (pOneOf c) (dpCands c.outliers x i) else Dist.pure x := by
  unfold dpStep dpMovable gibbsK dpCands
  by_cases hm : (x.out.contains i || decide (holderSize i x.f > 1)) = true
  · simp only [hm, Bool.not_true, Bool.false_eq_true, if_false, if_true]
  · simp only [Bool.not_eq_true] at hm
    simp only [hm, Bool.not_false, if_true, Bool.false_eq_true, if_false]

/-- the block structure the data-point step needs on the movable states of `S` -/
def DpBlock (outliers : Bool) (S : List T) (i : Nat) : Prop :=
  Block (S.filter fun x => dpMovable x i) (fun x => dpCands outliers x i)

/-- One Gibbs step for data point `i` leaves `π` invariant, given the block structure. -/
theorem dpStep_invariant_of_block (c : Cfg) (i : Nat) (S : List T) (hS : S.Nodup)
    (hπ : ∀ x ∈ S, 0 ≤ pOneOf c x) (hB : DpBlock c.outliers S i) :
    Gibbs.Inv S (pOneOf c) (fun x => dpStep c x i) :=
  Inv.gibbs_or_id hS (fun x => dpMovable x i) (fun x => dpCands c.outliers x i) (pOneOf c) (fun _ => 1)
    hπ hB (fun _ _ _ _ => rfl) (fun _ _ => (one_mul _).symm)
    (fun x _ hm h => by rw [dpStep_eq, if_pos hm])
    (fun x _ hm h => by rw [dpStep_eq, if_neg (ne_true_of_eq_false hm), E_pure])

/-- `dpFold` from a distribution = average of `dpFold` from its points -/
theorem E_dpFold (c : Cfg) (σ : List Nat) (d : Dist T) (h : T → ℚ) :
    E (dpFold c σ d) h = E d (fun x => E (dpFold c σ (Dist.pure x)) h) := by
  induction σ generalizing d with
  | nil => simp [dpFold, E_pure]
  | cons i rest ih =>
    simp only [dpFold]
    rw [ih, E_norm, E_bind]
    apply E_congr; intro ap _
    rw [ih (Dist.norm _), E_norm, E_bind, E_pure]

/-- a scan in a fixed order is a composition of single steps -/
theorem dpFold_invariant (c : Cfg) (σ : List Nat) (S : List T)
    (hstep : ∀ i ∈ σ, Gibbs.Inv S (pOneOf c) (fun x => dpStep c x i)) :
    Gibbs.Inv S (pOneOf c) (fun x => dpFold c σ (Dist.pure x)) := by
  induction σ with
  | nil => exact Inv.pure S _
  | cons i rest ih =>
    have h1 := hstep i (List.mem_cons_self)
    have h2 := ih (fun j hj => hstep j (List.mem_cons_of_mem _ hj))
    refine (Inv.comp h1 h2).congr ?_
    intro x _ h
    simp only [dpFold]
    rw [E_dpFold, E_norm, E_bind, E_pure, E_bind]

theorem perms_perm {l l' : List Nat} (hl : l.Nodup) (hp : l.Perm l') : (perms l).Perm (perms l') := by
  have hl' : l'.Nodup := hp.nodup_iff.mp hl
  rw [List.perm_ext_iff_of_nodup (perms_nodup l hl) (perms_nodup l' hl')]
  intro σ
  exact ⟨fun hh => mem_perms_of_perm l' σ ((perm_of_mem_perms l σ hh).trans hp),
    fun hh => mem_perms_of_perm l σ ((perm_of_mem_perms l' σ hh).trans hp.symm)⟩

/-- The data-point move (uniformly random scan order) leaves `π` invariant on a state list whose
trees all carry the data set `base`, provided every single step does. -/
theorem dataPointMove_invariant_of_steps (c : Cfg) (S : List T) (base : List Nat) (hbase : base.Nodup)
    (hdata : ∀ x ∈ S, (x.f.all ++ x.out).Perm base)
    (hstep : ∀ i ∈ base, Gibbs.Inv S (pOneOf c) (fun x => dpStep c x i)) :
    Gibbs.Inv S (pOneOf c) (dataPointMove c) := by
  have hmix := Inv.uniform_mix (S := S) (μ := pOneOf c) (perms base)
    (List.ne_nil_of_mem (mem_perms_of_perm base base (List.Perm.refl _)))
    (fun σ x => dpFold c σ (Dist.pure x))
    (fun σ hσ => dpFold_invariant c σ S (fun i hi =>
      hstep i ((perm_of_mem_perms base σ hσ).mem_iff.mp hi)))
  refine hmix.congr ?_
  intro x hx h
  unfold dataPointMove
  rw [E_norm, E_bind, E_bind, E_uniform, E_uniform]
  have hp := perms_perm ((hdata x hx).nodup_iff.mpr hbase) (hdata x hx)
  rw [lsum_perm hp, hp.length_eq]

end Moves
end PhyModel
