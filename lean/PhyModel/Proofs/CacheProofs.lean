import PhyModel.Model.Cache

/-! The keyed LRU table of `Model/Cache.lean` is sound for any key that determines the result: as long
as every stored value is what the function returns for every argument with that key, a call answers
what the function would, and keeps the table that way. -/
namespace PhyModel.Cache

variable {E A K V : Type} [DecidableEq K]

/-- every stored value is what `f` returns for *any* argument with that key, in any environment -/
def Sound (key : E → A → K) (f : E → A → V) (l : List (K × V)) : Prop :=
  ∀ kv ∈ l, ∀ e a, key e a = kv.1 → kv.2 = f e a

theorem lookup_mem (k : K) : ∀ (l : List (K × V)) (v : V), lookup k l = some v → (k, v) ∈ l := by
  intro l
  induction l with
  | nil => intro v h; simp [lookup] at h
  | cons kv l ih =>
    intro v h
    obtain ⟨k', v'⟩ := kv
    simp only [lookup] at h
    split at h
    · rename_i hk
      simp only [Option.some.injEq] at h
      subst h; subst hk; simp
    · exact List.mem_cons_of_mem _ (ih v h)

theorem remove_subset (k : K) : ∀ (l : List (K × V)) kv, kv ∈ remove k l → kv ∈ l := by
  intro l
  induction l with
  | nil => intro kv h; simp [remove] at h
  | cons x l ih =>
    intro kv h
    obtain ⟨k', v'⟩ := x
    simp only [remove] at h
    split at h
    · exact List.mem_cons_of_mem _ h
    · rcases List.mem_cons.mp h with h | h
      · rw [h]; simp
      · exact List.mem_cons_of_mem _ (ih kv h)

/-- one step preserves soundness and returns exactly the unmemoised value -/
theorem step_sound (key : E → A → K) (f : E → A → V)
    (hresp : ∀ e a e' a', key e a = key e' a' → f e a = f e' a')
    (c : Cache K V) (hc : Sound key f c.entries) (op : Op E A) :
    Sound key f (step key f c op).1.entries ∧
    (step key f c op).2 = (match op with | .call e a => some (f e a) | .clear => none) := by
  cases op with
  | clear => exact ⟨by intro kv h; simp [step] at h, rfl⟩
  | call e a =>
    simp only [step]
    cases hl : lookup (key e a) c.entries with
    | some v =>
      have hmem := lookup_mem (key e a) c.entries v hl
      have hv : v = f e a := hc (key e a, v) hmem e a rfl
      refine ⟨?_, by simp [hv]⟩
      intro kv hkv e' a' hk
      rcases List.mem_cons.mp hkv with h | h
      · subst h; simp only at hk ⊢
        rw [hv]; exact hresp e a e' a' hk.symm
      · exact hc kv (remove_subset _ _ kv h) e' a' hk
    | none =>
      refine ⟨?_, rfl⟩
      intro kv hkv e' a' hk
      have hkv' := List.mem_of_mem_take hkv
      rcases List.mem_cons.mp hkv' with h | h
      · subst h; simp only at hk ⊢
        exact hresp e a e' a' hk.symm
      · exact hc kv h e' a' hk

/-- **C14 on the model**: for every history of calls and clears, every capacity (hence every
eviction pattern) and every sequence of environments, the memoised execution returns exactly what
the unmemoised one does — provided the function respects the key. -/
theorem cache_sound (key : E → A → K) (f : E → A → V)
    (hresp : ∀ e a e' a', key e a = key e' a' → f e a = f e' a') :
    ∀ (ops : List (Op E A)) (c : Cache K V), Sound key f c.entries →
      (run key f c ops).2 = direct f ops := by
  intro ops
  induction ops with
  | nil => intro c _; rfl
  | cons op ops ih =>
    intro c hc
    obtain ⟨h1, h2⟩ := step_sound key f hresp c hc op
    simp only [run]
    rw [ih _ h1, h2]
    cases op <;> rfl

theorem cache_sound_from_empty (key : E → A → K) (f : E → A → V)
    (hresp : ∀ e a e' a', key e a = key e' a' → f e a = f e' a') (cap : Nat) (ops : List (Op E A)) :
    (run key f ⟨[], cap⟩ ops).2 = direct f ops :=
  cache_sound key f hresp ops ⟨[], cap⟩ (by intro kv h; simp at h)

#print axioms cache_sound_from_empty
end PhyModel.Cache
