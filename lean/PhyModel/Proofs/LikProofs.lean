import PhyModel.Model.Lik
import Mathlib.Algebra.BigOperators.Group.Finset.Basic
import Mathlib.Algebra.BigOperators.Ring.Finset
import Mathlib.Algebra.BigOperators.Intervals
import Mathlib.Algebra.BigOperators.Group.List.Basic
import Mathlib.Algebra.BigOperators.Ring.List
import Mathlib.Algebra.Order.Field.Rat
import Mathlib.Tactic.Ring
import Mathlib.Tactic.Linarith

/-! The likelihood recursion `D` (C02) computes the brute-force marginal `specD`: entry `t` of `D G f`
is the sum, over all assignments of grid indices to the clones whose top-level total is `t`, of the
product of the clones' vector entries.  Also the list sum `lsum` with its algebra, in which that
marginal and the expectations of finite distributions are written. -/
open Finset

namespace PhyModel

/-! `mul_pos`, `div_pos` and `one_div_pos` stated for `ℚ`: with the general lemmas the unifier has to
find the order of `ℚ` through the ordered-field hierarchy again at every use. -/
theorem qmul_pos {a b : ℚ} (ha : 0 < a) (hb : 0 < b) : 0 < a * b := mul_pos ha hb
theorem qdiv_pos {a b : ℚ} (ha : 0 < a) (hb : 0 < b) : 0 < a / b := div_pos ha hb
theorem qone_div_pos {a : ℚ} (ha : 0 < a) : 0 < 1 / a := one_div_pos.mpr ha

theorem sumTo_eq (n : ℕ) (f : ℕ → ℚ) : sumTo n f = ∑ i ∈ range n, f i :=
  rfl  -- `range n` is `List.range n` as a multiset, whose sum is the list's sum

theorem getQ_map_range (G : ℕ) (f : ℕ → ℚ) (k : ℕ) (hk : k < G) :
    getQ ((List.range G).map f) k = f k := by
  unfold getQ
  simp [List.getD, hk]

theorem getQ_conv (G : ℕ) (a b : Vec) (k : ℕ) (hk : k < G) :
    getQ (conv G a b) k = ∑ j ∈ range (k+1), getQ a j * getQ b (k - j) := by
  unfold conv; rw [getQ_map_range G _ k hk, sumTo_eq]

theorem getQ_prefixSum (G : ℕ) (a : Vec) (k : ℕ) (hk : k < G) :
    getQ (prefixSum G a) k = ∑ j ∈ range (k+1), getQ a j := by
  unfold prefixSum; rw [getQ_map_range G _ k hk, sumTo_eq]

theorem getQ_pmul (G : ℕ) (a b : Vec) (k : ℕ) (hk : k < G) :
    getQ (pmul G a b) k = getQ a k * getQ b k := by
  unfold pmul; rw [getQ_map_range G _ k hk]

theorem getQ_delta0 (G : ℕ) (k : ℕ) (hk : k < G) :
    getQ (delta0 G) k = if k = 0 then 1 else 0 := by
  unfold delta0; rw [getQ_map_range G _ k hk]

/-- list-sum helper -/
def lsum {α : Type} (L : List α) (F : α → ℚ) : ℚ := (L.map F).sum

theorem lsum_nil {α} (F : α → ℚ) : lsum [] F = 0 := rfl
theorem lsum_cons {α} (a : α) (L : List α) (F : α → ℚ) : lsum (a :: L) F = F a + lsum L F := rfl
theorem lsum_append {α} (L1 L2 : List α) (F : α → ℚ) :
    lsum (L1 ++ L2) F = lsum L1 F + lsum L2 F := by simp [lsum]
theorem lsum_map {α β} (g : α → β) (L : List α) (F : β → ℚ) :
    lsum (L.map g) F = lsum L (fun a => F (g a)) := by
  simp [lsum, List.map_map, Function.comp_def]
theorem lsum_congr {α} (L : List α) {F H : α → ℚ} (h : ∀ a ∈ L, F a = H a) :
    lsum L F = lsum L H := by
  unfold lsum
  congr 1
  exact List.map_congr_left h
theorem lsum_zero {α} (L : List α) : lsum L (fun _ => (0:ℚ)) = 0 := List.sum_map_zero
theorem lsum_add {α} (L : List α) (F H : α → ℚ) :
    lsum L (fun a => F a + H a) = lsum L F + lsum L H :=
  List.sum_map_add
theorem lsum_mul_left {α} (L : List α) (c : ℚ) (F : α → ℚ) :
    lsum L (fun a => c * F a) = c * lsum L F := List.sum_map_mul_left ..
theorem lsum_mul_right {α} (L : List α) (c : ℚ) (F : α → ℚ) :
    lsum L (fun a => F a * c) = lsum L F * c := List.sum_map_mul_right ..
theorem lsum_finset_comm {α} (L : List α) (s : Finset ℕ) (F : ℕ → α → ℚ) :
    lsum L (fun a => ∑ u ∈ s, F u a) = ∑ u ∈ s, lsum L (F u) := by
  induction L with
  | nil => exact Finset.sum_const_zero.symm
  | cons a L ih =>
    rw [lsum_cons, ih, ← Finset.sum_add_distrib]
    exact Finset.sum_congr rfl fun u _ => (lsum_cons ..).symm
theorem lsum_flatMap {α β} (L : List α) (g : α → List β) (F : β → ℚ) :
    lsum (L.flatMap g) F = lsum L (fun a => lsum (g a) F) := by
  induction L with
  | nil => simp [lsum]
  | cons a L ih => rw [List.flatMap_cons, lsum_append, ih, lsum_cons]
theorem lsum_range (n : ℕ) (F : ℕ → ℚ) : lsum (List.range n) F = ∑ i ∈ range n, F i :=
  sumTo_eq n F
theorem lsum_const {α} (L : List α) (c : ℚ) : lsum L (fun _ => c) = (L.length : ℚ) * c := by
  rw [lsum, List.map_const', List.sum_replicate, nsmul_eq_mul]
theorem lsum_pos {α} (L : List α) (hL : L ≠ []) (F : α → ℚ) (hF : ∀ a ∈ L, 0 < F a) : 0 < lsum L F := by
  induction L with
  | nil => exact absurd rfl hL
  | cons a L ih =>
    rw [lsum_cons]
    rcases L with _ | ⟨b, L⟩
    · rw [lsum_nil, add_zero]
      exact hF a List.mem_cons_self
    · exact add_pos (hF a List.mem_cons_self)
        (ih (List.cons_ne_nil _ _) fun x hx => hF x (List.mem_cons_of_mem _ hx))

theorem lsum_allAssign_succ (G n : ℕ) (F : List ℕ → ℚ) :
    lsum (allAssign G (n+1)) F = ∑ i ∈ range G, lsum (allAssign G n) (fun l => F (i :: l)) := by
  show lsum ((List.range G).flatMap fun i => (allAssign G n).map (i :: ·)) F = _
  rw [lsum_flatMap, lsum_range]
  apply Finset.sum_congr rfl
  intro i _
  rw [lsum_map]

theorem lsum_allAssign_add (G a b : ℕ) (F : List ℕ → ℚ) :
    lsum (allAssign G (a + b)) F
      = lsum (allAssign G a) (fun l1 => lsum (allAssign G b) (fun l2 => F (l1 ++ l2))) := by
  induction a generalizing F with
  | zero =>
    simp only [Nat.zero_add]
    show _ = lsum [[]] _
    rw [lsum_cons, lsum_nil]; simp
  | succ a ih =>
    rw [Nat.add_right_comm a 1 b, lsum_allAssign_succ, lsum_allAssign_succ]
    apply Finset.sum_congr rfl
    intro i _
    rw [ih]
    rfl

theorem length_of_mem_allAssign (G n : ℕ) (l : List ℕ) (h : l ∈ allAssign G n) : l.length = n := by
  induction n generalizing l with
  | zero => simp [allAssign] at h; simp [h]
  | succ n ih =>
    simp only [allAssign, List.mem_flatMap, List.mem_map, List.mem_range] at h
    obtain ⟨i, _, l', hl', rfl⟩ := h
    simp [ih l' hl']

/-- weight of an assignment of the kids whose top-level total is ≤ i -/
def below (k : Forest) (i : ℕ) (l : List ℕ) : ℚ :=
  match evalA k l with
  | some (tk, wk) => if tk ≤ i then wk else 0
  | none => 0

theorem below_eq_sum (k : Forest) (i : ℕ) (l : List ℕ) :
    below k i l = ∑ u ∈ range (i+1), contrib k u l := by
  unfold below contrib
  cases evalA k l with
  | none => exact Finset.sum_const_zero.symm
  | some tw =>
    obtain ⟨tk, wk⟩ := tw
    show (if tk ≤ i then wk else 0) = ∑ u ∈ range (i+1), if tk = u then wk else 0
    rw [Finset.sum_ite_eq]
    simp only [mem_range, Nat.lt_succ_iff]

theorem sum_specD (G : ℕ) (f : Forest) (k : ℕ) :
    ∑ u ∈ range (k+1), specD G f u = lsum (allAssign G f.size) (below f k) := by
  show ∑ u ∈ range (k+1), lsum (allAssign G f.size) (contrib f u) = _
  rw [← lsum_finset_comm]
  exact lsum_congr _ fun a _ => (below_eq_sum f k a).symm

theorem contrib_cons (p : Vec) (k s : Forest) (t i : ℕ) (l1 l2 : List ℕ) (h1 : l1.length = k.size) :
    contrib (.cons p k s) t (i :: (l1 ++ l2))
      = (if i ≤ t then getQ p i else 0) * below k i l1 * contrib s (t - i) l2 := by
  have ht : (l1 ++ l2).take k.size = l1 := by rw [← h1, List.take_left]
  have hd : (l1 ++ l2).drop k.size = l2 := by rw [← h1, List.drop_left]
  unfold contrib below
  rw [evalA, ht, hd]
  cases evalA k l1 with
  | none => simp only [mul_zero, zero_mul]
  | some tw1 =>
    cases evalA s l2 with
    | none => simp only [mul_zero]
    | some tw2 =>
      obtain ⟨tk, wk⟩ := tw1
      obtain ⟨ts, ws⟩ := tw2
      -- `i + ts = t` iff `i ≤ t` and `ts = t - i`
      by_cases hle : tk ≤ i
      · simp only [if_pos hle]
        by_cases hit : i ≤ t
        · by_cases hts : ts = t - i
          · rw [if_pos hit, if_pos hts, if_pos (hts ▸ Nat.add_sub_cancel' hit)]
          · rw [if_neg hts, mul_zero,
              if_neg fun (h : i + ts = t) => hts (by rw [← h, Nat.add_sub_cancel_left])]
        · rw [if_neg hit, zero_mul, zero_mul,
            if_neg fun (h : i + ts = t) => hit (h ▸ Nat.le_add_right i ts)]
      · simp only [if_neg hle, mul_zero, zero_mul]
theorem specD_nil (G t : ℕ) : specD G .nil t = if t = 0 then 1 else 0 := by
  show (if 0 = t then (1 : ℚ) else 0) + 0 = _
  rw [add_zero]
  simp only [eq_comm]

/-- the brute-force sum obeys the recursion of `D`: choose the index `i ≤ t` of the first clone, give
its kids a total of at most `i` and its siblings the remaining `t - i` -/
theorem specD_cons (G : ℕ) (p : Vec) (k s : Forest) (t : ℕ) :
    specD G (.cons p k s) t = ∑ i ∈ range G,
      if i ≤ t then getQ p i * (∑ u ∈ range (i+1), specD G k u) * specD G s (t - i) else 0 := by
  have hsize : (Forest.cons p k s).size = (k.size + s.size) + 1 := by
    rw [Forest.size, Nat.add_assoc, Nat.add_comm]
  show lsum (allAssign G (Forest.cons p k s).size) (contrib (.cons p k s) t) = _
  rw [hsize, lsum_allAssign_succ]
  refine Finset.sum_congr rfl fun i _ => ?_
  rw [lsum_allAssign_add, sum_specD, lsum_congr _ fun l1 hl1 =>
    (lsum_congr _ fun l2 _ =>
      contrib_cons p k s t i l1 l2 (length_of_mem_allAssign G _ l1 hl1)).trans (lsum_mul_left _ _ _),
    lsum_mul_right, lsum_mul_left, ← ite_zero_mul, ← ite_zero_mul]
  rfl

theorem D_eq_spec (G : ℕ) (f : Forest) : ∀ t, t < G → getQ (D G f) t = specD G f t := by
  induction f with
  | nil => intro t ht; rw [D, getQ_delta0 G t ht, specD_nil]
  | cons p k s ihk ihs =>
    intro t ht
    have hfilter : (range G).filter (fun i => i ≤ t) = range (t+1) := by
      ext i
      rw [mem_filter, mem_range, mem_range]
      exact ⟨fun h => Nat.lt_succ_of_le h.2, fun h => ⟨lt_of_lt_of_le h ht, Nat.lt_succ_iff.mp h⟩⟩
    rw [D, getQ_conv G _ _ t ht, specD_cons, ← Finset.sum_filter, hfilter]
    refine Finset.sum_congr rfl fun j hj => ?_
    have hjG : j < G := lt_of_lt_of_le (mem_range.mp hj) ht
    rw [getQ_pmul G _ _ j hjG, getQ_prefixSum G _ j hjG, ihs (t - j) (lt_of_le_of_lt (Nat.sub_le t j) ht)]
    congr 2
    exact Finset.sum_congr rfl fun u hu => ihk u (lt_of_lt_of_le (mem_range.mp hu) hjG)

#print axioms D_eq_spec
end PhyModel
