import PhyModel.Proofs.SchedProofs
import PhyModel.Proofs.DictRT
/-! The stateful main loop `TraceLoop.mainLoop` (C15): it records, for the same schedule as the skeleton,
the entry built from the chain state *after* each due iteration (`mainLoop_spec`, `runMain_spec`); its `iter`
fields are the output of the skeleton (`mainLoop_iters`); every recorded entry restores and is
self-consistent (`mkEntry_restores`). -/
namespace PhyModel.TraceLoop
open PhyModel.Store PhyModel.Store.Store PhyModel.RunLoop

/-- the entry the loop records for iteration `j`: built from the state after iteration `j` -/
def entryAt (dt : Data) (o : Oracles) (cu : Bool) (st0 : St) (j : ℕ) : Entry :=
  mkEntry dt j (o.clock j) (stateAt o cu st0 (j + 1))

theorem mainLoop_succ (dt : Data) (o : Oracles) (cu : Bool) (thin fuel i : ℕ) (st : St) (tr : List Entry) :
    mainLoop dt o cu thin (fuel + 1) i st tr =
      if o.stop i then
        (if i % thin = 0 then appendToTrace dt i (o.clock i) (body o cu i st) tr else tr, body o cu i st, i + 1)
      else mainLoop dt o cu thin fuel (i + 1) (body o cu i st)
        (if i % thin = 0 then appendToTrace dt i (o.clock i) (body o cu i st) tr else tr) :=
  rfl

theorem mainLoop_spec (dt : Data) (o : Oracles) (cu : Bool) (thin : ℕ) (st0 : St) :
    ∀ (fuel i : ℕ) (tr : List Entry), ∃ m,
      mainLoop dt o cu thin fuel i (stateAt o cu st0 i) tr
        = (tr ++ (sched thin i m).map (entryAt dt o cu st0), stateAt o cu st0 m, m) ∧
      EndsAt o.stop fuel i m := by
  intro fuel
  induction fuel with
  | zero =>
    intro i tr
    refine ⟨i, ?_, .zero o.stop i⟩
    rw [sched_self, List.map_nil, List.append_nil]
    rfl
  | succ fuel ih =>
    intro i tr
    have happ : ∀ m, i < m →
        (if i % thin = 0 then appendToTrace dt i (o.clock i) (stateAt o cu st0 (i + 1)) tr else tr)
            ++ (sched thin (i + 1) m).map (entryAt dt o cu st0)
          = tr ++ (sched thin i m).map (entryAt dt o cu st0) := by
      intro m h
      rw [sched_step thin i m h]
      split
      · rw [appendToTrace, List.append_assoc]
        rfl
      · rfl
    rw [mainLoop_succ]
    cases hs : o.stop i with
    | true =>
      refine ⟨i + 1, ?_, .stop hs fuel⟩
      rw [← happ (i + 1) (Nat.lt_succ_self i), sched_self, List.map_nil, List.append_nil]
      rfl
    | false =>
      obtain ⟨m, e, h⟩ := ih (i + 1)
        (if i % thin = 0 then appendToTrace dt i (o.clock i) (stateAt o cu st0 (i + 1)) tr else tr)
      refine ⟨m, ?_, h.next hs⟩
      rw [← happ m h.1, ← e]
      rfl

/-- the `iter` fields of the stateful loop are the output of the control-flow skeleton -/
theorem mainLoop_iters (dt : Data) (o : Oracles) (cu : Bool) (thin pf : ℕ) (hth : 1 ≤ thin) (hpf : 1 ≤ pf) :
    ∀ (fuel i : ℕ) (st : St) (tr : List Entry),
      mainFrom thin pf o.stop fuel i (tr.map (·.iter)).reverse
        = .ok ((mainLoop dt o cu thin fuel i st tr).1.map (·.iter), (mainLoop dt o cu thin fuel i st tr).2.2) := by
  intro fuel
  induction fuel with
  | zero =>
    intro i st tr
    rw [mainFrom, List.reverse_reverse]
    rfl
  | succ fuel ih =>
    intro i st tr
    have hacc : (if i % thin = 0 then i :: (tr.map (·.iter)).reverse else (tr.map (·.iter)).reverse)
        = ((if i % thin = 0 then appendToTrace dt i (o.clock i) (body o cu i st) tr else tr).map (·.iter)).reverse := by
      split
      · rw [appendToTrace, List.map_append, List.reverse_append]
        rfl
      · rfl
    rw [mainFrom_succ thin pf hth hpf, hacc, mainLoop_succ]
    cases o.stop i with
    | true => rw [if_pos rfl, if_pos rfl, List.reverse_reverse]
    | false => exact ih _ _ _

/-- an invariant of the tree that the samplers followed by `relabel_nodes` preserve holds in every
chain state -/
theorem stateAt_inv (o : Oracles) (cu : Bool) (st0 : St) (P : Store → Prop) (h0 : P st0.tree)
    (hstep : ∀ i s, P s → P (o.moves i s).relabelNodes) : ∀ k, P (stateAt o cu st0 k).tree := by
  intro k
  induction k with
  | zero => exact h0
  | succ k ih => exact hstep k _ ih

/-- the full trace, entry by entry -/
theorem runMain_spec (dt : Data) (o : Oracles) (cu : Bool) (thin numIters : ℕ) (st0 : St) :
    ∃ m, runMain dt o cu thin numIters st0
        = (mkEntry dt 0 (o.clock 0) st0 ::
             (sched thin 0 m).map (fun j => mkEntry dt j (o.clock j) (stateAt o cu st0 (j + 1))),
           stateAt o cu st0 m, m) ∧
      m ≤ numIters ∧ (∀ j, j + 1 < m → o.stop j = false) ∧ (m < numIters → 0 < m ∧ o.stop (m - 1) = true) := by
  obtain ⟨m, e, _, h2, h3, h4⟩ := mainLoop_spec dt o cu thin st0 numIters 0 (appendToTrace dt 0 (o.clock 0) st0 [])
  rw [Nat.zero_add] at h2 h4
  exact ⟨m, e, h2, fun j => h3 j (Nat.zero_le j), h4⟩

theorem mem_trace (dt : Data) (o : Oracles) (cu : Bool) (thin numIters : ℕ) (st0 : St) (e : Entry)
    (he : e ∈ (runMain dt o cu thin numIters st0).1) :
    ∃ j t k, k ≤ numIters ∧ e = mkEntry dt j t (stateAt o cu st0 k) := by
  obtain ⟨m, hm, hle, _⟩ := runMain_spec dt o cu thin numIters st0
  rw [hm] at he
  simp only [List.mem_cons, List.mem_map] at he
  rcases he with rfl | ⟨j, hj, rfl⟩
  · exact ⟨0, o.clock 0, 0, Nat.zero_le _, rfl⟩
  · have hjm := (List.mem_range'_1.1 (List.mem_filter.1 hj).1).2
    rw [Nat.zero_add] at hjm
    exact ⟨j, o.clock j, j + 1, Nat.le_trans hjm hle, rfl⟩

theorem mkEntry_restores (dt : Data) (j : ℕ) (t : Rat) (st : St) (h : WFd dt st.tree) :
    fromDict dt (mkEntry dt j t st).tree = some (normRoot dt st.tree) ∧
    pOneC dt (mkEntry dt j t st).alpha (normRoot dt st.tree) = (mkEntry dt j t st).logPOne := by
  refine ⟨fromDict_toDict_norm dt st.tree h, ?_⟩
  simp [mkEntry, pOneC_normRoot]

end PhyModel.TraceLoop
