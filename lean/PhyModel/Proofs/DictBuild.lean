import PhyModel.Model.DictRT
import PhyModel.Proofs.StoreCache_Vec
/-! What `from_dict` rebuilds from the dictionary written by `to_dict` (C15, C07).  The edge list: for a
payload forest whose graph indices are distinct and different from the parent index, the successors of a
node's index in `edgesOf par g` are, in order, exactly the top-level indices of that node's child forest
(`ChOK`).  The payloads: `TreeNode(...)` + `add_data_point_list` re-create each clone from the `_data` list
of its name (`specRec`), so `buildSF` returns the forest with every payload re-created (`rebuilt`); and the
final `update()` restores the cached vectors of a store whose cache was valid.  The Boolean tests `cacheOKsf`,
`cacheOKB`, `nodupB` decide what they test. -/
namespace PhyModel.Store
open Store.Store SF

/-! ### the edge list -/

/-- graph indices of the top-level clones -/
def rootIdxs (f : SF) : List Nat := f.rootRecs.map (·.idx)

/-- successor list of `c` read off an edge list (the expression used by `buildSF` / `fromDict`) -/
def ch (E : List (Nat × Nat)) (c : Nat) : List Nat := (E.filter (·.1 = c)).map (·.2)

theorem ch_append (A B : List (Nat × Nat)) (c : Nat) : ch (A ++ B) c = ch A c ++ ch B c := by
  rw [ch, List.filter_append, List.map_append]
  rfl

theorem ch_cons (a : Nat × Nat) (A : List (Nat × Nat)) (c : Nat) :
    ch (a :: A) c = (if a.1 = c then [a.2] else []) ++ ch A c := by
  rw [ch, List.filter_cons]
  by_cases h : a.1 = c
  · rw [if_pos (decide_eq_true h), if_pos h]
    rfl
  · rw [if_neg (by rwa [decide_eq_true_eq]), if_neg h]
    rfl

theorem edgesOf_cons (par : Nat) (n : NodeRec) (k s : SF) :
    edgesOf par (.cons n k s) = (par, n.idx) :: (edgesOf n.idx k ++ edgesOf par s) := rfl

theorem ch_edgesOf_nil (c : Nat) (g : SF) : ∀ par, par ≠ c → c ∉ g.idxs → ch (edgesOf par g) c = [] := by
  induction g with
  | nil => exact fun _ _ _ => rfl
  | cons n k s ihk ihs =>
    intro par hp hc
    rw [idxs_cons, List.mem_cons, List.mem_append, not_or, not_or] at hc
    rw [edgesOf_cons, ch_cons, ch_append, if_neg hp, ihk n.idx (Ne.symm hc.1) hc.2.1, ihs par hp hc.2.2]
    rfl

theorem ch_edgesOf_par (g : SF) : ∀ par, par ∉ g.idxs → ch (edgesOf par g) par = rootIdxs g := by
  induction g with
  | nil => exact fun _ _ => rfl
  | cons n k s _ ihs =>
    intro par hp
    rw [idxs_cons, List.mem_cons, List.mem_append, not_or, not_or] at hp
    rw [edgesOf_cons, ch_cons, ch_append, if_pos rfl, ch_edgesOf_nil par k n.idx (Ne.symm hp.1) hp.2.1,
      ihs par hp.2.2]
    rfl

def ChOK (E : List (Nat × Nat)) : SF → Prop
  | .nil => True
  | .cons n k s => ch E n.idx = rootIdxs k ∧ ChOK E k ∧ ChOK E s

/-- the successor lists of the edge list written by `toDict`; `E` is the whole list, `g` a part of the
forest whose nodes have in `E` the successors they have in `edgesOf par g` -/
theorem chOK_edgesOf (E : List (Nat × Nat)) (g : SF) : ∀ par, par ∉ g.idxs → g.idxs.Nodup →
    (∀ c ∈ g.idxs, ch E c = ch (edgesOf par g) c) → ChOK E g := by
  induction g with
  | nil => exact fun _ _ _ _ => trivial
  | cons n k s ihk ihs =>
    intro par hp hnd hE
    rw [idxs_cons] at hp hnd hE
    rw [List.mem_cons, List.mem_append, not_or, not_or] at hp
    obtain ⟨hn, hnd2⟩ := List.nodup_cons.1 hnd
    rw [List.mem_append, not_or] at hn
    obtain ⟨hndk, hnds, hdisj⟩ := List.nodup_append.1 hnd2
    have hE' : ∀ c ∈ n.idx :: (k.idxs ++ s.idxs), par ≠ c →
        ch E c = ch (edgesOf n.idx k) c ++ ch (edgesOf par s) c := by
      intro c hc hpc
      rw [hE c hc, edgesOf_cons, ch_cons, ch_append, if_neg hpc]
      rfl
    refine ⟨?_, ihk n.idx hn.1 hndk ?_, ihs par hp.2.2 hnds ?_⟩
    · rw [hE' n.idx List.mem_cons_self hp.1, ch_edgesOf_par k n.idx hn.1, ch_edgesOf_nil n.idx s par hp.1 hn.2,
        List.append_nil]
    · intro c hc
      have hpc : par ≠ c := fun e => hp.2.1 (e ▸ hc)
      rw [hE' c (List.mem_cons_of_mem _ (List.mem_append_left _ hc)) hpc,
        ch_edgesOf_nil c s par hpc fun h => hdisj c hc c h rfl, List.append_nil]
    · intro c hc
      rw [hE' c (List.mem_cons_of_mem _ (List.mem_append_right _ hc)) fun e => hp.2.2 (e ▸ hc),
        ch_edgesOf_nil c k n.idx (fun e => hn.2 (e ▸ hc)) fun h => hdisj c h c hc rfl]
      rfl

theorem edgesOf_length (g : SF) : ∀ par, (edgesOf par g).length = g.numNodes := by
  induction g with
  | nil => exact fun _ => rfl
  | cons n k s ihk ihs =>
    intro par
    rw [edgesOf_cons, List.length_cons, List.length_append, ihk, ihs, Nat.add_comm, ← Nat.add_assoc]
    rfl

theorem edgesOf_map_snd (g : SF) : ∀ par, (edgesOf par g).map (·.2) = g.idxs := by
  induction g with
  | nil => exact fun _ => rfl
  | cons n k s ihk ihs =>
    intro par
    rw [edgesOf_cons, List.map_cons, List.map_append, ihk, ihs, idxs_cons]

theorem edgesOf_snd {p : Nat} {f : SF} {e : Nat × Nat} (h : e ∈ edgesOf p f) : e.2 ∈ f.idxs :=
  edgesOf_map_snd f p ▸ List.mem_map_of_mem h

theorem edgesOf_fst {p : Nat} {f : SF} {e : Nat × Nat} (h : e ∈ edgesOf p f) : e.1 = p ∨ e.1 ∈ f.idxs := by
  induction f generalizing p with
  | nil => exact absurd h List.not_mem_nil
  | cons n k s ihk ihs =>
    rw [edgesOf_cons, List.mem_cons, List.mem_append] at h
    rw [idxs_cons, List.mem_cons, List.mem_append]
    rcases h with rfl | h | h
    · exact Or.inl rfl
    · exact Or.inr ((ihk h).imp id Or.inl)
    · exact (ihs h).imp id fun h => Or.inr (Or.inr h)

theorem edgesOf_any_of_mem (g : SF) (par : Nat) (n : NodeRec) (h : n ∈ g.recs) :
    (edgesOf par g).any (fun e => decide (e.2 = n.idx)) = true := by
  obtain ⟨e, he, hi⟩ := List.mem_map.1 (edgesOf_map_snd g par ▸ mem_idxs_of_mem_recs h)
  exact List.any_eq_true.2 ⟨e, he, decide_eq_true hi⟩

theorem edgesOf_isEmpty (g : SF) (par : Nat) : (edgesOf par g).isEmpty = g.isNil := by
  cases g <;> rfl

/-! ### payloads -/

theorem foldl_mul_init (l : List Rat) : ∀ a : Rat, l.foldl (· * ·) a = a * l.foldl (· * ·) 1 := by
  induction l with
  | nil => intro a; simp
  | cons x l ih =>
    intro a
    simp only [List.foldl_cons]
    rw [ih (a * x), ih (1 * x), Rat.one_mul, Rat.mul_assoc]

theorem foldl_mulData_p (dt : Data) (dl d : List Nat) :
    dl.foldl (fun v dp => mulData dt v dp) ((List.range dt.S).map fun sm => nodeP dt sm d)
      = (List.range dt.S).map fun sm => nodeP dt sm (d ++ dl) := by
  induction dl generalizing d with
  | nil => rw [List.append_nil]; rfl
  | cons a l ih => rw [List.foldl_cons, C06.mulData_p, ih, List.append_assoc, List.singleton_append]

/-- `log_p` of a rebuilt payload is the clone's own vector `nodeP` -/
theorem specRec_p (dt : Data) (idx : Nat) (name : Int) (dl : List Nat) :
    (specRec dt idx name dl).p = (List.range dt.S).map fun sm => nodeP dt sm dl := by
  show dl.foldl _ (freshRec dt idx name).p = _
  rw [C06.freshRec_p]
  exact foldl_mulData_p dt dl []

theorem recAdd_nil (dt : Data) (n : NodeRec) : recAdd dt n [] = some n := rfl

theorem recAdd_ok (dt : Data) : ∀ (dl : List Nat) (n : NodeRec), (n.dps ++ dl).Nodup →
    recAdd dt n dl = some { n with dps := n.dps ++ dl,
                                   p := dl.foldl (fun v dp => mulData dt v dp) n.p,
                                   r := dl.foldl (fun v dp => mulData dt v dp) n.r } := by
  intro dl
  induction dl with
  | nil => intro n _; simp [recAdd]
  | cons a l ih =>
    intro n hnd
    have ha : n.dps.contains a = false :=
      Bool.eq_false_iff.2 fun h => (List.nodup_append.1 hnd).2.2 a (List.contains_iff_mem.1 h) a List.mem_cons_self rfl
    rw [List.append_cons] at hnd ⊢
    have := ih { n with dps := n.dps ++ [a], p := mulData dt n.p a, r := mulData dt n.r a } hnd
    unfold recAdd at this ⊢
    rw [List.foldlM_cons, ha]
    exact this

/-- `TreeNode(grid, log_prior, name)` followed by `add_data_point_list(dl)` -/
theorem recAdd_fresh (dt : Data) (idx : Nat) (name : Int) (dl : List Nat) (h : dl.Nodup) :
    recAdd dt (freshRec dt idx name) dl = some (specRec dt idx name dl) := by
  have := recAdd_ok dt dl (freshRec dt idx name) (by simpa [freshRec] using h)
  rw [this]
  simp [specRec, freshRec]

/-! ### forest shape -/

/-- the forest as `from_dict` has it before the final `update()`: every payload re-created from the
`_data` list `dl n` registered for its name -/
def rebuilt (dt : Data) (dl : NodeRec → List Nat) (g : SF) : SF :=
  g.mapRecs fun n => specRec dt n.idx n.name (dl n)

theorem rebuilt_cons (dt : Data) (dl : NodeRec → List Nat) (n : NodeRec) (k s : SF) :
    rebuilt dt dl (.cons n k s) = .cons (specRec dt n.idx n.name (dl n)) (rebuilt dt dl k) (rebuilt dt dl s) := rfl

theorem buildSF_cons (dt : Data) (d : TDict) (fuel c : Nat) (cs : List Nat) (name : Int) (dl : List Nat)
    (r : NodeRec) (kids sibs : SF) (h1 : d.nodeIdxRev.lookup c = some name)
    (h2 : d.nodeIdx.lookup name = some c) (h3 : d.data.lookup name = some dl)
    (h4 : recAdd dt (freshRec dt c name) dl = some r) (h5 : buildSF dt d fuel (ch d.edges c) = some kids)
    (h6 : buildSF dt d fuel cs = some sibs) : buildSF dt d (fuel + 1) (c :: cs) = some (.cons r kids sibs) := by
  unfold ch at h5
  unfold buildSF
  simp only [h1, h2, h3, h4, h5, h6, Option.bind_eq_bind, Option.bind_some, bne_self_eq_false,
    Bool.false_eq_true, ↓reduceIte, Option.pure_def]

theorem buildSF_ok (dt : Data) (d : TDict) (dl : NodeRec → List Nat) (g : SF) : ∀ fuel, g.numNodes ≤ fuel →
    ChOK d.edges g →
    (∀ n ∈ g.recs, d.nodeIdxRev.lookup n.idx = some n.name ∧ d.nodeIdx.lookup n.name = some n.idx ∧
        d.data.lookup n.name = some (dl n) ∧ (dl n).Nodup) →
    buildSF dt d fuel (rootIdxs g) = some (rebuilt dt dl g) := by
  induction g with
  | nil =>
    intro fuel _ _ _
    cases fuel <;> rfl
  | cons n k s ihk ihs =>
    intro fuel hfuel hch hpay
    have hsz : (k.numNodes + s.numNodes).succ ≤ fuel := Nat.succ_add .. ▸ Nat.one_add _ ▸ hfuel
    obtain ⟨fuel, rfl⟩ := Nat.exists_eq_add_one_of_ne_zero (Nat.ne_of_gt (Nat.zero_lt_of_lt hsz))
    have hsz := Nat.le_of_succ_le_succ hsz
    obtain ⟨p1, p2, p3, p4⟩ := hpay n List.mem_cons_self
    exact buildSF_cons dt d fuel n.idx _ n.name (dl n) _ _ _ p1 p2 p3 (recAdd_fresh dt n.idx n.name (dl n) p4)
      (hch.1 ▸ ihk fuel (Nat.le_trans (Nat.le_add_right ..) hsz) hch.2.1
        fun m hm => hpay m (List.mem_cons_of_mem _ (List.mem_append_left _ hm)))
      (ihs fuel (Nat.le_trans (Nat.le_add_left ..) hsz) hch.2.2
        fun m hm => hpay m (List.mem_cons_of_mem _ (List.mem_append_right _ hm)))

/-! ### the final `update()` -/

theorem recompR_congr_p (dt : Data) (a b : NodeRec) (k : SF) (h : a.p = b.p) :
    recompR dt a k = recompR dt b k := by
  unfold recompR
  rw [h]

theorem updAll_cons (dt : Data) (n : NodeRec) (k s : SF) :
    updAll dt (.cons n k s) = .cons { n with r := recompR dt n (updAll dt k) } (updAll dt k) (updAll dt s) := rfl

theorem cacheOKsf_eq_true_iff (dt : Data) (f : SF) : cacheOKsf dt f = true ↔ CacheOKsf dt f := by
  induction f with
  | nil => exact iff_of_true rfl trivial
  | cons n k s ihk ihs =>
    show (vecsEq _ _ && vecsEq _ _ && cacheOKsf dt k && cacheOKsf dt s) = true ↔ _ ∧ _ ∧ CacheOKsf dt k ∧ CacheOKsf dt s
    rw [Bool.and_eq_true, Bool.and_eq_true, Bool.and_eq_true, ihk, ihs, and_assoc, and_assoc, vecsEq, vecsEq,
      beq_iff_eq, beq_iff_eq]

theorem C06.cacheOKB_iff (dt : Data) (s : Store) : s.cacheOKB dt = true ↔ CacheOK dt s := by
  unfold Store.cacheOKB CacheOK
  rw [Bool.and_eq_true, Bool.or_eq_true, cacheOKsf_eq_true_iff, Store.vecsEq, beq_iff_eq]
  cases s.forest.isNil <;> simp

theorem nodupB_iff {α} [BEq α] [LawfulBEq α] : ∀ l : List α, nodupB l = true ↔ l.Nodup := by
  intro l
  induction l with
  | nil => simp [nodupB]
  | cons a l ih => simp [nodupB, ih]

theorem updAll_rebuilt (dt : Data) (g : SF) : CacheOKsf dt g → updAll dt (rebuilt dt (·.dps) g) = g := by
  induction g with
  | nil => exact fun _ => rfl
  | cons n k s ihk ihs =>
    rintro ⟨hp, hr, hk, hs⟩
    have hp' : (specRec dt n.idx n.name n.dps).p = n.p := (specRec_p ..).trans hp.symm
    rw [rebuilt_cons, updAll_cons, ihk hk, ihs hs, recompR_congr_p dt _ n k hp', ← hr, hp']
    rfl

end PhyModel.Store
