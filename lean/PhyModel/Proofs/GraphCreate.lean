import PhyModel.Proofs.GraphClosure
/-! `create_root_node` at graph level (`gCreateRootNode`: `add_node`, `add_edge(root, new)`, then
`remove_edge(root, child)`; `add_edge(new, child)` per child): a closed form of the result up to the
order of the edge list, when the call succeeds, and that it keeps the graph a rooted forest. -/
namespace PhyModel.Graph

/-- one round of the loop over the children -/
def reparent (new : Nat) (g : DG) (c : Nat) : Option DG := do
  let g' ← g.removeEdge 0 c
  g'.addEdge new c

theorem gCreateRootNode_eq (g : DG) (new : Nat) (kids : List Nat) :
    gCreateRootNode g new kids =
      (g.addNode new).bind fun g1 => (g1.addEdge 0 new).bind fun g2 => kids.foldlM (reparent new) g2 := rfl

theorem addNode_eq_some {g g' : DG} {i : Nat} :
    g.addNode i = some g' ↔ i ∉ g.nodes ∧ g' = { g with nodes := g.nodes ++ [i] } := by
  unfold DG.addNode
  simp only [Option.ite_none_left_eq_some, Option.some.injEq, live_iff, eq_comm (a := g')]

theorem addEdge_eq_some {g g' : DG} {a b : Nat} :
    g.addEdge a b = some g' ↔ a ∈ g.nodes ∧ b ∈ g.nodes ∧ g' = { g with edges := g.edges ++ [(a, b)] } := by
  unfold DG.addEdge
  simp only [Option.ite_some_none_eq_some, Bool.and_eq_true, live_iff, and_assoc, eq_comm (a := g')]

theorem removeEdge_eq_some {g g' : DG} {a b : Nat} :
    g.removeEdge a b = some g' ↔ (a, b) ∈ g.edges ∧ g' = { g with edges := g.edges.erase (a, b) } := by
  unfold DG.removeEdge
  simp only [Option.ite_some_none_eq_some, List.contains_iff_mem, eq_comm (a := g')]

theorem reparent_eq_some {new c : Nat} {g g' : DG} : reparent new g c = some g' ↔
    (0, c) ∈ g.edges ∧ new ∈ g.nodes ∧ c ∈ g.nodes ∧
      g' = { nodes := g.nodes, edges := g.edges.erase (0, c) ++ [(new, c)] } := by
  unfold reparent
  simp only [Option.bind_eq_bind, Option.bind_eq_some_iff, removeEdge_eq_some, addEdge_eq_some]
  constructor
  · rintro ⟨_, ⟨he, rfl⟩, hn, hc, rfl⟩
    exact ⟨he, hn, hc, rfl⟩
  · rintro ⟨he, hn, hc, rfl⟩
    exact ⟨_, ⟨he, rfl⟩, hn, hc, rfl⟩

theorem reparent_fold_spec (new : Nat) : ∀ (kids : List Nat) (g g' : DG), kids.foldlM (reparent new) g = some g' →
    g'.nodes = g.nodes ∧ (g'.edges ++ kids.map (fun c => (0, c))).Perm (g.edges ++ kids.map (fun c => (new, c))) ∧
      (kids ≠ [] → new ∈ g.nodes) ∧ ∀ c ∈ kids, c ∈ g.nodes
  | [], g, g', h => by
    cases h
    exact ⟨rfl, .refl _, fun h => absurd rfl h, fun _ h => nomatch h⟩
  | c :: cs, g, g', h => by
    obtain ⟨g1, hr, h⟩ := Option.bind_eq_some_iff.1 h
    obtain ⟨he, hnew, hc, rfl⟩ := reparent_eq_some.1 hr
    obtain ⟨hn, hp, _, hk⟩ := reparent_fold_spec new cs _ g' h
    refine ⟨hn, ?_, fun _ => hnew, List.forall_mem_cons.2 ⟨hc, hk⟩⟩
    -- g'.edges ++ (0,c) :: K0 ~ (0,c) :: (g'.edges ++ K0) ~ (0,c) :: (erase ++ [(new,c)] ++ Knew) ~ g.edges ++ (new,c) :: Knew
    refine List.perm_middle.trans ((hp.cons (0, c)).trans ?_)
    rw [List.append_assoc]
    exact (List.perm_cons_erase he).symm.append_right ((new, c) :: cs.map fun c => (new, c))

/-- **closed form of `create_root_node`** (edge list up to order): the new index was free, the node list
grows by it, and the edge multiset loses root → child and gains root → new, new → child -/
theorem gCreateRootNode_spec {g g' : DG} {new : Nat} {kids : List Nat} (h : gCreateRootNode g new kids = some g') :
    new ∉ g.nodes ∧ g'.nodes = g.nodes ++ [new] ∧
      (g'.edges ++ kids.map (fun c => (0, c))).Perm (g.edges ++ (0, new) :: kids.map (fun c => (new, c))) ∧
      ∀ c ∈ kids, c ∈ g.nodes ∨ c = new := by
  rw [gCreateRootNode_eq] at h
  obtain ⟨g1, h1, h⟩ := Option.bind_eq_some_iff.1 h
  obtain ⟨g2, h2, h⟩ := Option.bind_eq_some_iff.1 h
  obtain ⟨hnew, rfl⟩ := addNode_eq_some.1 h1
  obtain ⟨-, -, rfl⟩ := addEdge_eq_some.1 h2
  obtain ⟨hn, hp, -, hk⟩ := reparent_fold_spec new kids _ g' h
  exact ⟨hnew, hn, by simpa using hp, fun c hc => by simpa using hk c hc⟩

theorem reparent_fold_isSome (new : Nat) : ∀ (kids : List Nat) (g : DG), kids.Nodup → new ∈ g.nodes →
    (∀ c ∈ kids, c ∈ g.nodes ∧ (0, c) ∈ g.edges) → (kids.foldlM (reparent new) g).isSome = true
  | [], g, _, _, _ => by simp
  | c :: cs, g, hnd, hnew, hk => by
    obtain ⟨hc, he⟩ := hk c (List.mem_cons_self ..)
    rw [List.foldlM_cons, reparent_eq_some.2 ⟨he, hnew, hc, rfl⟩]
    refine reparent_fold_isSome new cs _ (List.nodup_cons.1 hnd).2 hnew fun x hx => ?_
    obtain ⟨hx1, hx2⟩ := hk x (List.mem_cons_of_mem _ hx)
    refine ⟨hx1, List.mem_append_left _ ((List.mem_erase_of_ne ?_).2 hx2)⟩
    rintro ⟨⟩
    exact (List.nodup_cons.1 hnd).1 hx

/-- `create_root_node` does not raise when the index handed out is free and the children are distinct
current top-level clones -/
theorem gCreateRootNode_isSome {g : DG} {new : Nat} {kids : List Nat} (hnew : new ∉ g.nodes) (h0 : 0 ∈ g.nodes)
    (hnd : kids.Nodup) (hk : ∀ c ∈ kids, c ∈ g.nodes ∧ (0, c) ∈ g.edges) :
    (gCreateRootNode g new kids).isSome = true := by
  rw [gCreateRootNode_eq, addNode_eq_some.2 ⟨hnew, rfl⟩, Option.bind_some,
    addEdge_eq_some.2 ⟨List.mem_append_left _ h0, List.mem_append_right _ (List.mem_singleton_self new), rfl⟩,
    Option.bind_some]
  exact reparent_fold_isSome new kids _ hnd (List.mem_append_right _ (List.mem_singleton_self new)) fun c hc =>
    ⟨List.mem_append_left _ (hk c hc).1, List.mem_append_left _ (hk c hc).2⟩

/-- **`create_root_node` keeps the graph a rooted forest** (the children are clones of the tree as it
was before the call: none of them is the new node) -/
theorem forest_createRootNode {g g' : DG} {new : Nat} {kids : List Nat} (hf : IsForest g)
    (hk : ∀ c ∈ kids, c ≠ new) (h : gCreateRootNode g new kids = some g') : IsForest g' := by
  obtain ⟨hnew, hn, hp, _⟩ := gCreateRootNode_spec h
  have h0 := hf.root_live
  have hnew0 : new ≠ 0 := fun e => hnew (e ▸ h0)
  -- membership in the new edge list
  have hmem : ∀ e, e ∈ g.edges ++ (0, new) :: kids.map (fun c => (new, c)) →
      e ∉ kids.map (fun c => (0, c)) → e ∈ g'.edges := by
    intro e he hne
    rcases List.mem_append.1 (hp.symm.subset he) with h' | h'
    · exact h'
    · exact absurd h' hne
  have h0new : (0, new) ∈ g'.edges := hmem _ (List.mem_append_right _ List.mem_cons_self) fun h => by
    obtain ⟨c, hc, h⟩ := List.mem_map.1 h
    exact hk c hc (Prod.mk.inj h).2
  have hnewc : ∀ c ∈ kids, (new, c) ∈ g'.edges := fun c hc =>
    hmem _ (List.mem_append_right _ (List.mem_cons_of_mem _ (List.mem_map.2 ⟨c, hc, rfl⟩))) fun h => by
      obtain ⟨x, _, h⟩ := List.mem_map.1 h
      exact hnew0 (Prod.mk.inj h).1.symm
  refine IsForest.of_targets_perm ?_ ?_ ?_ ?_ ?_
  · rw [hn]
    exact List.nodup_append.2 ⟨hf.nodes_nodup, by simp, by
      rintro a ha b hb rfl
      exact hnew ((List.mem_singleton.1 hb) ▸ ha)⟩
  · rw [hn]; exact List.mem_append_left _ h0
  · intro e he
    rw [hn]
    have := hp.subset (List.mem_append_left _ he)
    simp only [List.mem_append, List.mem_cons, List.mem_map] at this ⊢
    rcases this with h' | rfl | ⟨c, _, rfl⟩
    · exact .inl (hf.edges_live e h').1
    · exact .inl h0
    · exact .inr (by simp)
  · -- targets: cancel the children on both sides
    have ht := hp.map (·.2)
    simp only [List.map_append, List.map_cons, List.map_map, Function.comp_def, List.map_id'] at ht
    have ht2 : (g'.targets ++ kids).Perm ((g.targets ++ [new]) ++ kids) := by
      refine ht.trans ?_
      simp only [List.append_assoc, List.singleton_append]
      exact List.Perm.refl _
    have ht3 := (List.perm_append_right_iff kids).1 ht2
    rw [hn, List.erase_append_left _ h0]
    exact ht3.trans (hf.targets_perm.append_right _)
  · have key : ∀ v, Reach g 0 v → Reach g' 0 v := by
      intro v hv
      induction hv with
      | refl => exact .refl 0
      | @step b c _ he ih =>
        by_cases hkc : (b, c) ∈ kids.map (fun c => (0, c))
        · obtain ⟨x, hx, hxe⟩ := List.mem_map.1 hkc
          cases hxe
          exact ((Reach.single h0new).trans (Reach.single (hnewc c hx)))
        · exact .step ih (hmem _ (List.mem_append_left _ he) hkc)
    intro v hv
    rw [hn] at hv
    rcases List.mem_append.1 hv with hv | hv
    · exact key v (hf.reach v hv)
    · rw [List.mem_singleton.1 hv]; exact Reach.single h0new

end PhyModel.Graph
