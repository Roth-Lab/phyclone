import PhyModel.Proofs.OrdersCount
import PhyModel.Model.OrdersSampler
import PhyModel.Proofs.DistLemmas
/-! The recursive bridge-shuffle sampler (mirror of `RootPermutationDistribution.sample`) is the
uniform distribution on the enumerated orders: every stage is uniform with a count that does not
depend on the earlier draws, so the stages multiply (`E_bind_uniform`). -/

namespace PhyModel
open Dist

namespace Orders

/-- every outcome of the sampler is one of the enumerated orders -/
theorem sampleF_support : ∀ (f : Forest) (ap : List ℕ × ℚ), ap ∈ sampleF f → ap.1 ∈ orders f := by
  intro f
  induction f with
  | nil =>
    intro ap h
    rw [sampleF, Dist.pure, List.mem_singleton] at h
    rw [h]
    exact List.mem_singleton.mpr rfl
  | cons d k s ihk ihs =>
    intro ap h
    obtain ⟨a1, ha1, b1, hb1, rfl⟩ := mem_bind.mp h
    obtain ⟨a2, ha2, b2, hb2, rfl⟩ := mem_bind.mp hb1
    obtain ⟨a3, ha3, b3, hb3, rfl⟩ := mem_bind.mp hb2
    obtain ⟨pd, hpd, rfl⟩ := List.mem_map.mp ha2
    obtain ⟨o, ho, rfl⟩ := List.mem_map.mp hb3
    exact mem_orders_cons.mpr ⟨a1.1, ihk a1 ha1, pd, hpd, a3.1, ihs a3 ha3, ho⟩

theorem E_uniform_inter (a b : List ℕ) (m n : ℕ) (ha : a.length = m) (hb : b.length = n)
    (h : List ℕ → ℚ) :
    E (uniform (inter a b)) h = (1 / ((Nat.choose (m + n) m : ℕ) : ℚ)) * lsum (inter a b) h := by
  rw [E_uniform, length_inter, ha, hb]

/-- **uniformity**: the recursive bridge-shuffle sampler is the uniform distribution on the
enumerated compatible orders -/
theorem sampleF_uniform : ∀ (f : Forest) (h : List ℕ → ℚ),
    E (sampleF f) h = (1 / (countF f : ℚ)) * lsum (orders f) h := by
  intro f
  induction f with
  | nil =>
    intro h
    rw [sampleF, E_pure, orders, countF, lsum_cons, lsum_nil, Nat.cast_one, add_zero, div_one, one_mul]
  | cons d k s ihk ihs =>
    intro h
    rw [sampleF, orders, countF, Nat.cast_mul, Nat.cast_mul, Nat.cast_mul]
    -- the three stages multiply their counts
    refine E_bind_uniform _ _ _ _ _ _ ihk (fun ok hok h => ?_) h
    refine E_bind_uniform _ _ _ _ _ _ (fun h => by rw [E_uniform, length_perms])
      (fun pd hpd h => ?_) h
    refine E_bind_uniform _ _ _ _ _ _ ihs (fun os hos h => ?_) h
    refine E_uniform_inter _ _ _ _ ?_ (length_of_mem_orders s os hos) h
    rw [List.length_append, length_of_mem_orders k ok hok, (perm_of_mem_perms d pd hpd).length_eq]

theorem sampleOrder_uniform (f : Forest) (out : List ℕ) (h : List ℕ → ℚ) :
    E (sampleOrder f out) h = (1 / ((allOrders f out).length : ℚ)) * lsum (allOrders f out) h := by
  rw [length_allOrders, sampleOrder, allOrders, Nat.cast_mul, Nat.cast_mul]
  refine E_bind_uniform _ _ _ _ _ _ (sampleF_uniform f) (fun o ho h => ?_) h
  refine E_bind_uniform _ _ _ _ _ _ (fun h => by rw [E_uniform, length_perms])
    (fun po hpo h => ?_) h
  exact E_uniform_inter _ _ _ _ (length_of_mem_orders f o ho)
    (perm_of_mem_perms out po hpo).length_eq h

#print axioms sampleOrder_uniform

/-- **C09, assembled.**  For a tree whose data points are distinct: the enumerated orders are
exactly the compatible ones, each once; the code's count is their number; and the sampler gives
every test function its plain average over them. -/
theorem c09 (f : Forest) (out : List ℕ) (hnd : (f.all ++ out).Nodup) :
    (∀ σ, σ ∈ allOrders f out ↔ CompatAll f out σ) ∧ (allOrders f out).Nodup ∧
    countCode f out.length = ((allOrders f out).length : ℚ) ∧
    ∀ h : List ℕ → ℚ, Dist.E (sampleOrder f out) h
      = (1 / ((allOrders f out).length : ℚ)) * lsum (allOrders f out) h :=
  ⟨fun σ => ⟨allOrders_sound f out σ, allOrders_complete f out σ hnd⟩,
   allOrders_nodup f out hnd, countCode_eq_length f out, sampleOrder_uniform f out⟩

#print axioms c09
end Orders
end PhyModel
