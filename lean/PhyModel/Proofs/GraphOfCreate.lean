import PhyModel.Proofs.GraphOfPayload
import PhyModel.Proofs.GraphCreate
import PhyModel.Proofs.StoreCache_create
import PhyModel.Proofs.StoreWFB
import Mathlib.Data.List.Perm.Subperm
/-! The structural `create_root_node` of the store model (`Store.createRootNode`: the new clone is put on
top of the selected top-level trees, `SF.cons n1 tr.1 tr.2` with `tr = takeRoots cis forest`) is a
correct abstraction of the primitive-level graph manipulation (`gCreateRootNode`: `add_node`,
`add_edge(root, new)`, then `remove_edge(root, child)`; `add_edge(new, child)` per child): on the graph
of the forest the primitive sequence succeeds and yields the graph of the new forest, node list and
edge list up to order (`graph_createRootNode`).  For the whole `Store.createRootNode` on a well-formed
store this holds with the index the model allocates (`Store.fresh`) and the graph indices of the
children looked up in `_node_indices`; the cache pass that follows (`_update_path_to_root`) changes
neither the indices nor the edges (`graph_store_createRootNode`). -/
namespace PhyModel.Graph
open PhyModel.Store

/-- graph indices of the top-level clones -/
def topIdxs (f : SF) : List Nat := f.rootRecs.map (·.idx)

@[simp] theorem topIdxs_nil : topIdxs .nil = [] := rfl
@[simp] theorem topIdxs_cons (n : NodeRec) (k s : SF) : topIdxs (.cons n k s) = n.idx :: topIdxs s := rfl

theorem topIdxs_sublist (f : SF) : (topIdxs f).Sublist f.idxs := (SF.rootRecs_sublist f).map _

/-- the selected top-level clones are those whose index is listed -/
theorem topIdxs_takeRoots (is : List Nat) : ∀ f : SF,
    topIdxs (f.takeRoots is).1 = (topIdxs f).filter fun c => is.contains c
  | .nil => rfl
  | .cons n k s => by
    rw [C06.takeRoots_cons]
    by_cases h : is.contains n.idx = true
    · rw [if_pos h, topIdxs_cons, topIdxs_cons, List.filter_cons_of_pos h, topIdxs_takeRoots is s]
    · rw [if_neg h, topIdxs_cons, List.filter_cons_of_neg h, topIdxs_takeRoots is s]

/-- every top-level clone hangs under the index the forest is read from -/
theorem top_edge_mem : ∀ {f : SF} {par c : Nat}, c ∈ topIdxs f → (par, c) ∈ Store.edgesOf par f
  | .nil, _, _, h => by simp at h
  | .cons n k s, par, c, h => by
    simp only [topIdxs_cons, List.mem_cons] at h
    simp only [edgesOf_cons, List.mem_cons, List.mem_append]
    rcases h with rfl | h
    · exact .inl rfl
    · exact .inr (.inr (top_edge_mem h))

/-- splitting the top-level trees only reorders the edge list -/
theorem edgesOf_takeRoots (is : List Nat) (par : Nat) : ∀ f : SF,
    (Store.edgesOf par f).Perm (Store.edgesOf par (f.takeRoots is).1 ++ Store.edgesOf par (f.takeRoots is).2)
  | .nil => by simp [SF.takeRoots]
  | .cons n k s => by
    have ih := edgesOf_takeRoots is par s
    rw [C06.takeRoots_cons]
    split
    · simp only [edgesOf_cons, List.cons_append, List.append_assoc]
      exact (ih.append_left _).cons _
    · simp only [edgesOf_cons]
      refine (List.Perm.cons _ ?_).trans List.perm_middle.symm
      exact (ih.append_left _).trans (List.perm_append_comm_assoc _ _ _)

/-- the edges below the top level: they do not depend on where the forest hangs -/
def innerEdges : SF → List (Nat × Nat)
  | .nil => []
  | .cons n k s => Store.edgesOf n.idx k ++ innerEdges s

theorem edgesOf_perm_top : ∀ (f : SF) (par : Nat),
    (Store.edgesOf par f).Perm ((topIdxs f).map (fun c => (par, c)) ++ innerEdges f)
  | .nil, _ => by simp [innerEdges]
  | .cons n k s, par => by
    simp only [edgesOf_cons, topIdxs_cons, List.map_cons, List.cons_append, innerEdges]
    exact (((edgesOf_perm_top s par).append_left _).trans (List.perm_append_comm_assoc _ _ _)).cons _

/-- moving a forest from under `p` to under `q` exchanges the top-level edges only -/
theorem edgesOf_swap_top (f : SF) (p q : Nat) :
    (Store.edgesOf p f ++ (topIdxs f).map fun c => (q, c)).Perm
      (Store.edgesOf q f ++ (topIdxs f).map fun c => (p, c)) := by
  refine ((edgesOf_perm_top f p).append_right _).trans (.trans ?_ ((edgesOf_perm_top f q).append_right _).symm)
  simp only [List.append_assoc]
  refine (List.perm_append_comm_assoc _ _ _).trans ?_
  refine List.Perm.trans ?_ (List.perm_append_comm_assoc _ _ _)
  exact (List.perm_append_comm.append_left _)

/-- **counting**: when as many top-level trees were selected as indices were listed, the listed indices
are distinct and are exactly the indices of the selected trees -/
theorem cis_perm_top {f : SF} {cis : List Nat} (hn : f.idxs.Nodup)
    (hlen : (f.takeRoots cis).1.rootRecs.length = cis.length) :
    cis.Nodup ∧ (topIdxs (f.takeRoots cis).1).Perm cis ∧ ∀ c ∈ cis, c ∈ topIdxs f := by
  have hnd : (topIdxs (f.takeRoots cis).1).Nodup := by
    rw [topIdxs_takeRoots]
    exact (hn.sublist (topIdxs_sublist f)).filter _
  have hsub : topIdxs (f.takeRoots cis).1 ⊆ cis := by
    intro c hc
    rw [topIdxs_takeRoots, List.mem_filter] at hc
    simpa using hc.2
  have hp : (topIdxs (f.takeRoots cis).1).Perm cis :=
    (List.subperm_of_subset hnd hsub).perm_of_length_le (by simp [topIdxs, hlen])
  refine ⟨hp.nodup_iff.1 hnd, hp, fun c hc => ?_⟩
  have := hp.symm.subset hc
  rw [topIdxs_takeRoots, List.mem_filter] at this
  exact this.1

/-- **the structural `create_root_node` is what the graph primitives do**: on the graph of a forest with
distinct non-zero indices, `add_node`; `add_edge(root, new)`; per child `remove_edge(root, child)`,
`add_edge(new, child)` succeeds exactly in the situation in which the store model goes on (as many
top-level trees selected as children listed), and the graph it leaves is the graph of the forest with
the new clone on top of the selected trees — node list and edge list up to order. -/
theorem graph_createRootNode {f : SF} {n1 : NodeRec} {cis : List Nat} (hn : f.idxs.Nodup) (h0 : 0 ∉ f.idxs)
    (hnew : n1.idx ∉ f.idxs) (hnew0 : n1.idx ≠ 0)
    (hlen : (f.takeRoots cis).1.rootRecs.length = cis.length) :
    ∃ g', gCreateRootNode (graphOf f) n1.idx cis = some g' ∧
      g'.nodes.Perm (graphOf (.cons n1 (f.takeRoots cis).1 (f.takeRoots cis).2)).nodes ∧
      g'.edges.Perm (graphOf (.cons n1 (f.takeRoots cis).1 (f.takeRoots cis).2)).edges := by
  have _ := h0
  obtain ⟨hnd, hp, htop⟩ := cis_perm_top hn hlen
  have hs : (gCreateRootNode (graphOf f) n1.idx cis).isSome = true := by
    refine gCreateRootNode_isSome ?_ (by simp) hnd fun c hc => ?_
    · simp only [graphOf_nodes, List.mem_cons, not_or]
      exact ⟨hnew0, hnew⟩
    · have hc' := htop c hc
      exact ⟨List.mem_cons_of_mem _ ((topIdxs_sublist f).subset hc'), top_edge_mem hc'⟩
  obtain ⟨g', hg⟩ := Option.isSome_iff_exists.1 hs
  obtain ⟨_, hnodes, hedges, _⟩ := gCreateRootNode_spec hg
  refine ⟨g', hg, ?_, ?_⟩
  · rw [hnodes]
    simp only [graphOf_nodes, SF.idxs_cons, List.cons_append]
    refine List.Perm.cons 0 ?_
    refine List.perm_append_singleton _ _ |>.trans (List.Perm.cons _ ?_)
    have := (SF.takeRoots_perm cis f).map (·.idx)
    simpa [SF.idxs] using this.symm
  · simp only [graphOf_edges, edgesOf_cons] at hedges ⊢
    refine (List.perm_append_right_iff (cis.map fun c => (0, c))).1 (hedges.trans ?_)
    refine List.perm_middle.trans ?_
    simp only [List.cons_append]
    refine List.Perm.cons _ ?_
    -- `edgesOf 0 f ++ new→kids ~ (edgesOf new tr.1 ++ edgesOf 0 tr.2) ++ root→kids`
    have hq : ∀ q : Nat, (cis.map fun c => (q, c)).Perm ((topIdxs (f.takeRoots cis).1).map fun c => (q, c)) :=
      fun q => (hp.map _).symm
    refine (((edgesOf_takeRoots cis 0 f).append (hq n1.idx))).trans ?_
    refine List.Perm.trans ?_ ((List.Perm.refl _).append (hq 0).symm)
    -- `(A0 ++ B) ++ Tn ~ (An ++ B) ++ T0`
    refine ((List.perm_append_comm.append_right _).trans ?_)
    refine List.Perm.trans ?_ (List.perm_append_comm.append_right _)
    simp only [List.append_assoc]
    exact (edgesOf_swap_top _ 0 n1.idx).append_left _

/-! ### the whole `Store.createRootNode` -/

/-- a successful `Store.createRootNode`: the new clone gets the index `Store.fresh`, the children are looked up
in `_node_indices`, and the cache pass leaves the graph alone -/
theorem createRootNode_forest {dt : Data} {s : Store} {ch : List Int} {data : List Nat} {r : Store × Int}
    (h : s.createRootNode dt ch data = some r) :
    ∃ n1 cis, n1.idx = s.fresh ∧
      ch.mapM (fun c => (alSet s.nodeIdx (s.numNodes : Int) s.fresh).lookup c) = some cis ∧
      (s.forest.takeRoots cis).1.rootRecs.length = cis.length ∧
      graphOf r.1.forest = graphOf (.cons n1 (s.forest.takeRoots cis).1 (s.forest.takeRoots cis).2) := by
  unfold Store.createRootNode at h
  dsimp only at h
  obtain ⟨n1, hn1, h⟩ := Option.bind_eq_some_iff.1 h
  obtain ⟨cis, hcis, h⟩ := Option.bind_eq_some_iff.1 h
  by_cases hl : ((s.forest.takeRoots cis).1.rootRecs.length != cis.length) = true
  · rw [if_pos hl] at h; cases h
  rw [if_neg hl] at h
  obtain ⟨s2, hup, h⟩ := Option.bind_eq_some_iff.1 h
  cases h
  exact ⟨n1, cis, (C06.recAdd_spec dt data _ n1 hn1).1, hcis, by simpa using hl, graphOf_updatePathToRoot hup⟩

/-- **`Tree.create_root_node` of the store model is the graph primitive sequence**: when the store model's
call succeeds on a well-formed store, `cis` are the graph indices `_node_indices` gives for the children,
the primitive sequence on the graph of the old forest succeeds for the index the model allocates, and it
leaves the graph of the new forest (node list and edge list up to order). -/
theorem graph_store_createRootNode {dt : Data} {s : Store} {ch : List Int} {data : List Nat} {r : Store × Int}
    (hwf : WF s) (h : s.createRootNode dt ch data = some r) :
    ∃ cis g', ch.mapM (fun c => (alSet s.nodeIdx (s.numNodes : Int) s.fresh).lookup c) = some cis ∧
      gCreateRootNode (graphOf s.forest) s.fresh cis = some g' ∧
      g'.nodes.Perm (graphOf r.1.forest).nodes ∧ g'.edges.Perm (graphOf r.1.forest).edges := by
  obtain ⟨n1, cis, hidx, hcis, hlen, hg⟩ := createRootNode_forest h
  obtain ⟨g', hg', hnodes, hedges⟩ :=
    graph_createRootNode hwf.idxs_nodup (WF.zero_notMem hwf) (hidx ▸ C06.fresh_notMem s) (hidx ▸ (fresh_pos s).ne') hlen
  exact ⟨cis, g', hcis, hidx ▸ hg', hg ▸ hnodes, hg ▸ hedges⟩

/-- the graph indices `create_root_node` looks up for the children are indices of top-level clones of the
tree as it is: none is the index of the node being created -/
theorem createRootNode_kids {dt : Data} {s : Store} {ch : List Int} {data : List Nat} {r : Store × Int}
    {cis : List Nat} (hwf : WF s) (h : s.createRootNode dt ch data = some r)
    (hc : ch.mapM (fun c => (alSet s.nodeIdx (s.numNodes : Int) s.fresh).lookup c) = some cis) :
    ∀ c ∈ cis, c ≠ s.fresh := by
  obtain ⟨_, cis', _, hcis, hlen, _⟩ := createRootNode_forest h
  cases Option.some.inj (hcis.symm.trans hc)
  obtain ⟨_, _, htop⟩ := cis_perm_top hwf.idxs_nodup hlen
  intro c hcm heq
  exact C06.fresh_notMem s (heq ▸ (topIdxs_sublist s.forest).subset (htop c hcm))

/-! ### non-vacuity: four clones, a new clone on top of two of the three top-level trees -/

private def mk (i : Nat) (nm : Int) : NodeRec := { idx := i, name := nm, dps := [], p := [], r := [] }

/-- top-level clones 1, 3, 4; clone 2 below clone 1 -/
private def exF : SF := .cons (mk 1 0) (.cons (mk 2 1) .nil .nil) (.cons (mk 3 2) .nil (.cons (mk 4 3) .nil .nil))

example : exF.idxs.Nodup ∧ 0 ∉ exF.idxs ∧ (mk 5 4).idx ∉ exF.idxs ∧ (mk 5 4).idx ≠ 0 ∧
    (exF.takeRoots [4, 1]).1.rootRecs.length = [4, 1].length ∧
    graphOf exF = ⟨[0, 1, 2, 3, 4], [(0, 1), (1, 2), (0, 3), (0, 4)]⟩ ∧
    gCreateRootNode (graphOf exF) 5 [4, 1] =
      some ⟨[0, 1, 2, 3, 4, 5], [(1, 2), (0, 3), (0, 5), (5, 4), (5, 1)]⟩ ∧
    graphOf (.cons (mk 5 4) (exF.takeRoots [4, 1]).1 (exF.takeRoots [4, 1]).2) =
      ⟨[0, 5, 1, 2, 4, 3], [(0, 5), (5, 1), (1, 2), (5, 4), (0, 3)]⟩ ∧
    -- a child that is not a top-level clone, or one listed twice: the store model stops, and so does the graph
    (exF.takeRoots [2]).1.rootRecs.length ≠ [2].length ∧ gCreateRootNode (graphOf exF) 5 [2] = none ∧
    (exF.takeRoots [3, 3]).1.rootRecs.length ≠ [3, 3].length ∧ gCreateRootNode (graphOf exF) 5 [3, 3] = none := by
  decide +kernel

/-- a well-formed store with four clones (three at top level), a fifth put on two of them: clones named 0, 1, 2 (graph indices 1, 2, 3) and clone 3 (index 4) on top of clone 1 -/
private def exS : Store :=
  C07Ex.after [.create 0 [] [0], .create 0 [] [1], .create 0 [] [2], .create 0 [1] [3]] 0

example : WF exS ∧ exS.fresh = 5 ∧
    graphOf exS.forest = ⟨[0, 4, 2, 3, 1], [(0, 4), (4, 2), (0, 3), (0, 1)]⟩ ∧
    [(0 : Int), 3].mapM (fun c => (alSet exS.nodeIdx (exS.numNodes : Int) exS.fresh).lookup c) = some [1, 4] ∧
    (exS.createRootNode C07Ex.dt [0, 3] []).map (fun r => graphOf r.1.forest) =
      some ⟨[0, 5, 4, 2, 1, 3], [(0, 5), (5, 4), (4, 2), (5, 1), (0, 3)]⟩ ∧
    gCreateRootNode (graphOf exS.forest) exS.fresh [1, 4] =
      some ⟨[0, 4, 2, 3, 1, 5], [(4, 2), (0, 3), (0, 5), (5, 1), (5, 4)]⟩ := by
  decide +kernel

end PhyModel.Graph
