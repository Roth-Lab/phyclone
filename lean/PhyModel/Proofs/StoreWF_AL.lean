import PhyModel.Proofs.StoreInv
import Mathlib.Data.List.Perm.Basic
import Mathlib.Data.List.Nodup
/-! Association-list lemmas for the store model (C07): `List.lookup`, `alSet`, `alDel`, `alHas`
versus membership and key lists; for maps whose values are lists (the `_data` map) the concatenation of
all values `vals` against the value at one key `dOf` when a key is set or deleted, several keys are
deleted, or one value gains or loses an element.  Generic in key and value types. -/
namespace PhyModel.Store.AL

variable {κ ν : Type} [BEq κ] [LawfulBEq κ]

/-- key list -/
abbrev keys (m : List (κ × ν)) : List κ := m.map (·.1)

omit [BEq κ] [LawfulBEq κ] in
theorem keys_map_pair {α : Type} (l : List α) (k : α → κ) (v : α → ν) : keys (l.map fun a => (k a, v a)) = l.map k :=
  List.map_map

omit [BEq κ] [LawfulBEq κ] in
theorem nodup_map_pair {α : Type} {l : List α} {k : α → κ} (h : (l.map k).Nodup) (v : α → ν) :
    (l.map fun a => (k a, v a)).Nodup :=
  List.Nodup.of_map Prod.fst (by rwa [List.map_map])

theorem lookup_none_iff {m : List (κ × ν)} {k : κ} : m.lookup k = none ↔ k ∉ keys m := by
  rw [List.lookup_eq_none_iff]
  exact ⟨fun h hk => let ⟨p, hp, e⟩ := List.mem_map.1 hk; bne_iff_ne.1 (h p hp) e.symm,
    fun h p hp => bne_iff_ne.2 fun e => h (List.mem_map.2 ⟨p, hp, e.symm⟩)⟩

theorem lookup_isSome_iff {m : List (κ × ν)} {k : κ} : (m.lookup k).isSome ↔ k ∈ keys m := by
  rw [← not_iff_not, ← lookup_none_iff]; cases m.lookup k <;> simp

theorem mem_of_lookup {m : List (κ × ν)} {k : κ} {v : ν} (h : m.lookup k = some v) : (k, v) ∈ m := by
  obtain ⟨l₁, l₂, rfl, _⟩ := List.lookup_eq_some_iff.1 h
  exact List.mem_append_right _ List.mem_cons_self

omit [BEq κ] [LawfulBEq κ] in
theorem mem_keys_of_mem {m : List (κ × ν)} {k : κ} {v : ν} (h : (k, v) ∈ m) : k ∈ keys m :=
  List.mem_map.2 ⟨(k, v), h, rfl⟩

theorem mem_keys_of_lookup {m : List (κ × ν)} {k : κ} {v : ν} (h : m.lookup k = some v) : k ∈ keys m :=
  mem_keys_of_mem (mem_of_lookup h)

theorem lookup_of_mem {m : List (κ × ν)} (hnd : (keys m).Nodup) {k : κ} {v : ν} (h : (k, v) ∈ m) :
    m.lookup k = some v := by
  cases hl : m.lookup k with
  | none => exact absurd (mem_keys_of_mem h) (lookup_none_iff.1 hl)
  | some v' =>
    exact congrArg (fun p => some p.2) (List.inj_on_of_nodup_map hnd (mem_of_lookup hl) h rfl)

theorem lookup_iff_mem {m : List (κ × ν)} (hnd : (keys m).Nodup) {k : κ} {v : ν} :
    m.lookup k = some v ↔ (k, v) ∈ m := ⟨mem_of_lookup, lookup_of_mem hnd⟩

/-- lookup in an association list built from a key function and a value that depends on the key only -/
theorem lookup_map_key {β : Type} (l : List β) (k : β → κ) (v : κ → ν) (key : κ) :
    (l.map (fun a => (k a, v (k a)))).lookup key = if key ∈ l.map k then some (v key) else none := by
  induction l with
  | nil => simp
  | cons a l ih =>
    by_cases h : key = k a
    · subst h; simp
    · have : (key == k a) = false := beq_false_of_ne h
      simp only [List.map_cons, List.lookup_cons, this, ih, List.mem_cons, h, false_or]

theorem alHas_iff {m : List (κ × ν)} {k : κ} : alHas m k = true ↔ k ∈ keys m := by
  rw [alHas, List.any_eq_true, keys, List.mem_map]
  exact exists_congr fun p => and_congr_right fun _ => beq_iff_eq

theorem alHas_false_iff {m : List (κ × ν)} {k : κ} : alHas m k = false ↔ k ∉ keys m := by
  rw [← alHas_iff]; simp

/-! ### `alSet` -/

theorem alSet_of_not_mem {m : List (κ × ν)} {k : κ} (v : ν) (h : k ∉ keys m) :
    alSet m k v = m ++ [(k, v)] := by
  exact if_neg fun hc => h (alHas_iff.1 hc)

theorem alSet_of_mem {m : List (κ × ν)} {k : κ} (v : ν) (h : k ∈ keys m) :
    alSet m k v = m.map fun e => (e.1, if e.1 == k then v else e.2) := by
  refine (if_pos (alHas_iff.2 h)).trans (List.map_congr_left fun e _ => ?_)
  cases he : e.1 == k
  · rfl
  · exact congrArg (·, v) (beq_iff_eq.1 he).symm

theorem keys_alSet {m : List (κ × ν)} {k : κ} (v : ν) :
    keys (alSet m k v) = if k ∈ keys m then keys m else keys m ++ [k] := by
  by_cases h : k ∈ keys m
  · rw [if_pos h, alSet_of_mem v h]; exact keys_map_pair m _ _
  · rw [if_neg h, alSet_of_not_mem v h]; simp [keys]

theorem mem_keys_alSet {m : List (κ × ν)} {k k' : κ} (v : ν) :
    k' ∈ keys (alSet m k v) ↔ k' = k ∨ k' ∈ keys m := by
  rw [keys_alSet]; split
  · constructor
    · exact Or.inr
    · rintro (rfl | h) <;> assumption
  · rw [List.mem_append, List.mem_singleton, or_comm]

theorem nodup_keys_alSet {m : List (κ × ν)} {k : κ} (v : ν) (h : (keys m).Nodup) :
    (keys (alSet m k v)).Nodup := by
  rw [keys_alSet]; split
  · exact h
  · rename_i hk
    exact List.concat_eq_append ▸ List.Nodup.concat hk h

theorem mem_alSet {m : List (κ × ν)} {k k' : κ} {v v' : ν} :
    (k', v') ∈ alSet m k v ↔ (k' = k ∧ v' = v) ∨ (k' ≠ k ∧ (k', v') ∈ m) := by
  by_cases h : k ∈ keys m
  · rw [alSet_of_mem v h, List.mem_map]
    constructor
    · rintro ⟨e, he, heq⟩
      obtain ⟨rfl, rfl⟩ := Prod.mk.inj heq
      by_cases hek : e.1 = k
      · exact Or.inl ⟨hek, if_pos (beq_iff_eq.2 hek)⟩
      · exact Or.inr ⟨hek, (if_neg fun hc => hek (beq_iff_eq.1 hc)).symm ▸ he⟩
    · rintro (⟨rfl, rfl⟩ | ⟨hne, hm⟩)
      · obtain ⟨e, he, hek⟩ := List.mem_map.1 h
        exact ⟨e, he, Prod.ext hek (if_pos (beq_iff_eq.2 hek))⟩
      · exact ⟨(k', v'), hm, Prod.ext rfl (if_neg fun hc => hne (beq_iff_eq.1 hc))⟩
  · rw [alSet_of_not_mem v h, List.mem_append, List.mem_singleton, Prod.mk.injEq]
    constructor
    · rintro (hm | hm)
      · exact Or.inr ⟨fun hk => h (hk ▸ mem_keys_of_mem hm), hm⟩
      · exact Or.inl hm
    · rintro (hm | ⟨_, hm⟩)
      · exact Or.inr hm
      · exact Or.inl hm

theorem lookup_map_val (g : κ → ν → ν) {m : List (κ × ν)} {k : κ} :
    (m.map fun e => (e.1, g e.1 e.2)).lookup k = (m.lookup k).map (g k) := by
  induction m with
  | nil => rfl
  | cons e m ih =>
    obtain ⟨a, b⟩ := e
    rw [List.map_cons, List.lookup_cons, List.lookup_cons]
    cases h : k == a
    · exact ih
    · rw [beq_iff_eq.1 h]; rfl

theorem lookup_alSet_self {m : List (κ × ν)} {k : κ} {v : ν} : (alSet m k v).lookup k = some v := by
  by_cases h : k ∈ keys m
  · obtain ⟨w, hw⟩ := Option.isSome_iff_exists.1 (lookup_isSome_iff.2 h)
    rw [alSet_of_mem v h, lookup_map_val fun a b => if a == k then v else b, hw, Option.map_some, beq_self_eq_true, if_pos rfl]
  · rw [alSet_of_not_mem v h, List.lookup_append, lookup_none_iff.2 h, Option.none_or, List.lookup_cons_self]

theorem lookup_alSet_ne {m : List (κ × ν)} {k k' : κ} {v : ν} (h : k' ≠ k) :
    (alSet m k v).lookup k' = m.lookup k' := by
  have hk : (k' == k) = false := beq_false_of_ne h
  by_cases hm : k ∈ keys m
  · rw [alSet_of_mem v hm, lookup_map_val fun a b => if a == k then v else b, hk]
    exact Option.map_id'
  · rw [alSet_of_not_mem v hm, List.lookup_append, List.lookup_cons, hk, List.lookup_nil, Option.or_none]

/-! ### `alDel` -/

theorem mem_alDel {m : List (κ × ν)} {k k' : κ} {v' : ν} :
    (k', v') ∈ alDel m k ↔ k' ≠ k ∧ (k', v') ∈ m := by
  simp [alDel, and_comm]

omit [BEq κ] [LawfulBEq κ] in
theorem keys_filter (m : List (κ × ν)) (p : κ → Bool) :
    keys (m.filter (fun e => p e.1)) = (keys m).filter p := by
  simp [keys, List.filter_map, Function.comp_def]

omit [LawfulBEq κ] in
theorem keys_alDel {m : List (κ × ν)} {k : κ} : keys (alDel m k) = (keys m).filter (fun a => !(a == k)) :=
  keys_filter m fun a => !(a == k)

theorem mem_keys_alDel {m : List (κ × ν)} {k k' : κ} : k' ∈ keys (alDel m k) ↔ k' ≠ k ∧ k' ∈ keys m := by
  rw [keys_alDel, List.mem_filter, Bool.not_eq_true', beq_eq_false_iff_ne, and_comm]

theorem nodup_keys_alDel {m : List (κ × ν)} {k : κ} (h : (keys m).Nodup) : (keys (alDel m k)).Nodup := by
  rw [keys_alDel]; exact h.filter _

theorem lookup_filter_key {m : List (κ × ν)} (p : κ → Bool) {k' : κ} :
    (m.filter (fun e => p e.1)).lookup k' = if p k' then m.lookup k' else none := by
  induction m with
  | nil => simp
  | cons e m ih =>
    obtain ⟨a, b⟩ := e
    by_cases hk' : k' = a
    · subst hk'
      cases hp : p k' <;> simp [hp, ih]
    · have : (k' == a) = false := beq_false_of_ne hk'
      cases hp : p a <;> simp [hp, List.lookup_cons, this, ih]

theorem lookup_alDel {m : List (κ × ν)} {k k' : κ} :
    (alDel m k).lookup k' = if k' == k then none else m.lookup k' := by
  unfold alDel
  rw [lookup_filter_key (fun a => !(a == k))]
  by_cases h : k' = k <;> simp [h]

theorem alDel_of_not_mem {m : List (κ × ν)} {k : κ} (h : k ∉ keys m) : alDel m k = m := by
  unfold alDel
  rw [List.filter_eq_self]
  intro e he
  have : e.1 ≠ k := fun hk => h (hk ▸ List.mem_map.2 ⟨e, he, rfl⟩)
  simpa using this

/-! ### maps whose values are lists (the `_data` map) -/

variable {α : Type}

/-- all values concatenated -/
abbrev vals (m : List (κ × List α)) : List α := m.flatMap (·.2)

/-- the value at a key, `[]` when absent (`Store.dataOf`) -/
def dOf (m : List (κ × List α)) (k : κ) : List α := (m.lookup k).getD []

theorem dOf_of_not_mem {m : List (κ × List α)} {k : κ} (h : k ∉ keys m) : dOf m k = [] := by
  simp [dOf, lookup_none_iff.2 h]

theorem dOf_alSet_self {m : List (κ × List α)} {k : κ} {v : List α} : dOf (alSet m k v) k = v := by
  simp [dOf, lookup_alSet_self]

theorem dOf_alSet_ne {m : List (κ × List α)} {k k' : κ} {v : List α} (h : k' ≠ k) :
    dOf (alSet m k v) k' = dOf m k' := by
  simp [dOf, lookup_alSet_ne h]

theorem dOf_alDel_ne {m : List (κ × List α)} {k k' : κ} (h : k' ≠ k) : dOf (alDel m k) k' = dOf m k' := by
  have : (k' == k) = false := beq_false_of_ne h
  simp [dOf, lookup_alDel, this]

theorem mem_of_mem_dOf {m : List (κ × List α)} {k : κ} {d : α} (h : d ∈ dOf m k) : ∃ l, (k, l) ∈ m ∧ d ∈ l := by
  unfold dOf at h
  cases hl : m.lookup k with
  | none => rw [hl] at h; cases h
  | some l => rw [hl] at h; exact ⟨l, mem_of_lookup hl, h⟩

theorem mem_vals_of_mem_dOf {m : List (κ × List α)} {k : κ} {d : α} (h : d ∈ dOf m k) : d ∈ vals m :=
  let ⟨l, hl, hd⟩ := mem_of_mem_dOf h
  List.mem_flatMap.2 ⟨(k, l), hl, hd⟩

theorem mem_vals_iff {m : List (κ × List α)} {d : α} : d ∈ vals m ↔ ∃ e ∈ m, d ∈ e.2 := List.mem_flatMap

theorem alDel_alSet {m : List (κ × List α)} {k : κ} {v : List α} : alDel (alSet m k v) k = alDel m k := by
  by_cases h : k ∈ keys m
  · -- the rewritten entries are the deleted ones
    rw [alSet_of_mem v h, alDel, List.filter_map]
    refine (List.map_congr_left fun e he => ?_).trans (List.map_id _)
    have : (e.1 == k) = false := by simpa using (List.mem_filter.1 he).2
    rw [this]; rfl
  · rw [alSet_of_not_mem v h]; simp [alDel, List.filter_append]

theorem vals_perm_split {m : List (κ × List α)} (hnd : (keys m).Nodup) (k : κ) :
    (vals m).Perm (dOf m k ++ vals (alDel m k)) := by
  induction m with
  | nil => simp [dOf, alDel]
  | cons e m ih =>
    obtain ⟨a, b⟩ := e
    simp only [keys, List.map_cons, List.nodup_cons] at hnd
    by_cases h : a = k
    · subst h
      have h1 : alDel ((a, b) :: m) a = m := by
        have := alDel_of_not_mem (m := m) hnd.1
        unfold alDel at this ⊢
        simp [this]
      rw [h1]; simp [dOf]
    · have h1 : (a == k) = false := beq_false_of_ne h
      have h2 : (k == a) = false := beq_false_of_ne (Ne.symm h)
      have h3 : alDel ((a, b) :: m) k = (a, b) :: alDel m k := by
        unfold alDel; simp [h1]
      have h4 : dOf ((a, b) :: m) k = dOf m k := by simp [dOf, List.lookup_cons, h2]
      rw [h3, h4]
      simp only [vals, List.flatMap_cons]
      exact (List.Perm.append_left b (ih hnd.2)).trans (List.perm_append_comm_assoc _ _ _)

theorem vals_alSet_perm {m : List (κ × List α)} (hnd : (keys m).Nodup) (k : κ) (v : List α) :
    (vals (alSet m k v)).Perm (v ++ vals (alDel m k)) := by
  have := vals_perm_split (nodup_keys_alSet (k := k) v hnd) k
  rwa [dOf_alSet_self, alDel_alSet] at this

theorem dOf_nodup {m : List (κ × List α)} (hnd : (keys m).Nodup) (hv : (vals m).Nodup) (k : κ) :
    (dOf m k).Nodup :=
  (List.nodup_append.1 ((vals_perm_split hnd k).nodup_iff.1 hv)).1

theorem dOf_disjoint {m : List (κ × List α)} (hnd : (keys m).Nodup) (hv : (vals m).Nodup) {k1 k2 : κ}
    (hne : k1 ≠ k2) : List.Disjoint (dOf m k1) (dOf m k2) := by
  have h := (List.nodup_append.1 ((vals_perm_split hnd k1).nodup_iff.1 hv)).2.2
  intro d h1 h2
  rw [← dOf_alDel_ne (k := k1) (Ne.symm hne)] at h2
  exact h d h1 d (mem_vals_of_mem_dOf h2) rfl

theorem flatMap_dOf_nodup {m : List (κ × List α)} (hnd : (keys m).Nodup) (hv : (vals m).Nodup)
    {l : List κ} (hl : l.Nodup) : (l.flatMap (dOf m)).Nodup := by
  rw [List.nodup_flatMap]
  refine ⟨fun k _ => dOf_nodup hnd hv k, ?_⟩
  exact List.Pairwise.imp (fun hne => dOf_disjoint hnd hv hne) hl

theorem vals_eq_flatMap_keys {m : List (κ × List α)} (hnd : (keys m).Nodup) :
    vals m = (keys m).flatMap (dOf m) := by
  rw [keys, List.flatMap_map]
  exact List.flatMap_congr fun e he => (congrArg (·.getD []) (lookup_of_mem hnd he)).symm

/-- a duplicate-free key list that covers the keys of `m` lists the same values -/
theorem flatMap_dOf_perm_vals {m : List (κ × List α)} (hnd : (keys m).Nodup) {l : List κ} (hl : l.Nodup)
    (hsub : ∀ k ∈ keys m, k ∈ l) : (l.flatMap (dOf m)).Perm (vals m) := by
  classical
  rw [vals_eq_flatMap_keys hnd]
  obtain ⟨l', hp, hs⟩ := List.subperm_of_subset hnd hsub
  obtain ⟨r, hr⟩ := hs.exists_perm_append
  have hr' : l.Perm (keys m ++ r) := hr.trans (List.Perm.append_right r hp)
  have hdis : ∀ k ∈ r, k ∉ keys m := by
    have := (List.nodup_append.1 (hr'.nodup_iff.1 hl)).2.2
    intro k hk hk'; exact this k hk' k hk rfl
  have h0 : r.flatMap (dOf m) = [] := by
    rw [List.flatMap_eq_nil_iff]; intro k hk; exact dOf_of_not_mem (hdis k hk)
  have := List.Perm.flatMap_right (dOf m) hr'
  rw [List.flatMap_append, h0, List.append_nil] at this
  exact this

/-! ### a map built from a list of keys -/

theorem dOf_map_key {β : Type} (l : List β) (k : β → κ) (v : κ → List α) (key : κ) :
    dOf (l.map (fun a => (k a, v (k a)))) key = if key ∈ l.map k then v key else [] := by
  unfold dOf; rw [lookup_map_key]; split <;> rfl

omit [BEq κ] [LawfulBEq κ] in
theorem vals_map_key {β : Type} (l : List β) (k : β → κ) (v : κ → List α) :
    vals (l.map (fun a => (k a, v (k a)))) = (l.map k).flatMap v := by
  rw [vals, List.flatMap_map, List.flatMap_map]

/-! ### deleting several keys -/

theorem dOf_filter (m : List (κ × List α)) (p : κ → Bool) {k : κ} (h : p k = true) :
    dOf (m.filter (fun e => p e.1)) k = dOf m k := by
  simp [dOf, lookup_filter_key p, h]

/-- deleting a duplicate-free list of keys removes exactly their values -/
theorem vals_perm_filter {m : List (κ × List α)} (hnd : (keys m).Nodup) {l : List κ} (hl : l.Nodup) :
    (vals m).Perm (l.flatMap (dOf m) ++ vals (m.filter (fun e => !l.contains e.1))) := by
  induction l generalizing m with
  | nil => simp
  | cons a l ih =>
    obtain ⟨hal, hl⟩ := List.nodup_cons.1 hl
    have h1 := vals_perm_split hnd a
    have h2 := ih (nodup_keys_alDel (k := a) hnd) hl
    have h3 : l.flatMap (dOf (alDel m a)) = l.flatMap (dOf m) :=
      List.flatMap_congr fun k hk => dOf_alDel_ne (fun h => hal (h ▸ hk))
    have h4 : (alDel m a).filter (fun e => !l.contains e.1) = m.filter (fun e => !(a :: l).contains e.1) := by
      simp only [alDel, List.filter_filter, List.contains_cons, Bool.not_or, Bool.and_comm]
    rw [h3, h4] at h2
    simp only [List.flatMap_cons, List.append_assoc]
    exact h1.trans (List.Perm.append_left _ h2)

/-! ### one value gains or loses an element -/

section
variable [BEq α] [LawfulBEq α]

theorem perm_add_dp {data : List (κ × List α)} (hk : (keys data).Nodup) (dp : α) (node : κ) :
    ((dOf data node ++ [dp]) ++ vals (alDel data node)).Perm (dp :: vals data) := by
  refine List.Perm.trans ?_ (List.Perm.cons dp (vals_perm_split hk node).symm)
  rw [List.append_assoc]
  exact (List.perm_append_comm_assoc _ _ _).trans (by simp)

theorem nodup_add_dp {data : List (κ × List α)} (hk : (keys data).Nodup) (hv : (vals data).Nodup)
    {dp : α} (hdp : dp ∉ vals data) (node : κ) :
    ((dOf data node ++ [dp]) ++ vals (alDel data node)).Nodup :=
  (perm_add_dp hk dp node).nodup_iff.2 (List.nodup_cons.2 ⟨hdp, hv⟩)

theorem nodup_erase_dp {data : List (κ × List α)} (hk : (keys data).Nodup) (hv : (vals data).Nodup)
    (dp : α) (node : κ) : (((dOf data node).erase dp) ++ vals (alDel data node)).Nodup :=
  ((vals_perm_split hk node).nodup_iff.1 hv).sublist ((List.erase_sublist).append_right _)

theorem perm_of_erase_entry {data : List (κ × List α)} (hk : (keys data).Nodup) {dp : α} {node : κ}
    (hdp : dp ∈ dOf data node) :
    (vals data).Perm (dp :: vals (alSet data node ((dOf data node).erase dp))) := by
  refine (vals_perm_split hk node).trans ?_
  refine List.Perm.trans ?_ (List.Perm.cons dp (vals_alSet_perm hk node _).symm)
  exact (List.perm_cons_erase hdp).append_right _

end

end PhyModel.Store.AL
