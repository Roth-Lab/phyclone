import Mathlib.Probability.Distributions.Gamma
import Mathlib.Probability.Distributions.Beta
/-! Real analysis for C13 (Escobar–West update), with real `k`, `n`: the joint density, the mixture
weight and the two-component Gamma mixture density; the joint as a multiple of the Beta density in
`η` and of the mixture density in `x`.  Uses Mathlib's `gammaPDFReal`, `betaPDFReal`, `beta`. -/
open Real ProbabilityTheory

namespace PhyModel.ConcDensity

/-- the Escobar–West joint with real `k`, `n` (`Props.C13.joint` is this at `k = K`, `n = n`) -/
noncomputable def jointR (a b k n x η : ℝ) : ℝ :=
  gammaPDFReal a b x * x ^ (k - 1) * (x + n) * η ^ x * (1 - η) ^ (n - 1)

/-- the Escobar–West mixture weight (`Props.C13.weight`) -/
noncomputable def wR (a b k n η : ℝ) : ℝ :=
  ((a + k - 1) / (n * (b - log η))) / (1 + (a + k - 1) / (n * (b - log η)))

/-- the mixture density `w Gamma(a+k, b - log η) + (1-w) Gamma(a+k-1, b - log η)` -/
noncomputable def mixR (a b k n η x : ℝ) : ℝ :=
  wR a b k n η * gammaPDFReal (a + k) (b - log η) x
    + (1 - wR a b k n η) * gammaPDFReal (a + k - 1) (b - log η) x

/-- the constant of the mixture identity -/
noncomputable def mixConst (s r n : ℝ) : ℝ := r ^ (s + 1) / (Gamma s * (s + n * r))

lemma mixConst_pos {s r n : ℝ} (hs : 0 < s) (hr : 0 < r) (hn : 0 < n) : 0 < mixConst s r n :=
  div_pos (rpow_pos_of_pos hr _) (mul_pos (Gamma_pos_of_pos hs) (add_pos hs (mul_pos hn hr)))

lemma rate_pos {b η : ℝ} (hb : 0 < b) (h0 : 0 < η) (h1 : η ≤ 1) : 0 < b - log η :=
  sub_pos.mpr ((log_nonpos h0.le h1).trans_lt hb)

lemma shape_pos {a k : ℝ} (ha : 0 < a) (hk : 1 ≤ k) : 0 < a + k - 1 :=
  sub_pos.mpr (lt_add_of_pos_of_le ha hk)

lemma wR_mem {a b k n η : ℝ} (hs : 0 < a + k - 1) (hr : 0 < b - log η) (hn : 0 < n) :
    0 ≤ wR a b k n η ∧ wR a b k n η ≤ 1 :=
  have ho := (div_pos hs (mul_pos hn hr)).le
  have h1 := add_pos_of_pos_of_nonneg one_pos ho
  ⟨div_nonneg ho h1.le, (div_le_one h1).mpr (le_add_of_nonneg_left zero_le_one)⟩

lemma jointR_pos {a b k n x η : ℝ} (ha : 0 < a) (hb : 0 < b) (hn : 0 < n) (hx : 0 < x)
    (h0 : 0 < η) (h1 : η < 1) : 0 < jointR a b k n x η :=
  mul_pos (mul_pos (mul_pos (mul_pos (gammaPDFReal_pos ha hb hx) (rpow_pos_of_pos hx _))
    (add_pos hx hn)) (rpow_pos_of_pos h0 _)) (rpow_pos_of_pos (sub_pos.mpr h1) _)

lemma jointR_le {a b k n x η : ℝ} (ha : 0 < a) (hb : 0 < b) (hn : 1 ≤ n) (hx : 0 < x)
    (h0 : 0 < η) (h1 : η < 1) :
    jointR a b k n x η ≤ gammaPDFReal a b x * x ^ (k - 1) * (x + n) :=
  have hP := (mul_pos (mul_pos (gammaPDFReal_pos ha hb hx) (rpow_pos_of_pos hx (k - 1)))
    (add_pos hx (one_pos.trans_le hn))).le
  (mul_le_of_le_one_right (mul_nonneg hP (rpow_nonneg h0.le x))
    (rpow_le_one (sub_nonneg.mpr h1.le) (sub_le_self 1 h0.le) (sub_nonneg.mpr hn))).trans
    (mul_le_of_le_one_right hP (rpow_le_one h0.le h1.le hx.le))

lemma mixR_nonneg {a b k n η : ℝ} (hs : 0 < a + k - 1) (hr : 0 < b - log η) (hn : 0 < n)
    (x : ℝ) : 0 ≤ mixR a b k n η x :=
  have hw := wR_mem hs hr hn
  add_nonneg (mul_nonneg hw.1 (gammaPDFReal_nonneg (hs.trans (sub_one_lt _)) hr x))
    (mul_nonneg (sub_nonneg.mpr hw.2) (gammaPDFReal_nonneg hs hr x))

/-- With weight `w = o/(1+o)`, `o = (t-1)/(n r)`, the mixture density
`w Gamma(t, r) + (1-w) Gamma(t-1, r)` is `C · x^(t-2) (x+n) e^{-x r}` with `C` free of `x`. -/
lemma mix_identity {t r n x : ℝ} (ht : 0 < t - 1) (hr : 0 < r) (hn : 0 < n) (hx : 0 < x) :
    (t - 1) / (n * r) / (1 + (t - 1) / (n * r)) * gammaPDFReal t r x
        + (1 - (t - 1) / (n * r) / (1 + (t - 1) / (n * r))) * gammaPDFReal (t - 1) r x
      = mixConst (t - 1) r n * x ^ (t - 2) * (x + n) * exp (-(x * r)) := by
  -- with `t = s + 1` the recurrences for `Γ(s+1)`, `r^(s+1)`, `x^(s-1)` apply as they stand
  obtain ⟨s, rfl⟩ : ∃ s, t = s + 1 := ⟨t - 1, (sub_add_cancel t 1).symm⟩
  rw [add_sub_cancel_right] at ht ⊢
  have hG := (Gamma_pos_of_pos ht).ne'
  have h1 : n * r ≠ 0 := (mul_pos hn hr).ne'
  have h2 : s + n * r ≠ 0 := (add_pos ht (mul_pos hn hr)).ne'
  have hw : s / (n * r) / (1 + s / (n * r)) = s / (s + n * r) := by
    rw [div_div, mul_add, mul_one, mul_div_cancel₀ _ h1, add_comm]
  rw [hw, one_sub_div h2, add_sub_cancel_left,
    show s + 1 - 2 = s - 1 by ring, mixConst, gammaPDFReal, gammaPDFReal, if_pos hx.le,
    if_pos hx.le, Gamma_add_one ht.ne', rpow_add_one hr.ne', add_sub_cancel_right,
    rpow_sub_one hx.ne', mul_comm x r]
  field_simp

/-- in `η` the joint is a multiple of the Beta(α+1, n) density (on the open unit interval) -/
lemma joint_eta {P α n η : ℝ} (hα : 0 < α) (hn : 0 < n) (h0 : 0 < η) (h1 : η < 1) :
    P * η ^ α * (1 - η) ^ (n - 1) = (P * beta (α + 1) n) * betaPDFReal (α + 1) n η := by
  rw [betaPDFReal, if_pos ⟨h0, h1⟩, add_sub_cancel_right, mul_assoc (1 / _), ← mul_assoc (P * _),
    mul_assoc P (beta _ _), mul_one_div_cancel (beta_pos (by linarith) hn).ne', mul_one, mul_assoc]

/-- the constant of `joint_eta` for the Escobar–West joint (`g` the prior density at `x`) is `Γ(n)`
times the posterior kernel `g x^k Γ(x)/Γ(x+n)`: `B(x+1, n) (x+n) = Γ(n) x Γ(x) / Γ(x+n)` -/
lemma eta_const {g k n x : ℝ} (hx : 0 < x) (hn : 0 < n) :
    g * x ^ (k - 1) * (x + n) * beta (x + 1) n
      = Gamma n * (g * (x ^ k * Gamma x / Gamma (x + n))) := by
  have hxk : x ^ k = x ^ (k - 1) * x := by rw [← rpow_add_one hx.ne', sub_add_cancel]
  have hxn : x + n ≠ 0 := (add_pos hx hn).ne'
  have hG := (Gamma_pos_of_pos (add_pos hx hn)).ne'
  rw [beta, add_right_comm, Gamma_add_one hxn, Gamma_add_one hx.ne', hxk, mul_div_assoc',
    mul_div_assoc', mul_div_assoc', div_eq_div_iff (mul_ne_zero hxn hG) hG]
  ring

/-- also at `η = 1` -/
lemma prior_mul_eta {a b k n η x : ℝ} (hs : 0 < a + k - 1) (hr : 0 < b - log η) (hn : 0 < n)
    (h0 : 0 < η) (hx : 0 < x) :
    gammaPDFReal a b x * x ^ (k - 1) * (x + n) * η ^ x
      = b ^ a / Gamma a / mixConst (a + k - 1) (b - log η) n * mixR a b k n η x := by
  rw [mixR, wR, mix_identity hs hr hn hx, gammaPDFReal, if_pos hx.le, rpow_def_of_pos h0 x,
    show a + k - 2 = (a - 1) + (k - 1) by ring, rpow_add hx,
    show -(x * (b - log η)) = -(b * x) + log η * x by ring, exp_add]
  -- the constant `C` of the mixture identity cancels
  have hC := (mixConst_pos hs hr hn).ne'
  generalize mixConst (a + k - 1) (b - log η) n = C at hC ⊢
  rw [mul_assoc C, mul_assoc C, ← mul_assoc (_ / C), div_mul_cancel₀ _ hC]
  ring

lemma joint_alpha {a b k n η x : ℝ} (ha : 0 < a) (hb : 0 < b) (hk : 1 ≤ k) (hn : 0 < n)
    (h0 : 0 < η) (h1 : η < 1) (hx : 0 < x) :
    jointR a b k n x η
      = (b ^ a / Gamma a * (1 - η) ^ (n - 1) / mixConst (a + k - 1) (b - log η) n)
        * mixR a b k n η x := by
  rw [jointR, prior_mul_eta (shape_pos ha hk) (rate_pos hb h0 h1.le) hn h0 hx]
  ring

end PhyModel.ConcDensity
