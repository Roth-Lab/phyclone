import PhyModel.Proofs.GraphClosure
/-! `add_subtree` on the graph model (`Model/Graph.lean`, `gAddSubtree`): `compose` with an edge from the
parent to the copy of the subtree's dummy root, then `remove_node_retain_edges` of that copy.  When both
graphs are forests the result has a closed form (`gAddSubtree_spec`): the nodes of `g` followed by the
copies of `sub`'s clones, the edges of `g`, the copies of `sub`'s edges below a clone, and one edge from
the parent to the copy of every top-level node of `sub`.  The call succeeds exactly under the guards
(`gAddSubtree_isSome`) and the result is a forest again (`forest_addSubtree`). -/
namespace PhyModel.Graph

theorem gAddSubtree_eq (g sub : DG) (p : Nat) (ρ : Nat → Nat) :
    gAddSubtree g sub p ρ =
      if g.live p then (g.compose sub [(p, 0)] ρ).map (·.removeNodeRetainEdges (ρ 0)) else none := by
  unfold gAddSubtree
  cases hl : g.live p
  · rfl
  · cases hc : g.compose sub [(p, 0)] ρ <;> simp

/-! ### `remove_node_retain_edges` of the copy of the dummy root -/

theorem filter_map_of {α β} {f : α → β} {P : β → Bool} {Q : α → Bool} {l : List α}
    (h : ∀ a ∈ l, P (f a) = Q a) : (l.map f).filter P = (l.filter Q).map f := by
  rw [List.filter_map]
  exact congrArg _ (List.filter_congr h)

theorem removeNodesFrom_singleton (g : DG) (x : Nat) : g.removeNodesFrom [x] =
    { nodes := g.nodes.filter (· != x), edges := g.edges.filter fun e => e.1 != x && e.2 != x } := by
  simp only [DG.removeNodesFrom, List.contains_cons, List.contains_nil, Bool.or_false]
  rfl

/-- the edges `x → c` become `p → c` -/
theorem removeNodeRetainEdges_last {N : List Nat} {A B : List (Nat × Nat)} {p x : Nat}
    (hA : ∀ e ∈ A, (e.1 == x) = false ∧ (e.2 == x) = false) (hB : ∀ e ∈ B, (e.2 == x) = false)
    (hp : (p == x) = false) :
    DG.removeNodeRetainEdges ⟨N, A ++ B ++ [(p, x)]⟩ x =
      ⟨N.filter (· != x), A ++ B.filter (·.1 != x) ++ (B.filter (·.1 == x)).map fun e => (p, e.2)⟩ := by
  have a1 : A.filter (·.2 == x) = [] := List.filter_eq_nil_iff.2 fun e he => Bool.not_eq_true _ ▸ (hA e he).2
  have a2 : A.filter (·.1 == x) = [] := List.filter_eq_nil_iff.2 fun e he => Bool.not_eq_true _ ▸ (hA e he).1
  have b1 : B.filter (·.2 == x) = [] := List.filter_eq_nil_iff.2 fun e he => Bool.not_eq_true _ ▸ hB e he
  have a3 : A.filter (fun e => e.1 != x && e.2 != x) = A :=
    List.filter_eq_self.2 fun e he => by rw [bne, bne, (hA e he).1, (hA e he).2]; rfl
  have b3 : B.filter (fun e => e.1 != x && e.2 != x) = B.filter (·.1 != x) :=
    List.filter_congr fun e he => by rw [bne, bne, hB e he, Bool.not_false, Bool.and_true]
  have c3 : ((B.filter (·.1 == x)).map fun e => (p, e.2)).filter (fun e => e.1 != x && e.2 != x) =
      (B.filter (·.1 == x)).map fun e => (p, e.2) :=
    List.filter_eq_self.2 fun e he => by
      obtain ⟨e', he', rfl⟩ := List.mem_map.1 he
      show (p != x && e'.2 != x) = true
      rw [bne, bne, hp, hB e' (List.mem_of_mem_filter he')]; rfl
  simp only [DG.removeNodeRetainEdges, DG.predecessors, DG.successors, removeNodesFrom_singleton, List.filter_append,
    a1, a2, b1, a3, b3, List.filter_cons, List.filter_nil, hp, beq_self_eq_true, bne_self_eq_false, Bool.and_false,
    Bool.false_eq_true, if_true, if_false, List.nil_append, List.append_nil, List.map_cons, List.map_nil,
    List.flatMap_cons, List.flatMap_nil, List.map_map, Function.comp_def, c3]

section rnre
variable {g sub : DG} {p : Nat} {ρ : Nat → Nat}

/-- the graph after `compose` with the edge `p → ρ 0`, then `remove_node_retain_edges (ρ 0)`: the copy
of the dummy root has the single predecessor `p` and the copies of `sub`'s top-level nodes as successors -/
theorem rnre_compose (hinj : ∀ a ∈ sub.nodes, ∀ b ∈ sub.nodes, ρ a = ρ b → a = b) (h0 : 0 ∈ sub.nodes)
    (hp : p ∈ g.nodes) (hfresh : ∀ v ∈ sub.nodes, ρ v ∉ g.nodes)
    (hg : ∀ e ∈ g.edges, e.1 ∈ g.nodes ∧ e.2 ∈ g.nodes)
    (hs : ∀ e ∈ sub.edges, e.1 ∈ sub.nodes ∧ e.2 ∈ sub.nodes ∧ e.2 ≠ 0) :
    DG.removeNodeRetainEdges
        { nodes := g.nodes ++ sub.nodes.map ρ,
          edges := g.edges ++ sub.edges.map (fun e => (ρ e.1, ρ e.2)) ++ [(p, ρ 0)] } (ρ 0) =
      { nodes := g.nodes ++ (sub.nodes.filter (· != 0)).map ρ,
        edges := g.edges ++ (sub.edges.filter (·.1 != 0)).map (fun e => (ρ e.1, ρ e.2))
                   ++ (sub.edges.filter (·.1 == 0)).map (fun e => (p, ρ e.2)) } := by
  have hgx : ∀ v ∈ g.nodes, (v == ρ 0) = false := fun v hv => beq_false_of_ne fun h => hfresh 0 h0 (h ▸ hv)
  have hsx : ∀ a ∈ sub.nodes, (ρ a == ρ 0) = (a == 0) := fun a ha =>
    Bool.eq_iff_iff.2 (beq_iff_eq.trans (Iff.trans ⟨hinj a ha 0 h0, fun h => h ▸ rfl⟩ beq_iff_eq.symm))
  rw [removeNodeRetainEdges_last (fun e he => ⟨hgx _ (hg e he).1, hgx _ (hg e he).2⟩)
    (List.forall_mem_map.2 fun e he => (hsx _ (hs e he).2.1).trans (beq_false_of_ne (hs e he).2.2)) (hgx p hp),
    List.filter_append, List.filter_eq_self (p := (· != ρ 0)) |>.2 fun v hv => congrArg (!·) (hgx v hv),
    filter_map_of (P := (· != ρ 0)) (Q := (· != 0)) fun a ha => congrArg (!·) (hsx a ha),
    filter_map_of (P := fun e : Nat × Nat => e.1 != ρ 0) (Q := (·.1 != 0)) fun e he =>
      congrArg (!·) (hsx _ (hs e he).1),
    filter_map_of (P := fun e : Nat × Nat => e.1 == ρ 0) (Q := (·.1 == 0)) fun e he => hsx _ (hs e he).1,
    List.map_map]
  rfl

end rnre

/-! ### the closed form of `add_subtree` -/

theorem gAddSubtree_spec {g sub g' : DG} {p : Nat} {ρ : Nat → Nat} (hf : IsForest g) (hs : IsForest sub)
    (h : gAddSubtree g sub p ρ = some g') :
    p ∈ g.nodes ∧ (sub.nodes.map ρ).Nodup ∧ (∀ v ∈ sub.nodes, ρ v ∉ g.nodes) ∧
    g'.nodes = g.nodes ++ (sub.nodes.filter (· != 0)).map ρ ∧
    g'.edges = g.edges ++ (sub.edges.filter (·.1 != 0)).map (fun e => (ρ e.1, ρ e.2))
                 ++ (sub.edges.filter (·.1 == 0)).map (fun e => (p, ρ e.2)) := by
  rw [gAddSubtree_eq] at h
  split at h
  · obtain ⟨g1, hc, rfl⟩ := Option.map_eq_some_iff.1 h
    obtain ⟨hfresh, hn, hp, h0, rfl⟩ := compose_single_eq_some.1 hc
    have hinj := List.inj_on_of_nodup_map hn
    rw [rnre_compose (fun a ha b hb => hinj ha hb) h0 hp hfresh hf.edges_live
      fun e he => ⟨(hs.edges_live e he).1, (hs.edges_live e he).2, hs.target_ne_root (p := e.1) he⟩]
    exact ⟨hp, hn, hfresh, rfl, rfl⟩
  · cases h

theorem gAddSubtree_isSome {g sub : DG} {p : Nat} {ρ : Nat → Nat} (hp : p ∈ g.nodes) (h0 : 0 ∈ sub.nodes)
    (hn : (sub.nodes.map ρ).Nodup) (hfresh : ∀ v ∈ sub.nodes, ρ v ∉ g.nodes) :
    (gAddSubtree g sub p ρ).isSome = true := by
  rw [gAddSubtree_eq, if_pos (live_iff.2 hp), compose_single_eq_some.2 ⟨hfresh, hn, hp, h0, rfl⟩]
  rfl

/-! ### the result is a forest -/

theorem forest_addSubtree {g sub g' : DG} {p : Nat} {ρ : Nat → Nat} (hf : IsForest g) (hs : IsForest sub)
    (h : gAddSubtree g sub p ρ = some g') : IsForest g' := by
  obtain ⟨hp, hn, hfresh, hnodes, hedges⟩ := gAddSubtree_spec hf hs h
  have hgsub : ∀ e ∈ g.edges, e ∈ g'.edges := fun e he => by
    rw [hedges]; exact List.mem_append_left _ (List.mem_append_left _ he)
  have hclone : ∀ {x}, x ∈ sub.nodes → x ≠ 0 → ρ x ∈ g'.nodes := fun {x} hx hx0 => by
    rw [hnodes]
    exact List.mem_append_right _ (List.mem_map_of_mem (List.mem_filter.2 ⟨hx, bne_iff_ne.2 hx0⟩))
  have he0 : ∀ {b}, (0, b) ∈ sub.edges → (p, ρ b) ∈ g'.edges := fun {b} hb => by
    rw [hedges]
    exact List.mem_append_right _ (List.mem_map.2 ⟨(0, b), List.mem_filter.2 ⟨hb, beq_self_eq_true 0⟩, rfl⟩)
  have he1 : ∀ {a b}, (a, b) ∈ sub.edges → a ≠ 0 → (ρ a, ρ b) ∈ g'.edges := fun {a b} hab ha => by
    rw [hedges]
    exact List.mem_append_left _ (List.mem_append_right _
      (List.mem_map.2 ⟨(a, b), List.mem_filter.2 ⟨hab, bne_iff_ne.2 ha⟩, rfl⟩))
  refine IsForest.of_targets_perm ?_ ?_ ?_ ?_ ?_
  · rw [hnodes, List.nodup_append]
    refine ⟨hf.nodes_nodup, hn.sublist (List.filter_sublist.map ρ), ?_⟩
    rintro a ha b hb rfl
    obtain ⟨x, hx, rfl⟩ := List.mem_map.1 hb
    exact hfresh x (List.mem_of_mem_filter hx) ha
  · rw [hnodes]; exact List.mem_append_left _ hf.root_live
  · intro e he
    rw [hedges] at he
    rcases List.mem_append.1 he with he | he
    · rcases List.mem_append.1 he with he | he
      · rw [hnodes]; exact List.mem_append_left _ (hf.edges_live e he).1
      · obtain ⟨e', he', rfl⟩ := List.mem_map.1 he
        have := List.mem_filter.1 he'
        exact hclone (hs.edges_live e' this.1).1 (bne_iff_ne.1 this.2)
    · obtain ⟨e', _, rfl⟩ := List.mem_map.1 he
      rw [hnodes]; exact List.mem_append_left _ hp
  · -- in-degrees: the targets are those of `g` and the copies of those of `sub`
    have hsplit : (sub.edges.filter (·.1 != 0) ++ sub.edges.filter (·.1 == 0)).Perm sub.edges := by
      have : sub.edges.filter (·.1 == 0) = sub.edges.filter (fun e => !(e.1 != 0)) :=
        List.filter_congr fun e _ => (Bool.not_not (e.1 == 0)).symm
      rw [this]
      exact List.filter_append_perm _ _
    have ht : g'.targets = g.targets ++
        (sub.edges.filter (·.1 != 0) ++ sub.edges.filter (·.1 == 0)).map (fun e => ρ e.2) := by
      simp only [DG.targets, hedges, List.map_append, List.map_map, List.append_assoc]
      rfl
    rw [ht, hnodes, List.erase_append_left _ hf.root_live, ← hs.nodes_nodup.erase_eq_filter]
    refine hf.targets_perm.append ((hsplit.map fun e => ρ e.2).trans ?_)
    have := hs.targets_perm.map ρ
    rwa [DG.targets, List.map_map] at this
  · have hroot : Reach g' 0 p := (hf.reach p hp).mono hgsub
    have key : ∀ a x, Reach sub a x → a = 0 → x ≠ 0 → Reach g' p (ρ x) := by
      intro a x hr
      induction hr with
      | refl => intro h1 h2; exact absurd h1 h2
      | @step b c _ hbc ih =>
        intro ha _
        by_cases hb : b = 0
        · subst hb; exact Reach.single (he0 hbc)
        · exact .step (ih ha hb) (he1 hbc hb)
    intro v hv
    rw [hnodes] at hv
    rcases List.mem_append.1 hv with hv | hv
    · exact (hf.reach v hv).mono hgsub
    · obtain ⟨x, hx, rfl⟩ := List.mem_map.1 hv
      have hx' := List.mem_filter.1 hx
      have hx0 : x ≠ 0 := bne_iff_ne.1 hx'.2
      exact hroot.trans (key 0 x (hs.reach x hx'.1) rfl hx0)

/-! ### non-vacuity -/

private def g4 : DG := { nodes := [0, 1, 2, 3, 4], edges := [(2, 1), (0, 4), (4, 3), (4, 2)] }
private def g2 : DG := { nodes := [0, 1, 2], edges := [(0, 2), (2, 1)] }

example : IsForest g4 ∧ IsForest g2 ∧
    gAddSubtree g4 g2 3 (fun i => i + 10) =
      some { nodes := [0, 1, 2, 3, 4, 11, 12], edges := [(2, 1), (0, 4), (4, 3), (4, 2), (12, 11), (3, 12)] } := by
  decide +kernel

end PhyModel.Graph
