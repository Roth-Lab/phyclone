import PhyModel.Proofs.DensityPos
import PhyModel.Proofs.PropSumOne
import PhyModel.Proofs.PropWeights
/-! The hypothesis under which no log-weight is `-inf` (C19 `weights_positive`): every data point a
tree mentions has positive likelihood values and an outlier prior in `[0,1)` (`Good`).  Then, for
`α > 0`, both forms of the FS-CRP joint density are positive, and so are the entries of the proposal
tables and the incremental weights, given that every tree obtained by placing the data point is
`Good` (see `PlacementIdx` for that). -/
namespace PhyModel.C19P
open PhyModel.Density

theorem foldl_add_nonneg (v : List ℚ) : ∀ a : ℚ, 0 ≤ a → (∀ x ∈ v, 0 < x) → 0 ≤ v.foldl (· + ·) a := by
  induction v with
  | nil => intro a ha _; exact ha
  | cons b l ih =>
    intro a ha hp
    exact ih (a + b) (add_nonneg ha (hp b List.mem_cons_self).le) fun x hx => hp x (List.mem_cons_of_mem _ hx)

/-- the data point `j` has positive likelihood on the whole grid in every sample and an outlier
prior in `[0,1)` -/
def GoodIdx (dt : Data) (j : ℕ) : Prop :=
  (∀ s, s < dt.S → ∀ k, k < dt.G → 0 < getQ (dt.L j s) k) ∧ 0 ≤ dt.opOf j ∧ dt.opOf j < 1

/-- all data points mentioned by the tree are good -/
def Good (dt : Data) (f : DF) (out : List ℕ) : Prop := ∀ j, j ∈ f.all ++ out → GoodIdx dt j

namespace Density

/-- `log_p` is finite -/
theorem pMarg_pos (dt : Data) (hG : 0 < dt.G) (α : ℚ) (hα : 0 < α) (f : DF) (out : List ℕ)
    (h : Good dt f out) : 0 < pMarg dt α f out :=
  pMarg_pos' dt hα hG f out (fun i hi => (h i (List.mem_append_left _ hi)).1)
    (fun i hi => (h i (List.mem_append_right _ hi)).1) (fun i hi => (h i (List.mem_append_left _ hi)).2.2)
    (fun i hi => (h i (List.mem_append_right _ hi)).2.1)

/-- `log_p_one` is finite -/
theorem pOne_pos (dt : Data) (hG : 0 < dt.G) (α : ℚ) (hα : 0 < α) (f : DF) (out : List ℕ)
    (h : Good dt f out) : 0 < pOne dt α f out :=
  pOne_pos' dt hα hG f out (fun i hi => (h i (List.mem_append_left _ hi)).1)
    (fun i hi => (h i (List.mem_append_right _ hi)).1) (fun i hi => (h i (List.mem_append_left _ hi)).2.2)
    (fun i hi => (h i (List.mem_append_right _ hi)).2.1)

end Density

end PhyModel.C19P

namespace PhyModel
open C19P

namespace Proposal

/-- every entry of the table comes from a placement, with a positive probability -/
theorem table_pos (dt : Data) (hG : 0 < dt.G) (c : Cfg) (hα : 0 < c.α) (hop0 : 0 ≤ c.op) (hop1 : c.op < 1)
    (first : Bool) (p : T) (i : ℕ) (hall : ∀ kt ∈ placements p i, Good dt kt.2.f kt.2.out) :
    ∀ tq ∈ table dt c first p i, 0 < tq.2 ∧ ∃ kt ∈ placements p i, kt.2 = tq.1 := by
  intro tq h
  obtain ⟨hq, hc⟩ := table_entry_pos dt c first p i hop0 hop1
    (fun _ kt hkt => Density.pMarg_pos dt hG c.α hα _ _ (hall kt hkt)) tq h
  exact ⟨hq, mem_cands c p i _ hc⟩

/-- `create_particle` + `_get_log_w`: the incremental weight is positive (finite log-weight) -/
theorem incrWeight_pos (dt : Data) (hG : 0 < dt.G) (c : Cfg) (hα : 0 < c.α) (first last : Bool) (p t : T) (q : ℚ)
    (hq : 0 < q) (ht : Good dt t.f t.out) (hp : first = false → Good dt p.f p.out) :
    0 < incrWeight dt c first last p t q := by
  have hMt : 0 < pMargT dt c t := Density.pMarg_pos dt hG c.α hα _ _ ht
  have hOt : 0 < pOneT dt c t := Density.pOne_pos dt hG c.α hα _ _ ht
  have hnum : 0 < pMargT dt c t * pdfOf c t := qmul_pos hMt (pdfOf_pos c t)
  have hden : 0 < (if first = true then q else pMargT dt c p * pdfOf c p * q) := by
    split
    · exact hq
    · rename_i hf
      have : first = false := by simpa using hf
      exact qmul_pos (qmul_pos (Density.pMarg_pos dt hG c.α hα _ _ (hp this)) (pdfOf_pos c p)) hq
  unfold incrWeight
  simp only
  split
  · exact qmul_pos (qdiv_pos (qdiv_pos hnum hden) hMt) hOt
  · exact qdiv_pos hnum hden

end Proposal
end PhyModel
