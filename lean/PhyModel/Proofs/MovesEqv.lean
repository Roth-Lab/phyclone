import PhyModel.Proofs.CanonEqv
import PhyModel.Proofs.MovesDist
import PhyModel.Proofs.PropCanon
/-! The tree constructor `T.mk'` and the move operations (`removeDp`, `addDpAt`, `removeSub`,
`attachUnder`) respect forest equivalence. -/
namespace PhyModel
open Orders.Forest Moves

namespace Canon

attribute [simp] roots_ofRoots ofRoots_roots

theorem mk'_congr {f g : DF} (h : Eqv f g) (w : WF f) {o o' : List Nat} (ho : o.Perm o') :
    T.mk' f o = T.mk' g o' := by
  unfold T.mk'
  rw [canon_congr h w, sortNat_perm_eq ho]

theorem removeDp_eqv (i : Nat) {f g : DF} (h : Eqv f g) : Eqv (removeDp i f) (removeDp i g) := by
  induction h with
  | nil => exact .nil
  | cons hd _ _ ihk ihs => exact .cons (hd.filter _) ihk ihs
  | swap d₁ k₁ d₂ k₂ s => exact .swap _ _ _ _ _
  | trans _ _ ih₁ ih₂ => exact .trans ih₁ ih₂

theorem addDpAt_eqv (key i : Nat) {f g : DF} (h : Eqv f g) : Eqv (addDpAt key i f) (addDpAt key i g) := by
  induction h with
  | nil => exact .nil
  | cons hd _ _ ihk ihs =>
    simp only [addDpAt]
    rw [hd.contains_eq]
    refine .cons ?_ ihk ihs
    split
    · exact hd.append_right _
    · exact hd
  | swap d₁ k₁ d₂ k₂ s => exact .swap _ _ _ _ _
  | trans _ _ ih₁ ih₂ => exact .trans ih₁ ih₂

theorem removeSub_eqv (key : Nat) {f g : DF} (h : Eqv f g) : Eqv (removeSub key f) (removeSub key g) := by
  induction h with
  | nil => exact .nil
  | cons hd _ _ ihk ihs =>
    simp only [removeSub]
    rw [hd.contains_eq]
    split
    · exact ihs
    · exact .cons hd ihk ihs
  | swap d₁ k₁ d₂ k₂ s =>
    simp only [removeSub]
    cases d₁.contains key <;> cases d₂.contains key
    · exact .swap _ _ _ _ _
    · exact Eqv.refl _
    · exact Eqv.refl _
    · exact Eqv.refl _
  | trans _ _ ih₁ ih₂ => exact .trans ih₁ ih₂

theorem attachUnder_eqv (key : Nat) (sd : List Nat) (sk : DF) {f g : DF} (h : Eqv f g) :
    Eqv (attachUnder key sd sk f) (attachUnder key sd sk g) := by
  induction h with
  | nil => exact .nil
  | cons hd hk _ ihk ihs =>
    simp only [attachUnder]
    rw [hd.contains_eq]
    split
    · exact .cons hd (.cons (List.Perm.refl _) (Eqv.refl _) hk) ihs
    · exact .cons hd ihk ihs
  | swap d₁ k₁ d₂ k₂ s =>
    simp only [attachUnder]
    cases d₁.contains key <;> cases d₂.contains key <;> exact .swap _ _ _ _ _
  | trans _ _ ih₁ ih₂ => exact .trans ih₁ ih₂

end Canon
end PhyModel
