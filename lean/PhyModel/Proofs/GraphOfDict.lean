import PhyModel.Proofs.GraphOf
import PhyModel.Proofs.GraphDict
import PhyModel.Proofs.StoreWF_dictRT
/-! Link for `from_dict` (C07, graph shape): the graph that `gFromDict` rebuilds from the dictionary
form of a well-formed store (`extend_from_edge_list` of `to_dict()["graph"]`, then removal of the
indices `node_idx_rev` does not list) has the live set and the edge list of the structural forest
that `Store.fromDict` / `buildSF` rebuild. -/
namespace PhyModel.Graph
open PhyModel.Store

theorem toDict_live_perm {s : Store} (hw : WF s) :
    (0 :: s.toDict.nodeIdxRev.map (·.1)).Perm (graphOf s.forest).nodes := by
  refine List.Perm.cons _ ?_
  have := hw.m.2.map (·.1)
  simpa [SF.idxs, Store.toDict, List.map_map, Function.comp_def] using this

theorem isForest_toDict {s : Store} (hw : WF s) :
    IsForest { nodes := 0 :: s.toDict.nodeIdxRev.map (·.1), edges := s.toDict.edges } :=
  (isForest_graphOf hw.idxs_nodup (WF.zero_notMem hw)).of_perm (toDict_live_perm hw).symm (.refl _)

theorem edgesOf_sim {f' f : SF} (h : SF.Sim f' f) : ∀ par, Store.edgesOf par f' = Store.edgesOf par f := by
  induction h with
  | nil => intro _; rfl
  | cons h1 _ _ _ _ ihk ihs => intro par; simp [h1, ihk, ihs]

/-- **`from_dict(to_dict())`: the structural rebuild (`buildSF`) is a correct abstraction of
`extend_from_edge_list` + hole removal.**  `live` = the keys of `node_idx_rev` plus the root's
(implicit in the store model). -/
theorem graph_fromDict {dt : Data} {s s' : Store} (hs : WF s ∧ Full s)
    (h : Store.fromDict dt s.toDict = some s') :
    (gFromDict s.toDict.edges (0 :: s.toDict.nodeIdxRev.map (·.1))).nodes.Perm (graphOf s'.forest).nodes ∧
      (gFromDict s.toDict.edges (0 :: s.toDict.nodeIdxRev.map (·.1))).edges.Perm (graphOf s'.forest).edges := by
  obtain ⟨hsim, _⟩ := fromDict_toDict_spec h hs
  obtain ⟨hn, he⟩ := gFromDict_spec (isForest_toDict hs.1)
  rw [graphOf_eq_of_edges (edgesOf_sim hsim 0)]
  exact ⟨hn.trans (toDict_live_perm hs.1), .of_eq he⟩

end PhyModel.Graph
