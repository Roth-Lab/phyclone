import PhyModel.Proofs.MovesNodes
import PhyModel.Proofs.MovesPr
/-! Pruning and re-attaching subtrees of well-formed forests: `removeSub` / `attachUnder`, the "is a
child of" invariant that tells re-attachments apart, and where a clone sits (`parentOf`): a forest is
its clone put back in front of, or re-attached under the parent's clone in, the pruned forest. -/
namespace PhyModel
open Orders Orders.Forest PhyModel.Moves

namespace Canon

theorem not_contains_of_not_mem {a : Nat} {l : List Nat} (h : a ∉ l) : l.contains a = false := by
  simpa using h

theorem removeSub_of_not_mem {key : Nat} {f : DF} (h : key ∉ f.all) : removeSub key f = f := by
  induction f with
  | nil => rfl
  | cons d k s ihk ihs =>
    simp only [Forest.all, List.mem_append, not_or] at h
    simp only [removeSub, not_contains_of_not_mem h.1.2, Bool.false_eq_true, if_false, ihk h.1.1, ihs h.2]

theorem attachUnder_of_not_mem {key : Nat} (sd : List Nat) (sk : DF) {f : DF} (h : key ∉ f.all) :
    attachUnder key sd sk f = f := by
  induction f with
  | nil => rfl
  | cons d k s ihk ihs =>
    simp only [Forest.all, List.mem_append, not_or] at h
    simp only [attachUnder, not_contains_of_not_mem h.1.2, Bool.false_eq_true, if_false, ihk h.1.1, ihs h.2]

theorem removeSub_all_sublist (key : Nat) (f : DF) : (removeSub key f).all.Sublist f.all := by
  induction f with
  | nil => exact List.Sublist.refl _
  | cons d k s ihk ihs =>
    simp only [removeSub]
    split
    · simp only [Forest.all]; exact List.Sublist.trans ihs (List.sublist_append_right _ _)
    · simp only [Forest.all]
      exact (ihk.append (List.Sublist.refl d)).append ihs

theorem removeSub_ne (key : Nat) {f : DF} (h : NE f) : NE (removeSub key f) := by
  induction f with
  | nil => trivial
  | cons d k s ihk ihs =>
    simp only [removeSub]
    split
    · exact ihs h.2.2
    · exact ⟨h.1, ihk h.2.1, ihs h.2.2⟩

theorem removeSub_wf (key : Nat) {f : DF} (w : WF f) : WF (removeSub key f) :=
  ⟨(removeSub_all_sublist key f).nodup w.nodup, removeSub_ne key w.ne,
    fun a ha => w.small a ((removeSub_all_sublist key f).subset ha)⟩

/-- pruning the freshly attached subtree gives back the forest -/
theorem removeSub_attachUnder {key : Nat} (a : Nat) {sd : List Nat} (sk : DF) {f : DF}
    (hk : key ∈ sd) (hf : key ∉ f.all) : removeSub key (attachUnder a sd sk f) = f := by
  induction f with
  | nil => rfl
  | cons d k s ihk ihs =>
    simp only [Forest.all, List.mem_append, not_or] at hf
    simp only [attachUnder]
    split
    · simp only [removeSub, not_contains_of_not_mem hf.1.2, Bool.false_eq_true, if_false,
        List.contains_iff_mem.mpr hk, if_true, removeSub_of_not_mem hf.1.1, ihs hf.2]
    · simp only [removeSub, not_contains_of_not_mem hf.1.2, Bool.false_eq_true, if_false,
        ihk hf.1.1, ihs hf.2]

theorem removeSub_cons_self {key : Nat} {sd : List Nat} (sk : DF) {f : DF}
    (hk : key ∈ sd) (hf : key ∉ f.all) : removeSub key (.cons sd sk f) = f := by
  simp only [removeSub, List.contains_iff_mem.mpr hk, if_true, removeSub_of_not_mem hf]

theorem attachUnder_cons_of_mem {a : Nat} (sd : List Nat) (sk : DF) {d : List Nat} {k s : DF}
    (hn : (Forest.all (.cons d k s)).Nodup) (ha : a ∈ Forest.all (.cons d k s)) :
    attachUnder a sd sk (.cons d k s) = .cons d (.cons sd sk k) s ∨
      (a ∈ k.all ∧ attachUnder a sd sk (.cons d k s) = .cons d (attachUnder a sd sk k) s) ∨
      (a ∈ s.all ∧ attachUnder a sd sk (.cons d k s) = .cons d k (attachUnder a sd sk s)) := by
  obtain ⟨_, _, _, _, hkds⟩ := all_nodup_cons hn
  simp only [attachUnder]
  by_cases hd : a ∈ d
  · left
    rw [if_pos (List.contains_iff_mem.mpr hd),
      attachUnder_of_not_mem sd sk (hkds a (List.mem_append_right _ hd))]
  · rw [if_neg fun h => hd (List.contains_iff_mem.mp h)]
    right
    by_cases hk : a ∈ k.all
    · left
      exact ⟨hk, by rw [attachUnder_of_not_mem sd sk (hkds a (List.mem_append_left _ hk))]⟩
    · right
      have hs : a ∈ s.all :=
        (List.mem_append.mp ha).resolve_left fun h => (List.mem_append.mp h).elim hk hd
      exact ⟨hs, by rw [attachUnder_of_not_mem sd sk hk]⟩

/-- the data of a re-attachment: the pruned forest plus the clade of the subtree -/
theorem attachUnder_all_perm {a : Nat} (sd : List Nat) (sk : DF) {f : DF} (hn : f.all.Nodup)
    (ha : a ∈ f.all) : (attachUnder a sd sk f).all.Perm ((sk.all ++ sd) ++ f.all) := by
  induction f with
  | nil => exact absurd ha List.not_mem_nil
  | cons d k s ihk ihs =>
    obtain ⟨hk, _, hs, _, _⟩ := all_nodup_cons hn
    rcases attachUnder_cons_of_mem sd sk hn ha with e | ⟨hak, e⟩ | ⟨has, e⟩
    · rw [e]
      simp only [Forest.all, List.append_assoc]
      exact List.Perm.refl _
    · rw [e]
      have := ((ihk hk hak).append_right d).append_right s.all
      simpa only [Forest.all, List.append_assoc] using this
    · rw [e]
      simp only [Forest.all]
      refine ((ihs hs has).append_left (k.all ++ d)).trans ?_
      rw [← List.append_assoc (k.all ++ d), ← List.append_assoc (sk.all ++ sd)]
      exact List.Perm.append_right _ List.perm_append_comm

theorem attachUnder_ne (a : Nat) {sd : List Nat} {sk : DF} {f : DF} (hsd : sd ≠ []) (hsk : NE sk)
    (h : NE f) : NE (attachUnder a sd sk f) := by
  induction f with
  | nil => trivial
  | cons d k s ihk ihs =>
    simp only [attachUnder]
    split
    · exact ⟨h.1, ⟨hsd, hsk, h.2.1⟩, ihs h.2.2⟩
    · exact ⟨h.1, ihk h.2.1, ihs h.2.2⟩

theorem attachUnder_nodes {a : Nat} (sd : List Nat) (sk : DF) {f : DF} (hn : f.all.Nodup)
    (ha : a ∈ f.all) : (attachUnder a sd sk f).nodes = f.nodes + 1 + sk.nodes := by
  induction f with
  | nil => exact absurd ha List.not_mem_nil
  | cons d k s ihk ihs =>
    obtain ⟨hk, _, hs, _, _⟩ := all_nodup_cons hn
    rcases attachUnder_cons_of_mem sd sk hn ha with e | ⟨hak, e⟩ | ⟨has, e⟩
    · rw [e]
      simp only [Forest.nodes]
      ring
    · rw [e]
      simp only [Forest.nodes, ihk hk hak]
      ring
    · rw [e]
      simp only [Forest.nodes, ihs hs has]
      ring

theorem mem_nodesOf_attachUnder {a : Nat} (sd : List Nat) (sk : DF) {f : DF} (ha : a ∈ f.all) :
    (sd, sk) ∈ nodesOf (attachUnder a sd sk f) := by
  induction f with
  | nil => exact absurd ha List.not_mem_nil
  | cons d k s ihk ihs =>
    simp only [attachUnder]
    by_cases hc : d.contains a = true
    · simp only [hc, if_true]
      exact nodesOf_kids_sub (mem_nodesOf_cons.mpr (Or.inl rfl))
    · have had : a ∉ d := fun h => hc (List.contains_iff_mem.mpr h)
      simp only [not_contains_of_not_mem had, Bool.false_eq_true, if_false]
      simp only [Forest.all, List.mem_append] at ha
      rcases ha with (h | h) | h
      · exact nodesOf_kids_sub (ihk h)
      · exact absurd h had
      · exact nodesOf_sibs_sub (ihs h)

/-! ### "is a child of" -/

/-- some top-level clone holds `a` -/
def rootsHave (a : Nat) : DF → Bool
  | .nil => false
  | .cons d _ s => d.contains a || rootsHave a s

/-- the clone holding `a` is a child of a clone holding `b` -/
def childOf (a b : Nat) : DF → Bool
  | .nil => false
  | .cons d k s => (d.contains b && rootsHave a k) || childOf a b k || childOf a b s

theorem rootsHave_eqv (a : Nat) {f g : DF} (h : Eqv f g) : rootsHave a f = rootsHave a g := by
  induction h with
  | nil => rfl
  | cons hd _ _ _ ihs => simp only [rootsHave, hd.contains_eq, ihs]
  | swap d₁ k₁ d₂ k₂ s => exact Bool.or_left_comm _ _ _
  | trans _ _ ih₁ ih₂ => exact ih₁.trans ih₂

theorem childOf_eqv (a b : Nat) {f g : DF} (h : Eqv f g) : childOf a b f = childOf a b g := by
  induction h with
  | nil => rfl
  | cons hd hk _ ihk ihs => simp only [childOf, hd.contains_eq, rootsHave_eqv a hk, ihk, ihs]
  | swap d₁ k₁ d₂ k₂ s => exact Bool.or_left_comm _ _ _
  | trans _ _ ih₁ ih₂ => exact ih₁.trans ih₂

theorem rootsHave_mem {a : Nat} {f : DF} (h : rootsHave a f = true) : a ∈ f.all := by
  induction f with
  | nil => exact Bool.noConfusion h
  | cons d k s _ ihs =>
    simp only [rootsHave, Bool.or_eq_true, List.contains_iff_mem] at h
    simp only [Forest.all, List.mem_append]
    rcases h with h | h
    · exact Or.inl (Or.inr h)
    · exact Or.inr (ihs h)

theorem childOf_mem {a b : Nat} {f : DF} (h : childOf a b f = true) : a ∈ f.all ∧ b ∈ f.all := by
  induction f with
  | nil => exact Bool.noConfusion h
  | cons d k s ihk ihs =>
    simp only [childOf, Bool.or_eq_true, Bool.and_eq_true, List.contains_iff_mem] at h
    simp only [Forest.all, List.mem_append]
    rcases h with (⟨h1, h2⟩ | h) | h
    · exact ⟨Or.inl (Or.inl (rootsHave_mem h2)), Or.inl (Or.inr h1)⟩
    · exact ⟨Or.inl (Or.inl (ihk h).1), Or.inl (Or.inl (ihk h).2)⟩
    · exact ⟨Or.inr (ihs h).1, Or.inr (ihs h).2⟩

theorem childOf_false_left {a b : Nat} {f : DF} (h : a ∉ f.all) : childOf a b f = false :=
  Bool.eq_false_iff.mpr fun hc => h (childOf_mem hc).1

theorem childOf_false_right {a b : Nat} {f : DF} (h : b ∉ f.all) : childOf a b f = false :=
  Bool.eq_false_iff.mpr fun hc => h (childOf_mem hc).2

theorem rootsHave_false {a : Nat} {f : DF} (h : a ∉ f.all) : rootsHave a f = false :=
  Bool.eq_false_iff.mpr fun hc => h (rootsHave_mem hc)

theorem rootsHave_attachUnder (a key : Nat) (sd : List Nat) (sk : DF) (f : DF) :
    rootsHave a (attachUnder key sd sk f) = rootsHave a f := by
  induction f with
  | nil => rfl
  | cons d k s _ ihs =>
    simp only [attachUnder]
    split <;> simp only [rootsHave, ihs]

theorem together_false {a b : Nat} {f : DF} (h : a ∉ f.all) : together a b f = false :=
  Bool.eq_false_iff.mpr fun hc =>
    have ⟨nd, hnd, ha, _⟩ := together_iff.mp hc
    h (mem_all_iff.mpr ⟨nd, hnd, ha⟩)

/-- after attaching the subtree (which holds `key`) under the clone of `a`, `key`'s clone is a child
of `b`'s clone iff `a` and `b` share a clone -/
theorem childOf_attachUnder {key a b : Nat} {sd : List Nat} {sk : DF} {f : DF} (hn : f.all.Nodup)
    (hk : key ∈ sd) (hkf : key ∉ f.all) (hb : b ∉ sk.all ++ sd) :
    childOf key b (attachUnder a sd sk f) = together a b f := by
  induction f with
  | nil => rfl
  | cons d k s ihk ihs =>
    obtain ⟨hkn, _, hs, hkd, _⟩ := all_nodup_cons hn
    simp only [Forest.all, List.mem_append, not_or] at hkf
    simp only [List.mem_append, not_or] at hb
    simp only [attachUnder]
    by_cases hc : d.contains a = true
    · have had : a ∈ d := List.contains_iff_mem.mp hc
      have hak : a ∉ k.all := fun h => hkd a h had
      simp only [hc, if_true, childOf, together, rootsHave, List.contains_iff_mem.mpr hk, Bool.true_or,
        Bool.and_true, Bool.true_and, not_contains_of_not_mem hb.2, Bool.false_and,
        childOf_false_right (a := key) hb.1, childOf_false_left (b := b) hkf.1.1,
        together_false (b := b) hak, Bool.or_false, ihs hs hkf.2]
    · simp only [Bool.not_eq_true] at hc
      simp only [hc, Bool.false_eq_true, if_false, childOf, together, Bool.false_and, Bool.false_or,
        rootsHave_attachUnder, rootsHave_false hkf.1.1, Bool.and_false, ihk hkn hkf.1.1, ihs hs hkf.2]

theorem childOf_cons_root {key b : Nat} {sd : List Nat} {sk : DF} {f : DF}
    (hkf : key ∉ f.all) (hb : b ∉ sk.all ++ sd) : childOf key b (.cons sd sk f) = false := by
  simp only [List.mem_append, not_or] at hb
  simp only [childOf, not_contains_of_not_mem hb.2, Bool.false_and, Bool.false_or,
    childOf_false_right (a := key) hb.1, childOf_false_left (b := b) hkf]

theorem nodesOf_ofRoots (l : List (List Nat × DF)) :
    nodesOf (ofRoots l) = l.flatMap fun r => r :: nodesOf r.2 := by
  induction l with
  | nil => rfl
  | cons r l ih =>
    obtain ⟨d, k⟩ := r
    simp only [ofRoots, nodesOf, ih, List.flatMap_cons, List.cons_append]

theorem mem_nodesOf_canon_cons {d : List Nat} {k s : DF} {nd : List Nat × DF} :
    nd ∈ nodesOf (canon (.cons d k s)) ↔
      nd = (sortNat d, canon k) ∨ nd ∈ nodesOf (canon k) ∨ nd ∈ nodesOf (canon s) := by
  simp only [canon, nodesOf_ofRoots]
  rw [((insertSorted_perm _ _).flatMap_right _).mem_iff, List.flatMap_cons, ← nodesOf_ofRoots,
    ofRoots_roots]
  simp only [List.cons_append, List.mem_cons, List.mem_append]

/-- the clones of a forest appear, canonicalised, in its canonical form -/
theorem canon_nodes {f : DF} {nd : List Nat × DF} (h : nd ∈ nodesOf f) :
    (sortNat nd.1, canon nd.2) ∈ nodesOf (canon f) := by
  induction f with
  | nil => exact absurd h List.not_mem_nil
  | cons d k s ihk ihs =>
    rw [mem_nodesOf_canon_cons]
    rcases mem_nodesOf_cons.mp h with rfl | hk | hs
    · exact Or.inl rfl
    · exact Or.inr (Or.inl (ihk hk))
    · exact Or.inr (Or.inr (ihs hs))

/-- the clones of a canonical forest are canonical -/
theorem canon_node_fixed {f : DF} (w : WF f) :
    ∀ nd ∈ nodesOf (canon f), sortNat nd.1 = nd.1 ∧ canon nd.2 = nd.2 := by
  induction f with
  | nil => exact fun _ h => absurd h List.not_mem_nil
  | cons d k s ihk ihs =>
    intro nd h
    rcases mem_nodesOf_canon_cons.mp h with rfl | hk | hs
    · exact ⟨sortNat_idem d, canon_idem _⟩
    · exact ihk w.kids nd hk
    · exact ihs w.sibs nd hs

/-- the clade of a clone lies inside the forest -/
theorem node_clade_sub {f : DF} {nd : List Nat × DF} (h : nd ∈ nodesOf f) :
    ∀ a ∈ nd.2.all ++ nd.1, a ∈ f.all := by
  induction f with
  | nil => exact absurd h List.not_mem_nil
  | cons d k s ihk ihs =>
    intro a ha
    simp only [Forest.all, List.mem_append]
    rcases mem_nodesOf_cons.mp h with rfl | hk | hs
    · exact Or.inl (List.mem_append.mp ha)
    · exact Or.inl (Or.inl (ihk hk a ha))
    · exact Or.inr (ihs hs a ha)

theorem mem_nodesOf_of_mem_roots {f : DF} {r : List Nat × DF} (h : r ∈ f.roots) : r ∈ nodesOf f := by
  induction f with
  | nil => exact absurd h List.not_mem_nil
  | cons d k s _ ihs =>
    rcases List.mem_cons.mp h with rfl | h
    · exact mem_nodesOf_cons.mpr (Or.inl rfl)
    · exact nodesOf_sibs_sub (ihs h)

end Canon

namespace PG
open Canon

/-! ### `parentOf` -/

theorem anyRoot_iff (key : ℕ) (k : DF) :
    (k.roots.any fun r => r.1.contains key) = true ↔ ∃ r ∈ k.roots, key ∈ r.1 := by
  simp only [List.any_eq_true, List.contains_iff_mem]

theorem parentOf_cons_true {key : ℕ} {d : List ℕ} {k s : DF}
    (h : (k.roots.any fun r => r.1.contains key) = true) : parentOf key (.cons d k s) = some (d, k) := by
  simp only [parentOf, h, if_true]

theorem parentOf_cons_some {key : ℕ} {d : List ℕ} {k s : DF}
    (h : ¬ (k.roots.any fun r => r.1.contains key) = true) {p : List ℕ × DF} (hp : parentOf key k = some p) :
    parentOf key (.cons d k s) = some p := by
  simp only [parentOf, h, Bool.false_eq_true, if_false, hp]

theorem parentOf_cons_none {key : ℕ} {d : List ℕ} {k s : DF}
    (h : ¬ (k.roots.any fun r => r.1.contains key) = true) (hp : parentOf key k = none) :
    parentOf key (.cons d k s) = parentOf key s := by
  simp only [parentOf, h, Bool.false_eq_true, if_false, hp]

theorem parentOf_of_not_mem {key : ℕ} : ∀ {f : DF}, key ∉ f.all → parentOf key f = none := by
  intro f
  induction f with
  | nil => intro _; rfl
  | cons d k s ihk ihs =>
    intro h
    simp only [Forest.all, List.mem_append, not_or] at h
    have hany : ¬ (k.roots.any fun r => r.1.contains key) = true := by
      rw [anyRoot_iff]
      rintro ⟨r, hr, hkr⟩
      exact h.1.1 (mem_all_iff.mpr ⟨r, mem_nodesOf_of_mem_roots hr, hkr⟩)
    rw [parentOf_cons_none hany (ihk h.1.1), ihs h.2]

/-- `parentOf key` is correct on a well-formed forest: the child it finds holding `key` is the clone `(sd, sk)`
itself, since the clones of a `WF` forest share no data point (`node_unique`) -/
theorem parentOf_spec {key : ℕ} {sd : List ℕ} {sk : DF} (hk : key ∈ sd) : ∀ {f : DF}, WF f →
    (sd, sk) ∈ nodesOf f →
    (parentOf key f = none → (sd, sk) ∈ f.roots) ∧
    (∀ g, parentOf key f = some g → g ∈ nodesOf f ∧ (sd, sk) ∈ g.2.roots) := by
  intro f
  induction f with
  | nil => intro _ h; simp [nodesOf] at h
  | cons d k s ihk ihs =>
    intro w hsub
    obtain ⟨kidsRoot, kidsSibs, rootSibs⟩ := cons_disj w.nodup
    have hself : (d, k) ∈ nodesOf (Orders.Forest.cons d k s) := mem_nodesOf_cons.mpr (Or.inl rfl)
    by_cases hany : (k.roots.any fun r => r.1.contains key) = true
    · -- a child of this root holds `key`: it is the clone, this root is the parent
      obtain ⟨r, hr, hkr⟩ := (anyRoot_iff key k).mp hany
      have hrn : r ∈ nodesOf (Orders.Forest.cons d k s) := nodesOf_kids_sub (mem_nodesOf_of_mem_roots hr)
      have e : (sd, sk) = r := node_unique w hsub hrn hk hkr
      rw [parentOf_cons_true hany]
      refine ⟨fun h => by simp at h, ?_⟩
      intro g hg
      have : g = (d, k) := (Option.some.inj hg).symm
      subst this
      exact ⟨hself, e ▸ hr⟩
    · rcases mem_nodesOf_cons.mp hsub with e | hink | hins
      · obtain ⟨rfl, rfl⟩ := Prod.mk.inj e
        rw [parentOf_cons_none hany (parentOf_of_not_mem fun h => kidsRoot key h hk),
          parentOf_of_not_mem (rootSibs key hk)]
        refine ⟨fun _ => by simp [roots], fun g hg => by simp at hg⟩
      · obtain ⟨h1, h2⟩ := ihk w.kids hink
        cases hp : parentOf key k with
        | none =>
          exact absurd ((anyRoot_iff key k).mpr ⟨(sd, sk), h1 hp, hk⟩) hany
        | some g =>
          rw [parentOf_cons_some hany hp]
          refine ⟨fun h => by simp at h, ?_⟩
          intro g' hg'
          have : g' = g := (Option.some.inj hg').symm
          subst this
          exact ⟨nodesOf_kids_sub (h2 g' hp).1, (h2 g' hp).2⟩
      · have hkk : key ∉ k.all := fun h =>
          kidsSibs key h (node_clade_sub hins key (List.mem_append_right _ hk))
        obtain ⟨h1, h2⟩ := ihs w.sibs hins
        rw [parentOf_cons_none hany (parentOf_of_not_mem hkk)]
        refine ⟨fun h => ?_, fun g hg => ⟨nodesOf_sibs_sub (h2 g hg).1, (h2 g hg).2⟩⟩
        simp only [roots, List.mem_cons]
        exact Or.inr (h1 h)

/-- a top-level clone put back in front of the pruned forest -/
theorem eqv_cons_removeSub {key : ℕ} {sd : List ℕ} {sk : DF} (hk : key ∈ sd) : ∀ {f : DF}, WF f →
    (sd, sk) ∈ f.roots → Eqv f (.cons sd sk (removeSub key f)) := by
  intro f
  induction f with
  | nil => intro _ h; simp [roots] at h
  | cons d k s _ ihs =>
    intro w hr
    obtain ⟨kidsRoot, kidsSibs, rootSibs⟩ := cons_disj w.nodup
    simp only [roots, List.mem_cons] at hr
    by_cases hkd' : key ∈ d
    · have hself : (d, k) ∈ nodesOf (Orders.Forest.cons d k s) := mem_nodesOf_cons.mpr (Or.inl rfl)
      have hsub : (sd, sk) ∈ nodesOf (Orders.Forest.cons d k s) := by
        rcases hr with e | h
        · rw [e]; exact hself
        · exact nodesOf_sibs_sub (mem_nodesOf_of_mem_roots h)
      have e : (sd, sk) = (d, k) := node_unique w hsub hself hk hkd'
      obtain ⟨rfl, rfl⟩ := Prod.mk.inj e
      simp only [removeSub, List.contains_iff_mem.mpr hkd', if_true, removeSub_of_not_mem (rootSibs key hkd')]
      exact Eqv.refl _
    · rcases hr with e | h
      · exact absurd ((Prod.mk.inj e).1 ▸ hk) hkd'
      · have hkk : key ∉ k.all := fun h' => kidsSibs key h' (mem_all_iff.mpr ⟨_, mem_nodesOf_of_mem_roots h, hk⟩)
        simp only [removeSub, not_contains_of_not_mem hkd', Bool.false_eq_true, if_false,
          removeSub_of_not_mem hkk]
        exact .trans (.cons (List.Perm.refl _) (Eqv.refl _) (ihs w.sibs h)) (.swap _ _ _ _ _)

/-- a child of the clone `g` re-attached under any data point of `g` in the pruned forest -/
theorem eqv_attachUnder_removeSub {key : ℕ} {sd : List ℕ} {sk : DF} (hk : key ∈ sd)
    {g : List ℕ × DF} (hsg : (sd, sk) ∈ g.2.roots) {a : ℕ} (ha : a ∈ g.1) : ∀ {f : DF}, WF f →
    g ∈ nodesOf f → a ∈ (removeSub key f).all ∧ Eqv f (attachUnder a sd sk (removeSub key f)) := by
  intro f
  induction f with
  | nil => intro _ h; simp [nodesOf] at h
  | cons d k s ihk ihs =>
    intro w hg
    obtain ⟨kidsRoot, kidsSibs, rootSibs⟩ := cons_disj w.nodup
    -- `key` lies among the descendants of `g`
    have hkg : key ∈ g.2.all := mem_all_iff.mpr ⟨_, mem_nodesOf_of_mem_roots hsg, hk⟩
    rcases mem_nodesOf_cons.mp hg with e | hink | hins
    · subst e
      simp only [removeSub, not_contains_of_not_mem (kidsRoot key hkg), Bool.false_eq_true, if_false,
        removeSub_of_not_mem (kidsSibs key hkg)]
      refine ⟨by simp only [Forest.all, List.mem_append]; exact Or.inl (Or.inr ha), ?_⟩
      simp only [attachUnder, List.contains_iff_mem.mpr ha, if_true,
        attachUnder_of_not_mem sd sk (rootSibs a ha)]
      exact .cons (List.Perm.refl _) (eqv_cons_removeSub hk w.kids hsg) (Eqv.refl _)
    · have hsub := node_clade_sub hink
      have hkk : key ∈ k.all := hsub key (List.mem_append_left _ hkg)
      have hak : a ∈ k.all := hsub a (List.mem_append_right _ ha)
      obtain ⟨h1, h2⟩ := ihk w.kids hink
      simp only [removeSub, not_contains_of_not_mem (kidsRoot key hkk), Bool.false_eq_true, if_false,
        removeSub_of_not_mem (kidsSibs key hkk)]
      refine ⟨by simp only [Forest.all, List.mem_append]; exact Or.inl (Or.inl h1), ?_⟩
      simp only [attachUnder, not_contains_of_not_mem (kidsRoot a hak), Bool.false_eq_true, if_false,
        attachUnder_of_not_mem sd sk (kidsSibs a hak)]
      exact .cons (List.Perm.refl _) h2 (Eqv.refl _)
    · have hsub := node_clade_sub hins
      have hks : key ∈ s.all := hsub key (List.mem_append_left _ hkg)
      have has : a ∈ s.all := hsub a (List.mem_append_right _ ha)
      obtain ⟨h1, h2⟩ := ihs w.sibs hins
      simp only [removeSub, not_contains_of_not_mem fun h => rootSibs key h hks, Bool.false_eq_true, if_false,
        removeSub_of_not_mem fun h => kidsSibs key h hks]
      refine ⟨by simp only [Forest.all, List.mem_append]; exact Or.inr h1, ?_⟩
      simp only [attachUnder, not_contains_of_not_mem fun h => rootSibs a h has, Bool.false_eq_true, if_false,
        attachUnder_of_not_mem sd sk fun h => kidsSibs a h has]
      exact .cons (List.Perm.refl _) (Eqv.refl _) h2

end PG

namespace Canon
open PG

/-- a forest is any of its clones `(sd, sk)` put back: in front of the pruned forest when the clone is
top-level (`parentOf` finds no parent), under the first data point of its parent's clone otherwise -/
theorem prune_eqv_parent {f : DF} (w : WF f) {sd : List Nat} {sk : DF} (hsub : (sd, sk) ∈ nodesOf f)
    {key : Nat} (hk : key ∈ sd) :
    Eqv f (attachAll ((parentOf key f).map fun g => g.1.headD 0) [(sd, sk)] (removeSub key f)) ∧
      ∀ a, ((parentOf key f).map fun g => g.1.headD 0) = some a → a ∈ (removeSub key f).all := by
  obtain ⟨hnone, hsome⟩ := parentOf_spec hk w hsub
  cases hp : parentOf key f with
  | none => exact ⟨eqv_cons_removeSub hk w (hnone hp), fun _ h => nomatch h⟩
  | some g =>
    obtain ⟨hg, hroot⟩ := hsome g hp
    obtain ⟨ha, E⟩ := eqv_attachUnder_removeSub hk hroot (headD_mem (node_ne w.ne g hg)) w hg
    exact ⟨E, fun a h => Option.some.inj h ▸ ha⟩

/-- a forest is equivalent to the re-attachment of any of its subtrees, at the top level or under a
clone of the pruned forest -/
theorem prune_eqv {f : DF} (w : WF f) {sd : List Nat} {sk : DF} (hsub : (sd, sk) ∈ nodesOf f)
    {key : Nat} (hk : key ∈ sd) :
    Eqv f (.cons sd sk (removeSub key f)) ∨
      ∃ a ∈ (removeSub key f).all, Eqv f (attachUnder a sd sk (removeSub key f)) := by
  obtain ⟨E, hkey⟩ := prune_eqv_parent w hsub hk
  cases hp : parentOf key f with
  | none => rw [hp] at E; exact Or.inl E
  | some g => rw [hp] at E hkey; exact Or.inr ⟨_, hkey _ rfl, E⟩

theorem removeSub_all_perm {f : DF} (w : WF f) {sd : List Nat} {sk : DF} (hsub : (sd, sk) ∈ nodesOf f)
    {key : Nat} (hk : key ∈ sd) : f.all.Perm ((sk.all ++ sd) ++ (removeSub key f).all) := by
  rcases prune_eqv w hsub hk with hq | ⟨a, ha, hq⟩
  · exact hq.all_perm
  · exact hq.all_perm.trans (attachUnder_all_perm sd sk (removeSub_wf key w).nodup ha)

end Canon
end PhyModel
