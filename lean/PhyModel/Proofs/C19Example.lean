import PhyModel.Proofs.PlacementIdx
/-! A concrete instance satisfying the hypotheses of C19 `weights_positive` (non-vacuity). -/
namespace PhyModel.Props.C19
open PhyModel.C19P

/-- the hypotheses are satisfiable: two data points on a 2-point grid, outlier prior 1/2, parent
state "data point 0 in one clone", placing data point 1 -/
def exData : Data := { G := 2, S := 1, vals := [[[1/2, 1]], [[1, 1/4]]], op := [1/2, 1/2], sz := [1, 1] }
def exParent : T := ⟨.cons [0] .nil .nil, []⟩

theorem exGood0 : GoodIdx exData 0 := by
  unfold GoodIdx
  decide +kernel

theorem exGood1 : GoodIdx exData 1 := by
  unfold GoodIdx
  decide +kernel

theorem exGoodParent : Good exData exParent.f exParent.out := by
  intro j hj
  obtain rfl : j = 0 := List.mem_singleton.1 hj
  exact exGood0

end PhyModel.Props.C19
