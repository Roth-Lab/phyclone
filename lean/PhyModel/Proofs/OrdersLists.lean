import PhyModel.Model.Orders
import Mathlib.Data.Nat.Choose.Basic
import Mathlib.Data.Nat.Factorial.Basic
import Mathlib.Data.Nat.Choose.Cast
import Mathlib.Algebra.Order.Field.Rat
import Mathlib.Algebra.BigOperators.Group.List.Basic
import Mathlib.Data.List.Perm.Basic
import Mathlib.Data.List.Nodup
import Mathlib.Tactic.Ring
import Mathlib.Tactic.Linarith
import Mathlib.Tactic.FieldSimp
/-! The building blocks of the enumeration of orders, as lists: what the members of `inter xs ys`
and `perms l` are, how many there are, and that none is listed twice. -/

namespace PhyModel.Orders

theorem length_flatMap_const {α β : Type} (L : List α) (g : α → List β) (c : ℕ)
    (h : ∀ a ∈ L, (g a).length = c) : (L.flatMap g).length = L.length * c := by
  induction L with
  | nil => exact (Nat.zero_mul c).symm
  | cons a L ih =>
    rw [List.flatMap_cons, List.length_append, h a List.mem_cons_self,
      ih fun b hb => h b (List.mem_cons_of_mem a hb), List.length_cons, Nat.succ_mul, Nat.add_comm]

theorem nodup_flatMap_of {α β : Type} (l : List α) (g : α → List β) (hl : l.Nodup)
    (h1 : ∀ x ∈ l, (g x).Nodup)
    (h2 : ∀ x ∈ l, ∀ y ∈ l, x ≠ y → ∀ z, z ∈ g x → z ∈ g y → False) :
    (l.flatMap g).Nodup :=
  List.nodup_flatMap.mpr ⟨h1, hl.pairwise_of_forall_ne fun x hx y hy hne z => h2 x hx y hy hne z⟩

theorem nodup_flatMap_of_inv {α β : Type} (l : List α) (g : α → List β) (r : β → α) (hl : l.Nodup)
    (h1 : ∀ x ∈ l, (g x).Nodup) (h2 : ∀ x ∈ l, ∀ z ∈ g x, r z = x) : (l.flatMap g).Nodup :=
  nodup_flatMap_of l g hl h1 fun x hx y hy hne z hz hz' =>
    hne ((h2 x hx z hz).symm.trans (h2 y hy z hz'))

/-! ### filtering a list that a predicate separates -/

theorem filter_of_all {p : ℕ → Bool} {l : List ℕ} (h : ∀ a ∈ l, p a = true) :
    l.filter p = l ∧ l.filter (fun x => !p x) = [] :=
  ⟨List.filter_eq_self.mpr h, List.filter_eq_nil_iff.mpr fun a ha => by simp [h a ha]⟩

theorem filter_of_none {p : ℕ → Bool} {l : List ℕ} (h : ∀ a ∈ l, p a = false) :
    l.filter p = [] ∧ l.filter (fun x => !p x) = l :=
  ⟨List.filter_eq_nil_iff.mpr fun a ha => by simp [h a ha],
    List.filter_eq_self.mpr fun a ha => by simp [h a ha]⟩

theorem filter_append_sep {p : ℕ → Bool} {A B : List ℕ} (hA : ∀ a ∈ A, p a = true)
    (hB : ∀ b ∈ B, p b = false) :
    (A ++ B).filter p = A ∧ (A ++ B).filter (fun x => !p x) = B := by
  rw [List.filter_append, List.filter_append, (filter_of_all hA).1, (filter_of_all hA).2,
    (filter_of_none hB).1, (filter_of_none hB).2, List.append_nil, List.nil_append]
  exact ⟨rfl, rfl⟩

/-! ### interleavings -/

theorem inter_nil_left (ys : List ℕ) : inter [] ys = [ys] := by
  rw [inter]

theorem inter_nil_right (xs : List ℕ) : inter xs [] = [xs] := by
  cases xs with
  | nil => rw [inter]
  | cons x xs => rw [inter]

theorem mem_inter_cons {x y : ℕ} {xs ys l : List ℕ} :
    l ∈ inter (x :: xs) (y :: ys) ↔
      (∃ l' ∈ inter xs (y :: ys), x :: l' = l) ∨ ∃ l' ∈ inter (x :: xs) ys, y :: l' = l := by
  rw [inter, List.mem_append, List.mem_map, List.mem_map]

theorem mem_inter_cons_left (x : ℕ) (A B l : List ℕ) (h : l ∈ inter A B) :
    x :: l ∈ inter (x :: A) B := by
  cases B with
  | nil => rw [inter_nil_right] at h ⊢; rw [List.mem_singleton] at h ⊢; rw [h]
  | cons y B => exact mem_inter_cons.mpr (Or.inl ⟨l, h, rfl⟩)

theorem mem_inter_cons_right (x : ℕ) (A B l : List ℕ) (h : l ∈ inter A B) :
    x :: l ∈ inter A (x :: B) := by
  cases A with
  | nil => rw [inter_nil_left] at h ⊢; rw [List.mem_singleton] at h ⊢; rw [h]
  | cons a A => exact mem_inter_cons.mpr (Or.inr ⟨l, h, rfl⟩)

theorem inter_spec (xs ys l : List ℕ) (h : l ∈ inter xs ys) :
    xs.Sublist l ∧ ys.Sublist l ∧ l.Perm (xs ++ ys) := by
  induction xs, ys using inter.induct generalizing l with
  | case1 ys =>
    rw [inter_nil_left, List.mem_singleton] at h
    rw [h]
    exact ⟨List.nil_sublist _, .refl _, .refl _⟩
  | case2 x xs =>
    rw [inter_nil_right, List.mem_singleton] at h
    rw [h, List.append_nil]
    exact ⟨.refl _, List.nil_sublist _, .refl _⟩
  | case3 x xs y ys ihx ihy =>
    rcases mem_inter_cons.mp h with ⟨l', hl', rfl⟩ | ⟨l', hl', rfl⟩
    · obtain ⟨h1, h2, h3⟩ := ihx l' hl'
      exact ⟨h1.cons_cons x, h2.cons x, h3.cons x⟩
    · obtain ⟨h1, h2, h3⟩ := ihy l' hl'
      exact ⟨h1.cons y, h2.cons_cons y, (h3.cons y).trans List.perm_middle.symm⟩

theorem length_inter (xs ys : List ℕ) :
    (inter xs ys).length = Nat.choose (xs.length + ys.length) xs.length := by
  induction xs, ys using inter.induct with
  | case1 ys => rw [inter_nil_left, List.length_nil, Nat.choose_zero_right, List.length_singleton]
  | case2 x xs => rw [inter_nil_right, List.length_nil, Nat.add_zero, Nat.choose_self, List.length_singleton]
  | case3 x xs y ys ihx ihy =>
    rw [inter, List.length_append, List.length_map, List.length_map, ihx, ihy]
    -- Pascal's rule for `n = |xs| + |ys| + 1`, `k = |xs|`
    show (xs.length + ys.length + 1).choose xs.length
        + (xs.length + 1 + ys.length).choose (xs.length + 1)
      = (xs.length + 1 + ys.length + 1).choose (xs.length + 1)
    rw [Nat.add_right_comm xs.length 1 ys.length]
    exact (Nat.choose_succ_succ' _ _).symm

/-- every list is an interleaving of its two complementary filters -/
theorem mem_inter_filter (p : ℕ → Bool) (l : List ℕ) :
    l ∈ inter (l.filter p) (l.filter fun x => !p x) := by
  induction l with
  | nil => rw [List.filter_nil, List.filter_nil, inter_nil_left, List.mem_singleton]
  | cons x l ih =>
    cases hx : p x with
    | true =>
      rw [List.filter_cons_of_pos hx, List.filter_cons_of_neg (by simp [hx])]
      exact mem_inter_cons_left x _ _ _ ih
    | false =>
      rw [List.filter_cons_of_neg (by simp [hx]), List.filter_cons_of_pos (by simp [hx])]
      exact mem_inter_cons_right x _ _ _ ih

theorem inter_filter (p : ℕ → Bool) (xs ys l : List ℕ) (h : l ∈ inter xs ys)
    (hx : ∀ a ∈ xs, p a = true) (hy : ∀ b ∈ ys, p b = false) :
    l.filter p = xs ∧ l.filter (fun x => !p x) = ys := by
  induction xs, ys using inter.induct generalizing l with
  | case1 ys =>
    rw [inter_nil_left, List.mem_singleton] at h
    rw [h]
    exact filter_of_none hy
  | case2 x xs =>
    rw [inter_nil_right, List.mem_singleton] at h
    rw [h]
    exact filter_of_all hx
  | case3 x xs y ys ihx ihy =>
    rcases mem_inter_cons.mp h with ⟨l', hl', rfl⟩ | ⟨l', hl', rfl⟩
    · obtain ⟨h1, h2⟩ := ihx l' hl' (fun a ha => hx a (List.mem_cons_of_mem x ha)) hy
      have hpx : p x = true := hx x List.mem_cons_self
      rw [List.filter_cons_of_pos hpx, List.filter_cons_of_neg (by simp [hpx]), h1, h2]
      exact ⟨rfl, rfl⟩
    · obtain ⟨h1, h2⟩ := ihy l' hl' hx (fun b hb => hy b (List.mem_cons_of_mem y hb))
      have hpy : p y = false := hy y List.mem_cons_self
      rw [List.filter_cons_of_neg (by simp [hpy]), List.filter_cons_of_pos (by simp [hpy]), h1, h2]
      exact ⟨rfl, rfl⟩

theorem inter_nodup (xs ys : List ℕ) (hdis : ∀ a ∈ xs, a ∉ ys) : (inter xs ys).Nodup := by
  induction xs, ys using inter.induct with
  | case1 ys => rw [inter_nil_left]; exact List.nodup_singleton _
  | case2 x xs => rw [inter_nil_right]; exact List.nodup_singleton _
  | case3 x xs y ys ihx ihy =>
    rw [inter, List.nodup_append]
    refine ⟨(ihx fun a ha => hdis a (List.mem_cons_of_mem x ha)).map (List.cons_injective),
      (ihy fun a ha hay => hdis a ha (List.mem_cons_of_mem y hay)).map (List.cons_injective), ?_⟩
    -- the two halves differ in their heads, and `x ≠ y`
    intro l1 h1 l2 h2 heq
    obtain ⟨l1', _, rfl⟩ := List.mem_map.mp h1
    obtain ⟨l2', _, rfl⟩ := List.mem_map.mp h2
    exact hdis x List.mem_cons_self ((List.cons.inj heq).1 ▸ List.mem_cons_self)

/-- interleaving stage: both lists can be read off an interleaving by filtering on membership in `A` -/
theorem nodup_inter_stage (L1 L2 : List (List ℕ)) (A : List ℕ) (h1 : L1.Nodup) (h2 : L2.Nodup)
    (hA : ∀ a ∈ L1, ∀ x ∈ a, x ∈ A) (hB : ∀ b ∈ L2, ∀ x ∈ b, x ∉ A) :
    (L1.flatMap fun a => L2.flatMap fun b => inter a b).Nodup := by
  have recov : ∀ a ∈ L1, ∀ b ∈ L2, ∀ σ ∈ inter a b, _ := fun a ha b hb σ hσ =>
    inter_filter (fun x => decide (x ∈ A)) a b σ hσ
      (fun x hx => decide_eq_true (hA a ha x hx)) (fun x hx => decide_eq_false (hB b hb x hx))
  refine nodup_flatMap_of_inv _ _ (fun σ => σ.filter fun x => decide (x ∈ A)) h1
    (fun a ha => ?_) fun a ha σ hσ => ?_
  · exact nodup_flatMap_of_inv _ _ (fun σ => σ.filter fun x => !decide (x ∈ A)) h2
      (fun b hb => inter_nodup _ _ fun x hx hxb => hB b hb x hxb (hA a ha x hx))
      fun b hb σ hσ => (recov a ha b hb σ hσ).2
  · obtain ⟨b, hb, hσ⟩ := List.mem_flatMap.mp hσ
    exact (recov a ha b hb σ hσ).1

theorem nodup_append_stage (L1 L2 : List (List ℕ)) (K : List ℕ) (h1 : L1.Nodup) (h2 : L2.Nodup)
    (hK : ∀ a ∈ L1, ∀ x ∈ a, x ∈ K) (hD : ∀ b ∈ L2, ∀ x ∈ b, x ∉ K) :
    (L1.flatMap fun a => L2.map (a ++ ·)).Nodup :=
  nodup_flatMap_of_inv _ _ (fun σ => σ.filter fun x => decide (x ∈ K)) h1
    (fun a _ => h2.map (List.append_right_injective a))
    fun a ha σ hσ => by
      obtain ⟨b, hb, rfl⟩ := List.mem_map.mp hσ
      exact (filter_append_sep (fun x hx => decide_eq_true (hK a ha x hx))
        fun x hx => decide_eq_false (hD b hb x hx)).1

/-! ### permutations -/

theorem length_insertAll (a : ℕ) (l : List ℕ) : (insertAll a l).length = l.length + 1 := by
  induction l with
  | nil => rfl
  | cons b l ih => rw [insertAll, List.length_cons, List.length_map, ih, List.length_cons]

theorem insertAll_spec (a : ℕ) (l l' : List ℕ) :
    l' ∈ insertAll a l ↔ ∃ l1 l2, l = l1 ++ l2 ∧ l' = l1 ++ a :: l2 := by
  induction l generalizing l' with
  | nil =>
    rw [insertAll, List.mem_singleton]
    constructor
    · intro h; exact ⟨[], [], rfl, h⟩
    · rintro ⟨l1, l2, h, rfl⟩
      obtain ⟨rfl, rfl⟩ := List.append_eq_nil_iff.mp h.symm
      rfl
  | cons b l ih =>
    rw [insertAll, List.mem_cons, List.mem_map]
    constructor
    · rintro (rfl | ⟨l'', hl'', rfl⟩)
      · exact ⟨[], b :: l, rfl, rfl⟩
      · obtain ⟨l1, l2, rfl, rfl⟩ := (ih l'').mp hl''
        exact ⟨b :: l1, l2, rfl, rfl⟩
    · rintro ⟨l1, l2, h, rfl⟩
      cases l1 with
      | nil => left; rw [List.nil_append] at h; rw [h]; rfl
      | cons c l1 =>
        obtain ⟨rfl, hl⟩ := List.cons.inj h
        exact Or.inr ⟨l1 ++ a :: l2, (ih _).mpr ⟨l1, l2, hl, rfl⟩, rfl⟩

theorem perm_of_mem_perms : ∀ (l p : List ℕ), p ∈ perms l → p.Perm l := by
  intro l
  induction l with
  | nil => intro p h; rw [perms, List.mem_singleton] at h; rw [h]
  | cons a l ih =>
    intro p h
    rw [perms, List.mem_flatMap] at h
    obtain ⟨p', hp', hp⟩ := h
    obtain ⟨l1, l2, rfl, rfl⟩ := (insertAll_spec a p' p).mp hp
    exact List.perm_middle.trans ((ih _ hp').cons a)

theorem mem_perms_of_perm : ∀ (l p : List ℕ), p.Perm l → p ∈ perms l := by
  intro l
  induction l with
  | nil => intro p h; rw [h.eq_nil, perms]; exact List.mem_singleton.mpr rfl
  | cons a l ih =>
    intro p h
    obtain ⟨l1, l2, rfl⟩ := List.append_of_mem (h.symm.subset List.mem_cons_self)
    rw [perms, List.mem_flatMap]
    exact ⟨l1 ++ l2, ih _ (List.perm_middle.symm.trans h).cons_inv,
      (insertAll_spec a _ _).mpr ⟨l1, l2, rfl, rfl⟩⟩

theorem length_perms (l : List ℕ) : (perms l).length = l.length.factorial := by
  induction l with
  | nil => rfl
  | cons a l ih =>
    rw [perms, length_flatMap_const _ _ (l.length + 1), ih, List.length_cons, Nat.factorial_succ,
      Nat.mul_comm]
    intro p hp
    rw [length_insertAll, (perm_of_mem_perms l p hp).length_eq]

theorem insertAll_nodup (a : ℕ) (l : List ℕ) (ha : a ∉ l) : (insertAll a l).Nodup := by
  induction l with
  | nil => exact List.nodup_singleton _
  | cons b l ih =>
    rw [insertAll, List.nodup_cons]
    refine ⟨?_, (ih fun h => ha (List.mem_cons_of_mem b h)).map List.cons_injective⟩
    intro h
    obtain ⟨l', _, h⟩ := List.mem_map.mp h
    exact ha ((List.cons.inj h).1 ▸ List.mem_cons_self)

theorem erase_of_mem_insertAll (a : ℕ) (l l' : List ℕ) (ha : a ∉ l) (h : l' ∈ insertAll a l) :
    l'.erase a = l := by
  obtain ⟨l1, l2, rfl, rfl⟩ := (insertAll_spec a l l').mp h
  rw [List.erase_append_right _ fun h => ha (List.mem_append_left l2 h), List.erase_cons_head]

theorem perms_nodup : ∀ (l : List ℕ), l.Nodup → (perms l).Nodup := by
  intro l
  induction l with
  | nil => intro _; exact List.nodup_singleton _
  | cons a l ih =>
    intro hnd
    obtain ⟨ha, hl⟩ := List.nodup_cons.mp hnd
    have hap : ∀ p ∈ perms l, a ∉ p := fun p hp h => ha ((perm_of_mem_perms l p hp).subset h)
    rw [perms]
    exact nodup_flatMap_of_inv _ _ (fun z => z.erase a) (ih hl)
      (fun p hp => insertAll_nodup a p (hap p hp))
      fun p hp z hz => erase_of_mem_insertAll a p z (hap p hp) hz

end PhyModel.Orders
