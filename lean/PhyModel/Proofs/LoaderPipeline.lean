import PhyModel.Proofs.LoaderBasics
/-! The loader pipeline (C17): a permutation of the rows changes no stage; what a successful `load`
looks like, entry by entry (`load_ok_shape`), and which mutations survive the two filters; the domain
`NoOffsetMix` on which the only error left is the copy-number error.  Every stage is a map or a bind
over the stage before (`entry_eq`, `cellEntry_eq`, `mutEntries_eq`, `load_eq`, `loadData_eq`), so when
it returns and when it raises is read off with the lemmas of `Proofs/ExceptLemmas.lean`. -/

namespace PhyModel.Loader
open List

/-! ### row order -/

theorem positive_perm {r₁ r₂ : List Row} (h : r₁ ~ r₂) : positive r₁ ~ positive r₂ :=
  h.filter _

theorem samplesOf_perm {r₁ r₂ : List Row} (h : r₁ ~ r₂) : samplesOf r₁ = samplesOf r₂ :=
  sortedDistinct_perm strLe_order (h.map _)

theorem mutsOf_perm {r₁ r₂ : List Row} (h : r₁ ~ r₂) : mutsOf r₁ = mutsOf r₂ :=
  sortedDistinct_perm strLe_order (h.map _)

theorem countMut_perm {r₁ r₂ : List Row} (h : r₁ ~ r₂) (m : String) : countMut r₁ m = countMut r₂ m :=
  (h.filter _).length_eq

theorem complete_perm {r₁ r₂ : List Row} (h : r₁ ~ r₂) (n : Nat) : complete r₁ n ~ complete r₂ n := by
  unfold complete
  rw [filter_congr fun r _ => congrArg (fun k => decide (k = n)) (countMut_perm h r.mid)]
  exact h.filter _

theorem keptRows_perm {r₁ r₂ : List Row} (h : r₁ ~ r₂) : keptRows r₁ ~ keptRows r₂ := by
  unfold keptRows
  rw [samplesOf_perm (positive_perm h)]
  exact complete_perm (positive_perm h) _

theorem cell_perm {r₁ r₂ : List Row} (h : r₁ ~ r₂) (m s : String) : cell r₁ m s ~ cell r₂ m s :=
  h.filter _

theorem pick_perm (m s : String) {l₁ l₂ : List Row} (h : l₁ ~ l₂) : pick m s l₁ = pick m s l₂ := by
  match l₁, l₂, h with
  | [], l₂, h => rw [h.symm.eq_nil]
  | [a], l₂, h => rw [perm_singleton.mp h.symm]
  | a :: b :: t, [], h => exact absurd h.length_eq (Nat.succ_ne_zero _)
  | a :: b :: t, [c], h => exact absurd (Nat.succ.inj h.length_eq) (Nat.succ_ne_zero _)
  | a :: b :: t, c :: d :: u, _ => rfl

theorem cellEntry_perm (tc er : Bool) {k₁ k₂ : List Row} (h : k₁ ~ k₂) (m s : String) :
    cellEntry tc er k₁ m s = cellEntry tc er k₂ m s := by
  unfold cellEntry
  rw [pick_perm m s (cell_perm h m s)]

theorem mutEntries_perm (tc er : Bool) {k₁ k₂ : List Row} (h : k₁ ~ k₂) (samples : List String)
    (m : String) : mutEntries tc er k₁ samples m = mutEntries tc er k₂ samples m := by
  unfold mutEntries
  rw [mapE_congr fun s _ => cellEntry_perm tc er h m s]

variable {tc er : Bool} {rows : List Row}

/-! ### `pick`, `entry`, `majorCnPrior` -/

theorem pick_ok_iff {m s : String} {l : List Row} {r : Row} : pick m s l = .ok r ↔ l = [r] := by
  match l with
  | [] => simp [pick]
  | [a] => simp [pick]
  | a :: b :: t => simp [pick]

theorem majorCnPrior_ok_iff {major minor normal : Nat} {err : Rat} :
    (∃ x, majorCnPrior major minor normal err = .ok x) ↔ ¬ major < minor := by
  unfold majorCnPrior
  by_cases h : major < minor
  · simp [h]
  · simp only [h, if_false, not_false_iff, iff_true]
    split <;> exact ⟨_, rfl⟩

theorem majorCnPrior_error {major minor normal : Nat} {err : Rat} (h : major < minor) :
    majorCnPrior major minor normal err = .error (.majorLtMinor major minor) := by
  simp [majorCnPrior, h]

theorem entry_eq {r : Row} :
    entry tc er r =
      (majorCnPrior r.major r.minor r.normal (if er then r.err else defaultErrorRate)).map fun p =>
        { a := r.ref, b := r.alt, cn := p.1, mu := p.2, t := if tc then r.tc else defaultTumourContent } := by
  unfold entry
  cases majorCnPrior r.major r.minor r.normal (if er = true then r.err else defaultErrorRate) <;> rfl

theorem entry_ok_iff {r : Row} : (∃ e, entry tc er r = .ok e) ↔ ¬ r.major < r.minor := by
  rw [entry_eq, ← majorCnPrior_ok_iff]
  exact ⟨fun ⟨_, h⟩ => let ⟨x, hx, _⟩ := map_eq_ok.mp h; ⟨x, hx⟩, fun ⟨x, hx⟩ => ⟨_, map_eq_ok.mpr ⟨x, hx, rfl⟩⟩⟩

theorem entry_error {r : Row} (h : r.major < r.minor) :
    entry tc er r = .error (.majorLtMinor r.major r.minor) := by
  rw [entry_eq, majorCnPrior_error h]
  rfl

/-- every VAF row of `majorCnPrior` carries the error rate in its first two places -/
theorem majorCnPrior_mu {major minor normal : Nat} {err : Rat} {cn mu}
    (h : majorCnPrior major minor normal err = .ok (cn, mu)) :
    ∀ g ∈ mu, g.1 = err ∧ g.2.1 = err := by
  unfold majorCnPrior at h
  split at h
  · cases h
  · dsimp only at h
    split at h
    · cases h
      exact forall_mem_map.mpr fun _ _ => ⟨rfl, rfl⟩
    · cases h
      exact forall_mem_append.mpr ⟨forall_mem_map.mpr fun _ _ => ⟨rfl, rfl⟩, forall_mem_singleton.mpr ⟨rfl, rfl⟩⟩

/-- what `entry` produces: counts of the row, tumour content and error rate from the row or the defaults -/
theorem entry_spec {r : Row} {e : Entry} (h : entry tc er r = .ok e) :
    e.a = r.ref ∧ e.b = r.alt ∧ e.t = (if tc then r.tc else defaultTumourContent) ∧
    majorCnPrior r.major r.minor r.normal (if er then r.err else defaultErrorRate) = .ok (e.cn, e.mu) := by
  rw [entry_eq] at h
  obtain ⟨⟨cn, mu⟩, hm, rfl⟩ := map_eq_ok.mp h
  exact ⟨rfl, rfl, rfl, hm⟩

/-! ### cells and counts -/

theorem keptRows_subset_positive {r : Row} (h : r ∈ keptRows rows) : r ∈ positive rows :=
  (mem_filter.mp h).1

theorem mem_positive {r : Row} : r ∈ positive rows ↔ r ∈ rows ∧ 0 < r.major := by
  unfold positive
  rw [mem_filter, decide_eq_true_eq]

theorem mem_keptRows {rows : List Row} {r : Row} :
    r ∈ keptRows rows ↔ r ∈ positive rows ∧
      countMut (positive rows) r.mid = (samplesOf (positive rows)).length := by
  unfold keptRows complete
  rw [mem_filter, decide_eq_true_eq]

theorem mem_cell {m s : String} {r : Row} :
    r ∈ cell rows m s ↔ r ∈ rows ∧ r.mid = m ∧ r.sample = s := by
  unfold cell
  rw [mem_filter, decide_eq_true_eq]

theorem cell_positive (rows : List Row) (m s : String) :
    cell (positive rows) m s = rows.filter fun r => decide (r.mid = m ∧ r.sample = s ∧ 0 < r.major) := by
  unfold cell positive
  rw [filter_filter]
  refine filter_congr fun r _ => ?_
  simp only [Bool.decide_and, Bool.and_assoc]

theorem cell_complete_of_count {pos : List Row} {n : Nat} {m : String} (h : countMut pos m = n) (s : String) :
    cell (complete pos n) m s = cell pos m s := by
  unfold cell complete
  rw [filter_filter]
  apply filter_congr
  intro r _
  by_cases h1 : r.mid = m
  · subst h1
    simp [h]
  · simp [h1]

theorem mem_mutsOf {m : String} : m ∈ mutsOf rows ↔ ∃ r ∈ rows, r.mid = m := by
  unfold mutsOf
  rw [mem_sortedDistinct, mem_map]

theorem mem_samplesOf {s : String} : s ∈ samplesOf rows ↔ ∃ r ∈ rows, r.sample = s := by
  unfold samplesOf
  rw [mem_sortedDistinct, mem_map]

theorem countMut_eq_zero {pos : List Row} {m : String} (h : ¬ ∃ r ∈ pos, r.mid = m) : countMut pos m = 0 :=
  length_eq_zero_iff.mpr (filter_eq_nil_iff.mpr fun r hr hm => h ⟨r, hr, of_decide_eq_true hm⟩)

theorem mem_mutsOf_complete {pos : List Row} {n : Nat} {m : String} :
    m ∈ mutsOf (complete pos n) ↔ countMut pos m = n ∧ ∃ r ∈ pos, r.mid = m := by
  rw [mem_mutsOf]
  unfold complete
  constructor
  · rintro ⟨r, hr, rfl⟩
    rw [mem_filter, decide_eq_true_eq] at hr
    exact ⟨hr.2, r, hr.1, rfl⟩
  · rintro ⟨hc, r, hr, rfl⟩
    exact ⟨r, mem_filter.mpr ⟨hr, by simpa using hc⟩, rfl⟩

theorem count_sample_eq_cell (pos : List Row) (m s : String) :
    ((pos.filter fun r => decide (r.mid = m)).map (·.sample)).count s = (cell pos m s).length := by
  unfold cell
  rw [count_eq_countP, countP_map, countP_eq_length_filter, filter_filter]
  refine congrArg length (filter_congr fun r _ => ?_)
  rw [Bool.decide_and, Bool.and_comm]
  exact congrArg _ (_root_.beq_eq_decide r.sample s)

theorem countMut_of_cells {pos : List Row} {m : String}
    (hall : ∀ s ∈ samplesOf pos, (cell pos m s).length = 1) : countMut pos m = (samplesOf pos).length := by
  unfold countMut
  rw [← length_map (f := (·.sample))]
  refine Perm.length_eq (perm_iff_count.mpr fun s => ?_)
  rw [count_sample_eq_cell]
  by_cases hs : s ∈ samplesOf pos
  · rw [hall s hs]
    exact Nat.le_antisymm (count_pos_iff.mpr hs) (nodup_iff_count.mp (nodup_sortedDistinct _ _) s)
  · rw [count_eq_zero_of_not_mem hs, length_eq_zero_iff, cell, filter_eq_nil_iff]
    intro r hr h
    exact hs (mem_samplesOf.mpr ⟨r, hr, (of_decide_eq_true h).2⟩)

/-! ### the shape of a successful load -/

/-- relation between a sample and its entry in the vector of mutation `m` -/
def CellOk (tc er : Bool) (kept : List Row) (m : String) (s : String) (e : Entry) : Prop :=
  ∃ r, cell kept m s = [r] ∧ entry tc er r = .ok e

theorem cellEntry_eq {kept : List Row} {m s : String} :
    cellEntry tc er kept m s = pick m s (cell kept m s) >>= entry tc er := by
  unfold cellEntry
  cases pick m s (cell kept m s) <;> rfl

theorem cellEntry_ok_iff {kept : List Row} {m s : String} {e : Entry} :
    cellEntry tc er kept m s = .ok e ↔ CellOk tc er kept m s e := by
  rw [cellEntry_eq, bind_eq_ok]
  exact exists_congr fun r => and_congr_left fun _ => pick_ok_iff

theorem mutEntries_eq {kept : List Row} {samples : List String} {m : String} :
    mutEntries tc er kept samples m = (mapE (cellEntry tc er kept m) samples).map fun es => (m, es) := by
  unfold mutEntries
  cases mapE (cellEntry tc er kept m) samples <;> rfl

theorem load_eq :
    load tc er rows =
      (mapE (mutEntries tc er (keptRows rows) (samplesOf (positive rows))) (mutsOf (keptRows rows))).map
        fun data => (samplesOf (positive rows), data) := by
  unfold load
  cases mapE (mutEntries tc er (keptRows rows) (samplesOf (positive rows))) (mutsOf (keptRows rows)) <;> rfl

theorem loadData_eq :
    loadData tc er rows = (load tc er rows).map fun p => (p.1, enumFrom 0 p.2) := by
  unfold loadData
  cases load tc er rows <;> rfl

theorem loadClustered_ok {cl : List CRow} {op : Rat} {ss : List String}
    {cs : List Cluster} (h : loadClustered tc er rows cl op = .ok (ss, cs)) :
    ∃ data assigned, load tc er rows = .ok (ss, data) ∧
      mapE (assignOne (dropDups [] cl)) data = .ok assigned ∧ cs = clustersOf (dropDups [] cl) op assigned := by
  unfold loadClustered at h
  split at h
  · cases h
  · next ss' data hl =>
    split at h
    · cases h
    · next assigned ha =>
      cases h
      exact ⟨data, assigned, hl, ha, rfl⟩

theorem assignOne_ok_fst {cl : List CRow} {d : String × List Entry} {a : String × Nat}
    (h : assignOne cl d = .ok a) : a.1 = d.1 := by
  unfold assignOne at h
  split at h
  · cases h
  · cases h
    rfl

theorem mem_members {cl : List CRow} {op : Rat} {assigned : List (String × Nat)} {ic : Nat × Nat} {m : String} :
    m ∈ (mkCluster cl op assigned ic).members ↔ ∃ a ∈ assigned, a.2 = ic.2 ∧ a.1 = m := by
  unfold mkCluster
  simp only [mem_map, mem_filter, decide_eq_true_eq, and_assoc]

/-- **shape of a successful load**: the samples are the sorted distinct sample ids of the usable
rows, the data are indexed by the sorted distinct mutation ids of the rows that survive both
filters, and every mutation's vector has, sample by sample, the entry of the unique row of that cell -/
theorem load_ok_shape {ss : List String} {data : List (String × List Entry)}
    (h : load tc er rows = .ok (ss, data)) :
    ss = samplesOf (positive rows) ∧
    Forall₂ (fun m d => d.1 = m ∧ Forall₂ (CellOk tc er (keptRows rows) m) ss d.2)
      (mutsOf (keptRows rows)) data := by
  rw [load_eq] at h
  obtain ⟨_, hm, he⟩ := map_eq_ok.mp h
  cases he
  refine ⟨rfl, (mapE_ok hm).imp fun m d hd => ?_⟩
  rw [mutEntries_eq] at hd
  obtain ⟨es, hes, rfl⟩ := map_eq_ok.mp hd
  exact ⟨rfl, (mapE_ok hes).imp fun s e he => cellEntry_ok_iff.mp he⟩

theorem load_ok_names {ss : List String} {data : List (String × List Entry)}
    (h : load tc er rows = .ok (ss, data)) : data.map (·.1) = mutsOf (keptRows rows) :=
  forall₂_map_eq (load_ok_shape h).2

/-- when the load succeeds every cell of a kept mutation holds exactly one row -/
theorem load_ok_cells {ss : List String} {data : List (String × List Entry)}
    (h : load tc er rows = .ok (ss, data)) {m : String} (hm : m ∈ mutsOf (keptRows rows)) {s : String}
    (hs : s ∈ ss) : ∃ r e, cell (keptRows rows) m s = [r] ∧ entry tc er r = .ok e := by
  obtain ⟨d, _, _, hd⟩ := forall₂_mem_left (load_ok_shape h).2 hm
  obtain ⟨e, _, r, hr⟩ := forall₂_mem_left hd hs
  exact ⟨r, e, hr⟩

/-! ### the domain on which the load succeeds -/

/-- no mutation passes the count filter with a wrong distribution over the samples (the "extra
rows in one sample offset missing rows in another" mix of the property's exclusions) -/
def NoOffsetMix (rows : List Row) : Prop :=
  ∀ m, countMut (positive rows) m = (samplesOf (positive rows)).length →
    ∀ s ∈ samplesOf (positive rows), (cell (positive rows) m s).length = 1

theorem count_of_mem_mutsOf_kept {m : String} (h : m ∈ mutsOf (keptRows rows)) :
    countMut (positive rows) m = (samplesOf (positive rows)).length :=
  (mem_mutsOf_complete.mp h).1

theorem cell_kept_eq {m : String} (h : m ∈ mutsOf (keptRows rows)) (s : String) :
    cell (keptRows rows) m s = cell (positive rows) m s :=
  cell_complete_of_count (count_of_mem_mutsOf_kept h) s

/-- only mutations that have a usable row need checking: any other has count 0, and a table whose
count of samples is 0 has no sample -/
theorem noOffsetMix_of_present
    (h : ∀ r ∈ positive rows, countMut (positive rows) r.mid = (samplesOf (positive rows)).length →
      ∀ s ∈ samplesOf (positive rows), (cell (positive rows) r.mid s).length = 1) : NoOffsetMix rows := by
  intro m hc s hs
  by_cases hex : ∃ r ∈ positive rows, r.mid = m
  · obtain ⟨r, hr, rfl⟩ := hex
    exact h r hr hc s hs
  · rw [countMut_eq_zero hex] at hc
    rw [length_eq_zero_iff.mp hc.symm] at hs
    cases hs

theorem cell_kept_singleton (hno : NoOffsetMix rows) {m : String}
    (hm : m ∈ mutsOf (keptRows rows)) {s : String} (hs : s ∈ samplesOf (positive rows)) :
    ∃ r ∈ keptRows rows, cell (keptRows rows) m s = [r] := by
  have h1 := hno m (count_of_mem_mutsOf_kept hm) s hs
  rw [← cell_kept_eq hm] at h1
  obtain ⟨r, hr⟩ := length_eq_one_iff.mp h1
  exact ⟨r, (mem_cell.mp (hr ▸ mem_singleton.mpr rfl : r ∈ cell (keptRows rows) m s)).1, hr⟩

/-- under `NoOffsetMix` every error is the copy-number error -/
theorem load_error_kind {e : LoadErr} (hno : NoOffsetMix rows)
    (h : load tc er rows = .error e) : ∃ r ∈ keptRows rows, r.major < r.minor ∧ e = .majorLtMinor r.major r.minor := by
  rw [load_eq] at h
  obtain ⟨m, hmem, hme⟩ := mapE_error (map_eq_error.mp h)
  rw [mutEntries_eq] at hme
  obtain ⟨s, hs, hce⟩ := mapE_error (map_eq_error.mp hme)
  obtain ⟨r, hrk, hr⟩ := cell_kept_singleton hno hmem hs
  unfold cellEntry at hce
  rw [hr] at hce
  by_cases hlt : r.major < r.minor
  · exact ⟨r, hrk, hlt, Except.error.inj ((entry_error hlt).symm.trans hce) ▸ rfl⟩
  · obtain ⟨e', he'⟩ := entry_ok_iff.mpr hlt
    exact nomatch he'.symm.trans hce

end PhyModel.Loader
