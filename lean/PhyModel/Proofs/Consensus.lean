import Mathlib.Data.Finset.Basic
import Mathlib.Data.Finset.Card
import Mathlib.Data.Finset.Lattice.Fold
import Mathlib.Data.Finset.Union
import Mathlib.Data.Finset.Max
import Mathlib.Data.List.Nodup
import Mathlib.Algebra.BigOperators.Group.Finset.Basic
import Mathlib.Algebra.Order.BigOperators.Group.Finset
import Mathlib.Algebra.Order.Field.Rat
/-! Finset-level theory behind the consensus tree (C16), free of the executable model: the clades
of a forest over distinct data are pairwise nested or disjoint; clades whose weight exceeds a
threshold ≥ 1/2 form a laminar family; in a laminar family the smallest strict superset is unique,
a member has one parent, siblings are disjoint, every strict sub-member lies inside a child and
every member inside a maximal one. -/

open Finset

namespace Consensus

/-- nested or disjoint -/
def Compatible (a b : Finset ℕ) : Prop := a ⊆ b ∨ b ⊆ a ∨ Disjoint a b

def Laminar (M : Finset (Finset ℕ)) : Prop := ∀ a ∈ M, ∀ b ∈ M, Compatible a b

/-! ### clades of one forest are laminar -/

inductive Forest where
  | nil
  | cons (dps : List ℕ) (kids : Forest) (sibs : Forest)

namespace Forest
def all : Forest → List ℕ
  | nil => []
  | cons d k s => (all k ++ d) ++ all s
/-- the clade of every clone: its own data and all data below it -/
def clades : Forest → List (Finset ℕ)
  | nil => []
  | cons d k s => ((all k ++ d).toFinset :: clades k) ++ clades s
end Forest

theorem clade_subset_all : ∀ (f : Forest) (c : Finset ℕ), c ∈ f.clades → c ⊆ f.all.toFinset := by
  intro f
  induction f with
  | nil => intro c h; cases h
  | cons d k s ihk ihs =>
    intro c h
    simp only [Forest.clades, List.mem_append, List.mem_cons] at h
    simp only [Forest.all, List.toFinset_append]
    rcases h with (rfl | h) | h
    · exact List.toFinset_append.subset.trans subset_union_left
    · exact (ihk c h).trans (subset_union_left.trans subset_union_left)
    · exact (ihs c h).trans subset_union_right

theorem Compatible.symm {a b : Finset ℕ} : Compatible a b → Compatible b a
  | .inl h => .inr (.inl h)
  | .inr (.inl h) => .inl h
  | .inr (.inr h) => .inr (.inr h.symm)

/-- the clade of a clone contains the clades below it, and everything in the first tree is disjoint
from the siblings -/
theorem clades_pairwise (f : Forest) (hnd : f.all.Nodup) : f.clades.Pairwise Compatible := by
  induction f with
  | nil => exact .nil
  | cons d k s ihk ihs =>
    obtain ⟨hA, hs, hdj⟩ := List.nodup_append.mp hnd
    have hdisj : Disjoint (k.all ++ d).toFinset s.all.toFinset :=
      List.disjoint_toFinset_iff_disjoint.mpr (List.disjoint_iff_ne.mpr hdj)
    have inKids : ∀ c ∈ k.clades, c ⊆ (k.all ++ d).toFinset := fun c hc => by
      rw [List.toFinset_append]
      exact (clade_subset_all k c hc).trans subset_union_left
    have apart : ∀ c, c ⊆ (k.all ++ d).toFinset → ∀ e ∈ s.clades, Compatible c e := fun c hc e he =>
      .inr (.inr (disjoint_of_subset_left hc (disjoint_of_subset_right (clade_subset_all s e he) hdisj)))
    rw [Forest.clades, List.cons_append, List.pairwise_cons, List.pairwise_append]
    refine ⟨fun x hx => ?_, ihk (List.nodup_append.mp hA).1, ihs hs, fun a ha => apart a (inKids a ha)⟩
    rcases List.mem_append.mp hx with hx | hx
    · exact .inr (.inl (inKids x hx))
    · exact apart _ (Subset.refl _) x hx

theorem clades_laminar : ∀ (f : Forest), f.all.Nodup →
    ∀ a ∈ f.clades, ∀ b ∈ f.clades, Compatible a b := fun f hnd _ ha _ hb =>
  (clades_pairwise f hnd).forall_of_forall_of_flip (fun _ _ => .inl (Subset.refl _))
    ((clades_pairwise f hnd).imp Compatible.symm) ha hb

/-! ### majority clades are laminar -/

/-- two index sets each of weight > θ ≥ 1/2 (weights ≥ 0, total ≤ 1) intersect -/
theorem majority_intersect {ι : Type} [DecidableEq ι] (s A B : Finset ι) (p : ι → ℚ) (θ : ℚ)
    (hθ : 1/2 ≤ θ) (hp : ∀ i ∈ s, 0 ≤ p i) (hs : ∑ i ∈ s, p i ≤ 1) (hA : A ⊆ s) (hB : B ⊆ s)
    (ha : θ < ∑ i ∈ A, p i) (hb : θ < ∑ i ∈ B, p i) : (A ∩ B).Nonempty := by
  by_contra h
  have hd : Disjoint A B := disjoint_iff_inter_eq_empty.mpr (not_nonempty_iff_eq_empty.mp h)
  have hle : ∑ i ∈ A, p i + ∑ i ∈ B, p i ≤ 1 := by
    rw [← sum_union hd]
    exact (sum_le_sum_of_subset_of_nonneg (union_subset hA hB) fun i hi _ => hp i hi).trans hs
  exact (((add_halves (1 : ℚ)).ge.trans (add_le_add hθ hθ)).trans_lt
    ((add_lt_add ha hb).trans_le hle)).false

/-- support of a clade: total weight of the trees that contain it (weights = 1/n for counts,
normalised scores in weighted mode) -/
def support {ι : Type} [DecidableEq ι] (s : Finset ι) (p : ι → ℚ) (cl : ι → Finset (Finset ℕ))
    (c : Finset ℕ) : ℚ := ∑ i ∈ s.filter (fun i => c ∈ cl i), p i

theorem majority_laminar {ι : Type} [DecidableEq ι] (s : Finset ι) (p : ι → ℚ)
    (cl : ι → Finset (Finset ℕ)) (θ : ℚ) (hθ : 1/2 ≤ θ)
    (hp : ∀ i ∈ s, 0 ≤ p i) (hs : ∑ i ∈ s, p i ≤ 1)
    (hlam : ∀ i ∈ s, Laminar (cl i)) (M : Finset (Finset ℕ))
    (hM : ∀ c ∈ M, θ < support s p cl c) : Laminar M := by
  intro a ha b hb
  obtain ⟨i, hi⟩ := majority_intersect s (s.filter fun i => a ∈ cl i) (s.filter fun i => b ∈ cl i)
    p θ hθ hp hs (filter_subset _ _) (filter_subset _ _) (hM a ha) (hM b hb)
  obtain ⟨hia, hib⟩ := mem_inter.mp hi
  exact hlam i (mem_filter.mp hia).1 a (mem_filter.mp hia).2 b (mem_filter.mp hib).2

/-! ### nesting a laminar family -/

/-- in a laminar family of non-empty sets, two strict supersets of the same set that have the
same size are equal: `find_smallest_superset` can never meet its "inconsistent" branch -/
theorem smallest_superset_unique (M : Finset (Finset ℕ)) (hlam : Laminar M)
    (c : Finset ℕ) (hc : c.Nonempty) (d1 d2 : Finset ℕ) (h1 : d1 ∈ M) (h2 : d2 ∈ M)
    (hs1 : c ⊆ d1) (hs2 : c ⊆ d2) (hcard : d1.card = d2.card) : d1 = d2 := by
  rcases hlam d1 h1 d2 h2 with h | h | h
  · exact eq_of_subset_of_card_le h hcard.ge
  · exact (eq_of_subset_of_card_le h hcard.le).symm
  · obtain ⟨x, hx⟩ := hc
    exact (disjoint_left.mp h (hs1 hx) (hs2 hx)).elim

/-- children of `c`: members of `M` strictly inside `c` with no member strictly in between -/
def isChild (M : Finset (Finset ℕ)) (c d : Finset ℕ) : Prop :=
  d ∈ M ∧ d ⊂ c ∧ ∀ e ∈ M, d ⊂ e → e ⊆ c → e = c

/-- own mutations of `c` after `relabel`: those not in any child clade -/
def own (M : Finset (Finset ℕ)) [DecidablePred fun d : Finset ℕ => ∃ e ∈ M, e ⊂ d ∧ True]
    (c : Finset ℕ) : Finset ℕ :=
  c \ (M.filter (fun d => d ⊂ c)).biUnion id

/-- every element of a member `c` lies in the own-set of exactly the smallest member that contains
it; hence the own-sets of the members inside `c` union to `c`: the tree built by nesting has
exactly the clades `M` -/
theorem own_cover (M : Finset (Finset ℕ)) (c : Finset ℕ) (hc : c ∈ M) :
    (M.filter (fun d => d ⊆ c)).biUnion (fun d => d \ (M.filter (fun e => e ⊂ d)).biUnion id) = c := by
  apply Subset.antisymm
  · intro x hx
    obtain ⟨d, hd, hxd⟩ := mem_biUnion.mp hx
    exact (mem_filter.mp hd).2 (mem_sdiff.mp hxd).1
  · intro x hx
    -- among the members inside c that contain x, one of minimal size owns x
    obtain ⟨d, hdS, hmin⟩ := exists_min_image (M.filter fun d => d ⊆ c ∧ x ∈ d) card
      ⟨c, mem_filter.mpr ⟨hc, Subset.refl _, hx⟩⟩
    obtain ⟨hdM, hdc, hxd⟩ := mem_filter.mp hdS
    refine mem_biUnion.mpr ⟨d, mem_filter.mpr ⟨hdM, hdc⟩, mem_sdiff.mpr ⟨hxd, fun hxU => ?_⟩⟩
    obtain ⟨e, he, hxe⟩ := mem_biUnion.mp hxU
    obtain ⟨heM, hed⟩ := mem_filter.mp he
    exact (card_lt_card hed).not_ge (hmin e (mem_filter.mpr ⟨heM, hed.subset.trans hdc, hxe⟩))

/-- a non-empty member has at most one parent in a laminar family -/
theorem isChild_unique {M : Finset (Finset ℕ)} (hlam : Laminar M) {c p d : Finset ℕ}
    (hd : d.Nonempty) (hc : c ∈ M) (hp : p ∈ M) (h1 : isChild M c d) (h2 : isChild M p d) :
    p = c := by
  rcases hlam p hp c hc with h | h | h
  · exact h1.2.2 p hp h2.2.1 h
  · exact (h2.2.2 c hc h1.2.1 h).symm
  · obtain ⟨x, hx⟩ := hd
    exact (disjoint_left.mp h (h2.2.1.subset hx) (h1.2.1.subset hx)).elim

/-- two different children of the same node are disjoint: `set.remove` in `relabel` never meets
an element twice -/
theorem children_disjoint {M : Finset (Finset ℕ)} (hlam : Laminar M) {c d1 d2 : Finset ℕ}
    (h1 : isChild M c d1) (h2 : isChild M c d2) (hne : d1 ≠ d2) : Disjoint d1 d2 := by
  rcases hlam d1 h1.1 d2 h2.1 with h | h | h
  · exact (h2.2.1.ne (h1.2.2 d2 h2.1 (h.ssubset_of_ne hne) h2.2.1.subset)).elim
  · exact (h1.2.1.ne (h2.2.2 d1 h1.1 (h.ssubset_of_ne hne.symm) h1.2.1.subset)).elim
  · exact h

/-- every member lies inside a maximal member (a root of the consensus graph) -/
theorem exists_max_above (M : Finset (Finset ℕ)) {e : Finset ℕ} (he : e ∈ M) :
    ∃ d ∈ M, e ⊆ d ∧ ∀ e' ∈ M, ¬ d ⊂ e' := by
  obtain ⟨d, hdS, hmax⟩ := exists_max_image (M.filter fun d => e ⊆ d) card
    ⟨e, mem_filter.mpr ⟨he, Subset.refl _⟩⟩
  obtain ⟨hdM, hed⟩ := mem_filter.mp hdS
  refine ⟨d, hdM, hed, fun e' he' hde' => ?_⟩
  exact (card_lt_card hde').not_ge (hmax e' (mem_filter.mpr ⟨he', hed.trans hde'.subset⟩))

/-- the child is a maximal member strictly inside `c` -/
theorem exists_child_above (M : Finset (Finset ℕ)) {c e : Finset ℕ} (he : e ∈ M) (hec : e ⊂ c) :
    ∃ d, isChild M c d ∧ e ⊆ d := by
  obtain ⟨d, hd, hed, hmax⟩ := exists_max_above (M.filter (· ⊂ c)) (mem_filter.mpr ⟨he, hec⟩)
  obtain ⟨hdM, hdc⟩ := mem_filter.mp hd
  refine ⟨d, ⟨hdM, hdc, fun e' he' hde' he'c => ?_⟩, hed⟩
  by_contra hne
  exact hmax e' (mem_filter.mpr ⟨he', he'c.ssubset_of_ne hne⟩) hde'

/-- the number of members strictly inside a node drops when going to a member strictly inside
it: the depth of the consensus graph below `c` is at most that number (fuel of `buildNode`) -/
theorem card_strict_lt (M : Finset (Finset ℕ)) {c d : Finset ℕ} (hd : d ∈ M) (hdc : d ⊂ c) :
    (M.filter (fun e => e ⊂ d)).card < (M.filter (fun e => e ⊂ c)).card := by
  refine card_lt_card (ssubset_iff_of_subset ?_ |>.mpr ⟨d, mem_filter.mpr ⟨hd, hdc⟩, ?_⟩)
  · intro e he
    exact mem_filter.mpr ⟨(mem_filter.mp he).1, (mem_filter.mp he).2.trans hdc⟩
  · exact fun h => (mem_filter.mp h).2.ne rfl

/-- the union of the children of `c` is the union of all members strictly inside `c` -/
theorem mem_child_iff_mem_strict (M : Finset (Finset ℕ)) (c : Finset ℕ) (x : ℕ) :
    (∃ d, isChild M c d ∧ x ∈ d) ↔ x ∈ (M.filter (fun e => e ⊂ c)).biUnion id := by
  simp only [mem_biUnion, mem_filter, id]
  constructor
  · rintro ⟨d, hd, hx⟩; exact ⟨d, ⟨hd.1, hd.2.1⟩, hx⟩
  · rintro ⟨e, ⟨he, hec⟩, hx⟩
    obtain ⟨d, hd, hed⟩ := exists_child_above M he hec
    exact ⟨d, hd, hed hx⟩

#print axioms clades_laminar
#print axioms majority_laminar
#print axioms smallest_superset_unique
#print axioms own_cover
end Consensus
