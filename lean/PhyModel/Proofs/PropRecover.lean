import PhyModel.Proofs.PropKeys
import PhyModel.Proofs.PropTable
import PhyModel.Model.SMC
/-! The parent state is recovered from any placement of a fresh data point by removing that data
point (`SMC.restrictF` with `keep := (· ≠ i)`), so two different parents never produce the same
child.  `restrictF` on a canonical forest acts clone by clone on the top level (`rr`) and leaves a
forest alone whose data is all kept; a placement puts the new data point into a top-level clone, into
a new clone above some of them, or among the outliers, so removing it again leaves the parent's
top-level clones up to order (`recover_placement_proof`). -/

namespace PhyModel
open Orders Orders.Forest Proposal SMC

namespace Proposal
/-- every clone holds at least one data point -/
def AllNonempty : DF → Prop
  | .nil => True
  | .cons d k s => d ≠ [] ∧ AllNonempty k ∧ AllNonempty s

/-- what `restrictF` does to one top-level clone: drop the data that is not kept; a clone left
without data disappears and its children take its place -/
def rr (keep : ℕ → Bool) (x : List ℕ × DF) : List (List ℕ × DF) :=
  if (x.1.filter keep).isEmpty then (restrictF keep x.2).roots
  else [(x.1.filter keep, restrictF keep x.2)]
end Proposal

theorem allNonempty_iff_roots (f : DF) :
    AllNonempty f ↔ ∀ x ∈ roots f, x.1 ≠ [] ∧ AllNonempty x.2 := by
  induction f with
  | nil => simp [AllNonempty, roots]
  | cons d k s _ ihs =>
    simp only [AllNonempty, roots, List.mem_cons, forall_eq_or_imp, ihs, and_assoc]

theorem allNonempty_ofRoots (L : List (List ℕ × DF)) :
    AllNonempty (ofRoots L) ↔ ∀ x ∈ L, x.1 ≠ [] ∧ AllNonempty x.2 := by
  rw [allNonempty_iff_roots, roots_ofRoots]

theorem restrictF_id (keep : ℕ → Bool) (f : DF) (hne : AllNonempty f)
    (hk : ∀ a ∈ f.all, keep a = true) : restrictF keep f = f := by
  induction f with
  | nil => rfl
  | cons d k s ihk ihs =>
    obtain ⟨h1, h2, h3⟩ := hne
    simp only [Forest.all, List.mem_append] at hk
    have hd : d.filter keep = d := List.filter_eq_self.mpr fun a ha => hk a (Or.inl (Or.inr ha))
    have hk' := ihk h2 fun a ha => hk a (Or.inl (Or.inl ha))
    have hs' := ihs h3 fun a ha => hk a (Or.inr ha)
    simp only [restrictF, hd, hk', hs']
    cases d with
    | nil => exact absurd rfl h1
    | cons a d => simp

theorem allNonempty_iff_ne (f : DF) : AllNonempty f ↔ Canon.NE f := by
  induction f with
  | nil => exact Iff.rfl
  | cons d k s ihk ihs => exact and_congr Iff.rfl (and_congr ihk ihs)

theorem allNonempty_canon (f : DF) (h : AllNonempty f) : AllNonempty (canon f) :=
  (allNonempty_iff_ne _).mpr ((Canon.canon_eqv f).symm.ne ((allNonempty_iff_ne f).mp h))

theorem restrictF_ofRoots (keep : ℕ → Bool) (L : List (List ℕ × DF)) :
    restrictF keep (ofRoots L) = ofRoots (L.flatMap (rr keep)) := by
  induction L with
  | nil => rfl
  | cons x L ih =>
    obtain ⟨d, k⟩ := x
    simp only [ofRoots, restrictF, ih, List.flatMap_cons, rr, roots_ofRoots]
    split
    · rfl
    · simp [ofRoots]

/-- a top-level clone that loses none of its own data below the top and keeps some of its own data -/
theorem rr_cn (keep : ℕ → Bool) (x : List ℕ × DF) (hd : x.1.filter keep ≠ [])
    (hne : AllNonempty x.2) (hk : ∀ a ∈ x.2.all, keep a = true) :
    rr keep (cn x) = [cn (x.1.filter keep, x.2)] := by
  have h1 : ¬ ((sortNat x.1).filter keep).isEmpty = true := by
    rw [filter_sortNat, List.isEmpty_iff]
    exact fun e => hd (List.Perm.eq_nil (e ▸ (sortNat_perm _).symm))
  have h2 : restrictF keep (canon x.2) = canon x.2 :=
    restrictF_id keep _ (allNonempty_canon _ hne) (fun a ha => hk a ((mem_canon_all x.2 a).mp ha))
  unfold rr
  refine (if_neg h1).trans ?_
  simp only [cn, h2, filter_sortNat]

/-! ### recovering the parent -/

namespace Proposal
/-- the state recovered from a child by removing data point `i` (this is `SMC.restrict` with every
data point but `i` kept) -/
def recover (i : ℕ) (t : T) : T :=
  T.mk' (restrictF (fun a => a != i) t.f) (t.out.filter fun a => a != i)

/-- well-formed parent for placing the fresh data point `i` -/
structure WFParent (p : T) (i : ℕ) : Prop where
  fresh_f : i ∉ p.f.all
  fresh_o : i ∉ p.out
  nonempty : AllNonempty p.f
  keys : DistinctKeys p.f.roots

/-- a top-level clone not containing `i`, all of whose clones hold data -/
def Good (i : ℕ) (x : List ℕ × DF) : Prop := i ∉ x.1 ∧ i ∉ x.2.all ∧ x.1 ≠ [] ∧ AllNonempty x.2
end Proposal

theorem keep_of_not_mem (i : ℕ) (l : List ℕ) (h : i ∉ l) : ∀ a ∈ l, (a != i) = true :=
  fun _ ha => bne_iff_ne.2 fun e => h (e ▸ ha)

theorem filter_ne_append_self (i : ℕ) (l : List ℕ) (h : i ∉ l) :
    (l ++ [i]).filter (fun a => a != i) = l := by
  rw [List.filter_append, List.filter_bne_eq_self_of_not_mem h, List.filter_cons_of_neg (by simp),
    List.filter_nil, List.append_nil]

theorem good_of_wf (p : T) (i : ℕ) (wf : WFParent p i) : ∀ x ∈ p.f.roots, Good i x := by
  intro x hx
  have h1 := (allNonempty_iff_roots p.f).mp wf.nonempty x hx
  refine ⟨fun h => wf.fresh_f ((mem_all_iff_roots _ _).mpr ⟨x, hx, Or.inl h⟩),
    fun h => wf.fresh_f ((mem_all_iff_roots _ _).mpr ⟨x, hx, Or.inr h⟩), h1.1, h1.2⟩

theorem good_rr (i : ℕ) (x : List ℕ × DF) (h : Good i x) :
    rr (fun a => a != i) (cn x) = [cn x] := by
  obtain ⟨h1, h2, h3, h4⟩ := h
  have hf := List.filter_bne_eq_self_of_not_mem h1
  rw [rr_cn _ x (by rw [hf]; exact h3) h4 (keep_of_not_mem i _ h2), hf]

theorem flatMap_rr_id (i : ℕ) (l : List (List ℕ × DF)) (h : ∀ x ∈ l, Good i x) :
    l.flatMap (fun x => rr (fun a => a != i) (cn x)) = l.map cn := by
  induction l with
  | nil => rfl
  | cons x l ih =>
    rw [List.flatMap_cons, good_rr i x (h x List.mem_cons_self),
      ih (fun y hy => h y (List.mem_cons_of_mem _ hy))]
    rfl

theorem flatMap_rr_addAt (i : ℕ) : ∀ (l : List (List ℕ × DF)) (j : ℕ), (∀ x ∈ l, Good i x) →
    (addAt i j l).flatMap (fun x => rr (fun a => a != i) (cn x)) = l.map cn := by
  intro l
  induction l with
  | nil => intro j _; cases j <;> rfl
  | cons x l ih =>
    intro j h
    obtain ⟨d, k⟩ := x
    obtain ⟨h1, h2, h3, h4⟩ := h (d, k) List.mem_cons_self
    have hl := fun y hy => h y (List.mem_cons_of_mem _ hy)
    cases j with
    | zero =>
      simp only [addAt, List.flatMap_cons, List.map_cons]
      have hf := filter_ne_append_self i d h1
      rw [rr_cn _ (d ++ [i], k) (by rw [hf]; exact h3) h4 (keep_of_not_mem i _ h2), hf,
        flatMap_rr_id i l hl]
      rfl
    | succ j =>
      simp only [addAt, List.flatMap_cons, List.map_cons]
      rw [good_rr i (d, k) ⟨h1, h2, h3, h4⟩, ih j hl]
      rfl

/-- any reordering of the canonical top-level clones has the parent's canonical form -/
theorem final_canon (rs N : List (List ℕ × DF)) (hkeys : DistinctKeys rs) (hN : N.Perm (rs.map cn)) :
    canon (ofRoots N) = canon (ofRoots rs) := by
  have hk' : DistinctKeys (rs.map cn) := by
    unfold DistinctKeys at hkeys ⊢
    rwa [List.map_map, (funext fun x => congrArg rootKey (cn_cn x) :
      (fun x => rootKey (cn x)) ∘ cn = fun x => rootKey (cn x))]
  rw [canon_ofRoots_perm _ N _ hk' hN hN.subset, canon_ofRoots, List.map_map,
    (funext cn_cn : cn ∘ cn = cn), ← canon_ofRoots]

theorem recover_of_perm (p : T) (i : ℕ) (wf : WFParent p i) (L : List (List ℕ × DF))
    (h : (L.flatMap fun x => rr (fun a => a != i) (cn x)).Perm (p.f.roots.map cn)) :
    recover i (T.mk' (ofRoots L) p.out) = T.mk' p.f p.out := by
  have hout : sortNat ((sortNat p.out).filter fun a => a != i) = sortNat p.out := by
    rw [filter_sortNat, List.filter_bne_eq_self_of_not_mem wf.fresh_o, sortNat_idem]
  have hf : canon (restrictF (fun a => a != i) (canon (ofRoots L))) = canon p.f := by
    rw [canon_ofRoots, restrictF_ofRoots, final_canon p.f.roots _ wf.keys, ofRoots_roots]
    refine ((perm_sortRoots _).flatMap_right _).trans ?_
    rw [List.flatMap_map]
    exact h
  simp only [recover, T.mk', hout, hf]

theorem recover_placement_proof (p : T) (i : ℕ) (wf : WFParent p i) (kt : Kind × T)
    (hkt : kt ∈ placements p i) : recover i kt.2 = T.mk' p.f p.out := by
  have hgood := good_of_wf p i wf
  rw [placements_eq] at hkt
  simp only [List.mem_append, List.mem_map, List.mem_range, List.mem_singleton] at hkt
  rcases hkt with (⟨j, _, rfl⟩ | ⟨cr, hcr, rfl⟩) | rfl
  ·
    exact recover_of_perm p i wf _ (by rw [flatMap_rr_addAt i _ j hgood])
  ·
    obtain ⟨c, r⟩ := cr
    obtain ⟨hc, hr, _⟩ := mem_splits _ _ hcr
    have hgc : ∀ x ∈ c, Good i x := fun x hx => hgood x (hc x hx)
    have hgr : ∀ x ∈ r, Good i x := fun x hx => hgood x (hr x hx)
    have hNE : AllNonempty (canon (ofRoots c)) :=
      allNonempty_canon _ ((allNonempty_ofRoots c).mpr (fun x hx => ⟨(hgc x hx).2.2.1, (hgc x hx).2.2.2⟩))
    have hfree : i ∉ (canon (ofRoots c)).all := by
      intro h
      rw [mem_canon_all, mem_all_iff_roots, roots_ofRoots] at h
      obtain ⟨x, hx, h | h⟩ := h
      · exact (hgc x hx).1 h
      · exact (hgc x hx).2.1 h
    -- the new clone loses its only data point, and its children, the chosen clones, take its place
    have hfirst : rr (fun a => a != i) (cn ([i], ofRoots c)) = sortRoots (c.map cn) := by
      have hthis : ([i].filter (fun a => a != i)).isEmpty = true := by
        rw [List.filter_cons_of_neg (by simp)]; rfl
      refine (if_pos hthis).trans ?_
      show roots (restrictF _ (canon (ofRoots c))) = _
      rw [restrictF_id _ _ hNE (keep_of_not_mem i _ hfree), canon_ofRoots, roots_ofRoots]
    refine recover_of_perm p i wf (([i], ofRoots c) :: r) ?_
    rw [List.flatMap_cons, hfirst, flatMap_rr_id i r hgr]
    refine ((perm_sortRoots _).append_right _).trans ?_
    rw [← List.map_append]
    exact (splits_perm _ _ hcr).map cn
  ·
    have hid : restrictF (fun a => a != i) (canon p.f) = canon p.f :=
      restrictF_id _ _ (allNonempty_canon _ wf.nonempty)
        (keep_of_not_mem i _ (fun h => wf.fresh_f ((mem_canon_all _ _).mp h)))
    have hout : sortNat ((sortNat (p.out ++ [i])).filter fun a => a != i) = sortNat p.out := by
      rw [filter_sortNat, filter_ne_append_self i _ wf.fresh_o, sortNat_idem]
    simp only [recover, outT, T.mk', hid, hout, canon_idem]

def AllNonempty.dec : (f : DF) → Decidable (AllNonempty f)
  | .nil => isTrue trivial
  | .cons d k s =>
    have := AllNonempty.dec k
    have := AllNonempty.dec s
    inferInstanceAs (Decidable (d ≠ [] ∧ AllNonempty k ∧ AllNonempty s))

instance (f : DF) : Decidable (AllNonempty f) := AllNonempty.dec f

/-- the well-formedness of a parent follows from the usual tree invariants: distinct data points
(below the sentinel of the canonical order), every clone non-empty, `i` not yet placed -/
theorem wfParent_of_nodup (p : T) (i : ℕ) (hnd : p.f.all.Nodup) (hne : AllNonempty p.f)
    (hbig : ∀ a ∈ p.f.all, a < big) (hf : i ∉ p.f.all) (ho : i ∉ p.out) : WFParent p i :=
  ⟨hf, ho, hne, Proposal.distinctKeys_of_nodup p.f hnd
    (fun x hx => ((allNonempty_iff_roots p.f).mp hne x hx).1) hbig⟩

end PhyModel
