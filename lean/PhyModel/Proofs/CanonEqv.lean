import PhyModel.Proofs.CanonSort
/-! Forest equivalence `Eqv` (same tree up to the order of siblings and of the data inside a clone).
`Forest.canon` is a canonical form for it on well-formed forests: `canon f ≈ f`, and
`f ≈ g → canon f = canon g`. -/
namespace PhyModel
open Orders Orders.Forest

namespace Canon

/-- same forest up to the order of siblings and of the data inside a clone -/
inductive Eqv : DF → DF → Prop
  | nil : Eqv .nil .nil
  | cons {d d' : List Nat} {k k' s s' : DF} : d.Perm d' → Eqv k k' → Eqv s s' →
      Eqv (.cons d k s) (.cons d' k' s')
  | swap (d₁ : List Nat) (k₁ : DF) (d₂ : List Nat) (k₂ s : DF) :
      Eqv (.cons d₁ k₁ (.cons d₂ k₂ s)) (.cons d₂ k₂ (.cons d₁ k₁ s))
  | trans {f g h : DF} : Eqv f g → Eqv g h → Eqv f h

theorem Eqv.refl : ∀ f : DF, Eqv f f
  | .nil => .nil
  | .cons _ k s => .cons (List.Perm.refl _) (Eqv.refl k) (Eqv.refl s)

theorem Eqv.symm {f g : DF} (h : Eqv f g) : Eqv g f := by
  induction h with
  | nil => exact .nil
  | cons hd _ _ ihk ihs => exact .cons hd.symm ihk ihs
  | swap d₁ k₁ d₂ k₂ s => exact .swap d₂ k₂ d₁ k₁ s
  | trans _ _ ih₁ ih₂ => exact .trans ih₂ ih₁

theorem Eqv.of_eq {f g : DF} (h : f = g) : Eqv f g := h ▸ Eqv.refl f

theorem Eqv.all_perm {f g : DF} (h : Eqv f g) : f.all.Perm g.all := by
  induction h with
  | nil => exact List.Perm.refl _
  | cons hd _ _ ihk ihs =>
    simp only [Forest.all]
    exact (ihk.append hd).append ihs
  | swap d₁ k₁ d₂ k₂ s =>
    simp only [Forest.all]
    exact List.perm_append_comm_assoc _ _ _
  | trans _ _ ih₁ ih₂ => exact ih₁.trans ih₂

theorem Eqv.nodes {f g : DF} (h : Eqv f g) : f.nodes = g.nodes := by
  induction h with
  | nil => rfl
  | cons _ _ _ ihk ihs => simp only [Forest.nodes, ihk, ihs]
  | swap d₁ k₁ d₂ k₂ s => exact Nat.add_left_comm _ _ _
  | trans _ _ ih₁ ih₂ => exact ih₁.trans ih₂

/-- no empty clone -/
def NE : DF → Prop
  | .nil => True
  | .cons d k s => d ≠ [] ∧ NE k ∧ NE s

theorem Eqv.ne {f g : DF} (h : Eqv f g) : NE f → NE g := by
  induction h with
  | nil => exact id
  | cons hd _ _ ihk ihs =>
    intro ⟨h1, h2, h3⟩
    exact ⟨fun e => h1 (List.Perm.eq_nil (e ▸ hd)), ihk h2, ihs h3⟩
  | swap d₁ k₁ d₂ k₂ s =>
    intro ⟨h1, h2, h3, h4, h5⟩
    exact ⟨h3, h4, h1, h2, h5⟩
  | trans _ _ ih₁ ih₂ => exact fun hh => ih₂ (ih₁ hh)

/-- well-formed forest: data points pairwise distinct, no empty clone, indices below the sentinel -/
structure WF (f : DF) : Prop where
  nodup : f.all.Nodup
  ne : NE f
  small : ∀ a ∈ f.all, a < big

theorem Eqv.wf {f g : DF} (h : Eqv f g) (w : WF f) : WF g :=
  ⟨h.all_perm.nodup_iff.mp w.nodup, h.ne w.ne, fun a ha => w.small a (h.all_perm.mem_iff.mpr ha)⟩

theorem WF.nil : WF .nil := ⟨List.nodup_nil, trivial, fun _ ha => absurd ha List.not_mem_nil⟩

theorem all_nodup_cons {d : List Nat} {k s : DF} (hn : (Forest.all (.cons d k s)).Nodup) :
    k.all.Nodup ∧ d.Nodup ∧ s.all.Nodup ∧ (∀ a ∈ k.all, a ∉ d) ∧ ∀ a ∈ k.all ++ d, a ∉ s.all := by
  obtain ⟨hkd, hs, h2⟩ := List.nodup_append.mp (show ((k.all ++ d) ++ s.all).Nodup from hn)
  obtain ⟨hk, hd, h1⟩ := List.nodup_append.mp hkd
  exact ⟨hk, hd, hs, fun a ha hd => h1 a ha a hd rfl, fun a ha hs' => h2 a ha a hs' rfl⟩

theorem cons_disj {d : List Nat} {k s : DF} (hn : (Orders.Forest.cons d k s).all.Nodup) :
    (∀ a ∈ k.all, a ∉ d) ∧ (∀ a ∈ k.all, a ∉ s.all) ∧ (∀ a ∈ d, a ∉ s.all) :=
  have ⟨_, _, _, hkd, hkds⟩ := all_nodup_cons hn
  ⟨hkd, fun a h => hkds a (List.mem_append_left _ h), fun a h => hkds a (List.mem_append_right _ h)⟩

theorem WF.kids {d : List Nat} {k s : DF} (w : WF (.cons d k s)) : WF k :=
  ⟨(all_nodup_cons w.nodup).1, w.ne.2.1,
    fun a ha => w.small a (List.mem_append_left _ (List.mem_append_left _ ha))⟩

theorem WF.sibs {d : List Nat} {k s : DF} (w : WF (.cons d k s)) : WF s :=
  ⟨(all_nodup_cons w.nodup).2.2.1, w.ne.2.2, fun a ha => w.small a (List.mem_append_right _ ha)⟩

theorem ofRoots_insertSorted_eqv (r : List Nat × DF) (l : List (List Nat × DF)) :
    Eqv (ofRoots (insertSorted r l)) (ofRoots (r :: l)) := by
  induction l with
  | nil => exact Eqv.refl _
  | cons x l ih =>
    simp only [insertSorted]
    split
    · exact Eqv.refl _
    · obtain ⟨xd, xk⟩ := x
      obtain ⟨rd, rk⟩ := r
      simp only [ofRoots] at ih ⊢
      exact .trans (.cons (List.Perm.refl _) (Eqv.refl _) ih) (.swap _ _ _ _ _)

theorem canon_eqv : ∀ f : DF, Eqv (canon f) f
  | .nil => .nil
  | .cons d k s => by
    simp only [canon]
    refine .trans (ofRoots_insertSorted_eqv _ _) ?_
    simp only [ofRoots, ofRoots_roots]
    exact .cons (sortNat_perm d) (canon_eqv k) (canon_eqv s)

theorem canon_all_perm (f : DF) : (canon f).all.Perm f.all := (canon_eqv f).all_perm

theorem rootKey_canon (d : List Nat) (k : DF) : rootKey (sortNat d, canon k) = rootKey (d, k) :=
  rootKey_congr fun _ => ((canon_all_perm k).append (sortNat_perm d)).mem_iff

/-- sibling clades of a well-formed forest have different keys -/
theorem rootKey_ne {d₁ d₂ : List Nat} {k₁ k₂ s : DF} (w : WF (.cons d₁ k₁ (.cons d₂ k₂ s))) :
    rootKey (d₁, k₁) ≠ rootKey (d₂, k₂) := by
  -- each key is a data point of its own clade, and the clades are disjoint
  have hn : (clade (d₁, k₁) ++ (clade (d₂, k₂) ++ s.all)).Nodup := w.nodup
  have m₁ := rootKey_mem (r := (d₁, k₁)) w.ne.1 fun a ha => w.small a (List.mem_append_left _ ha)
  have m₂ := rootKey_mem (r := (d₂, k₂)) w.ne.2.2.1 fun a ha =>
    w.small a (List.mem_append_right _ (List.mem_append_left _ ha))
  exact (List.nodup_append.mp hn).2.2 _ m₁ _ (List.mem_append_left _ m₂)

theorem canon_congr {f g : DF} (h : Eqv f g) : WF f → canon f = canon g := by
  induction h with
  | nil => intro _; rfl
  | cons hd _ _ ihk ihs =>
    intro w
    simp only [canon]
    rw [sortNat_perm_eq hd, ihk w.kids, ihs w.sibs]
  | swap d₁ k₁ d₂ k₂ s =>
    intro w
    simp only [canon, roots_ofRoots]
    rw [insertSorted_comm]
    rw [rootKey_canon, rootKey_canon]
    exact rootKey_ne w
  | trans h₁ _ ih₁ ih₂ =>
    intro w
    rw [ih₁ w, ih₂ (h₁.wf w)]

theorem canon_wf {f : DF} (w : WF f) : WF (canon f) := (canon_eqv f).symm.wf w

theorem canon_eq_iff {f g : DF} (w : WF f) : canon f = canon g ↔ Eqv f g :=
  ⟨fun e => (canon_eqv f).symm.trans ((Eqv.of_eq e).trans (canon_eqv g)), fun h => canon_congr h w⟩

end Canon
end PhyModel
