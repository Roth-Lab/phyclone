import PhyModel.Proofs.DictRT
import PhyModel.Proofs.StoreWF_Upd
/-! Dictionary round trip under `Inv0` (C07/C15): `Tree.from_dict(tree.to_dict())` rebuilds the forest with
the same shape, graph indices and names, and each clone's data points up to order (`SF.Sim`); the
invariant `Inv0` (and `Dense`) is preserved and the four maps are unchanged.  Every payload is rebuilt from
the `_data` list of its name, so the result is `Aligned` whatever the order inside the payloads was. -/
namespace PhyModel.Store
open SF AL

/-- same shape, same graph index and name at every node, data points up to order (caches ignored) -/
inductive SF.Sim : SF → SF → Prop
  | nil : SF.Sim .nil .nil
  | cons {n' n : NodeRec} {k' k s' s : SF} : n'.idx = n.idx → n'.name = n.name → n'.dps.Perm n.dps →
      SF.Sim k' k → SF.Sim s' s → SF.Sim (.cons n' k' s') (.cons n k s)

theorem SF.Sim.sameCore {f' f : SF} (h : SF.Sim f' f) : SameCore f'.recs f.recs := by
  induction h with
  | nil => exact List.Forall₂.nil
  | cons h1 h2 h3 _ _ ihk ihs => exact List.Forall₂.cons ⟨h1, h2, h3⟩ (ihk.append ihs)

theorem SF.Sim.updAll (dt : Data) {f' f : SF} (h : SF.Sim f' f) : SF.Sim (updAll dt f') f := by
  induction h with
  | nil => exact .nil
  | cons h1 h2 h3 _ _ ihk ihs => exact .cons h1 h2 h3 ihk ihs

theorem SF.Sim.mapRecs {g : NodeRec → NodeRec} {f : SF}
    (h : ∀ n ∈ f.recs, (g n).idx = n.idx ∧ (g n).name = n.name ∧ (g n).dps.Perm n.dps) : SF.Sim (f.mapRecs g) f := by
  induction f with
  | nil => exact .nil
  | cons n k s ihk ihs =>
    obtain ⟨h1, h2, h3⟩ := h n List.mem_cons_self
    exact .cons h1 h2 h3 (ihk fun m hm => h m (List.mem_cons_of_mem _ (List.mem_append_left _ hm)))
      (ihs fun m hm => h m (List.mem_cons_of_mem _ (List.mem_append_right _ hm)))

/-- what `from_dict` looks up for a clone -/
theorem Inv0.dict_entries {s : Store} (hs : Inv0 s) {n : NodeRec} (hn : n ∈ s.forest.recs) :
    s.nodeIdxRev.lookup n.idx = some n.name ∧ s.nodeIdx.lookup n.name = some n.idx ∧
      s.data.lookup n.name = some (dOf s.data n.name) ∧ (dOf s.data n.name).Nodup := by
  obtain ⟨dl, hdl⟩ := Option.isSome_iff_exists.1 (lookup_isSome_iff.2 (hs.2 n hn))
  have hdo : dOf s.data n.name = dl := by rw [dOf, hdl]; rfl
  exact ⟨hs.1.lookupRev_of_rec hn, hs.1.lookup_of_rec hn, hdo ▸ hdl, dOf_nodup hs.1.data_keys hs.1.data_nodup _⟩

theorem fromDict_toDict_eq (dt : Data) {s : Store} (hs : Inv0 s) :
    Store.fromDict dt s.toDict =
      some ⟨updAll dt (rebuilt dt (fun n => dOf s.data n.name) s.forest),
        recompRoot dt (updAll dt (rebuilt dt (fun n => dOf s.data n.name) s.forest)),
        s.nodeIdx, s.nodeIdxRev, s.data, s.last⟩ :=
  fromDict_toDict_rebuilt dt s _ hs.1.idxs_nodup hs.1.idx_pos (fun _ hn => hs.dict_entries hn)
    fun e he => (hs.1.data_sub e he).imp_right mem_names.1

/-- `from_dict (to_dict s)`: same forest up to caches and the order inside each clone's data, same maps -/
theorem fromDict_toDict_spec {dt : Data} {s s' : Store} (h : Store.fromDict dt s.toDict = some s') (hs : Inv0 s) :
    SF.Sim s'.forest s.forest ∧ s'.data = s.data ∧ s'.nodeIdx = s.nodeIdx ∧
      s'.nodeIdxRev = s.nodeIdxRev ∧ s'.last = s.last := by
  cases (fromDict_toDict_eq dt hs).symm.trans h
  refine ⟨SF.Sim.updAll dt (SF.Sim.mapRecs fun n hn => ⟨rfl, rfl, ?_⟩), rfl, rfl, rfl, rfl⟩
  exact (dataOf_eq s n.name ▸ hs.1.payload_data n hn).symm

/-- on a well-formed store the round trip does not fail -/
theorem fromDict_toDict_isSome (dt : Data) {s : Store} (hs : Inv0 s) : ∃ s', Store.fromDict dt s.toDict = some s' :=
  ⟨_, fromDict_toDict_eq dt hs⟩

theorem fromDict_toDict_aligned {dt : Data} {s s' : Store} (h : Store.fromDict dt s.toDict = some s')
    (hs : Inv0 s) : Aligned s' := by
  cases (fromDict_toDict_eq dt hs).symm.trans h
  intro n hn
  -- `update()` changes neither names nor data points
  have hm := updAll_map (fun n => (n.dps, n.name)) (fun _ _ => rfl) dt (rebuilt dt (fun n => dOf s.data n.name) s.forest)
  rw [rebuilt, recs_mapRecs, List.map_map] at hm
  obtain ⟨m, _, he⟩ := List.mem_map.1 (hm ▸ List.mem_map_of_mem (f := fun n : NodeRec => (n.dps, n.name)) hn)
  rw [← (Prod.mk.inj he).1, ← (Prod.mk.inj he).2]
  rfl

theorem fromDict_toDict_inv {dt : Data} {s s' : Store} (h : Store.fromDict dt s.toDict = some s') (hs : Inv0 s) :
    Inv0 s' ∧ (Dense s → Dense s') ∧ s'.data = s.data ∧ s'.nodeIdx = s.nodeIdx ∧ s'.nodeIdxRev = s.nodeIdxRev ∧
      s'.last = s.last := by
  obtain ⟨hsim, h1, h2, h3, h4⟩ := fromDict_toDict_spec h hs
  obtain ⟨hw, hf, hd⟩ := inv_of_sameCore hsim.sameCore h2 h3 h1
  exact ⟨⟨hw hs.1, hf hs.2⟩, hd, h1, h2, h3, h4⟩

/-- the round trip restores the payload list up to the order of each clone's data points and the caches -/
theorem fromDict_toDict_sameCore {dt : Data} {s s' : Store} (h : Store.fromDict dt s.toDict = some s')
    (hs : Inv0 s) : SameCore s'.forest.recs s.forest.recs :=
  (fromDict_toDict_spec h hs).1.sameCore

/-- data forests of the same shape whose data lists agree up to order, node by node
(a special case of `DFIsoP`: `DFIsoP.cons` at every node) -/
inductive DFPerm : DF → DF → Prop
  | nil : DFPerm .nil .nil
  | cons {d' d : List Nat} {k' k s' s : DF} : d'.Perm d → DFPerm k' k → DFPerm s' s →
      DFPerm (.cons d' k' s') (.cons d k s)

theorem SF.Sim.toDF {f' f : SF} (h : SF.Sim f' f) : DFPerm f'.toDF f.toDF := by
  induction h with
  | nil => exact .nil
  | cons _ _ h3 _ _ ihk ihs => exact .cons h3 ihk ihs

/-- the round trip restores the shape; each clone's data list up to order -/
theorem fromDict_toDict_toDF {dt : Data} {s s' : Store} (h : Store.fromDict dt s.toDict = some s')
    (hs : Inv0 s) : DFPerm s'.forest.toDF s.forest.toDF :=
  (fromDict_toDict_spec h hs).1.toDF

end PhyModel.Store
