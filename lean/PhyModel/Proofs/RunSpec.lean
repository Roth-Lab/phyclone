import PhyModel.Proofs.HoldsMoves
import PhyModel.Proofs.StoreWF_Step
import PhyModel.Proofs.StoreCache_Step
/-! # What a run is, on trees and on stores

On trees: a sweep of `run.py` is the tree sampler (burn-in: `SMC.smcStep`; main loop: `SMC.pgStep` or
`Moves.subtreeMove`, whichever the coin `rng.random() < subtree_update_prob` picks), then
`num_samples_data_point` data-point moves and `num_samples_prune_regraph` prune-regraft moves.
`SweepOut p ph α x y` says `y` is listed by that composition started at `x` — for *some* outcome of
every draw; `ChainOut` chains sweeps along any schedule of phases and concentration values.

On stores: the stateful main loop `TraceLoop.runMain` (C15) carries a *store* (the model of
`phyclone.tree.Tree`, C06/C07), the sampler models are distributions on *trees up to labelling* (`T`).
`absT` forgets names, graph indices and caches.  The sampler oracle of the loop is constrained on both
sides (`RealisesAt`):

* store side — what it returns is reached from the current store by a history of `Legal` edits
  (`LegalFrom`; `Legal` is C07's formal content of "the edits the samplers compose"), so C07 `inv_run`
  and C06 `cacheOK_run_legal` give the store invariants of the result;
* tree side — the tree it returns is *listed* by the sweep model (`SweepOut`) for the current tree,
  for some outcome of every draw and some concentration value. -/

namespace PhyModel.RunOK

section trees
open Orders Moves SMC

/-- the options of a run the sampler models depend on (`run.py:setup_kernel`, `setup_samplers`): the
data, the proposal kind / outlier proposal probability / permutation distribution (`c`; its `α` field
is overwritten by the chain's current concentration value), particle count, resampling threshold, and
the numbers of auxiliary moves per iteration -/
structure Params where
  dt : Data
  c : Proposal.Cfg
  N : ℕ
  θ : ℚ
  ndp : ℕ
  nprg : ℕ

/-- the kernel configuration under the concentration value `α` -/
def Params.cfg (p : Params) (α : ℚ) : Proposal.Cfg := { p.c with α := α }
/-- `ParticleGibbsTreeSampler(kernel, num_particles, resample_threshold)` etc. -/
def Params.run (p : Params) (α : ℚ) : SMC.Run := ⟨p.dt, p.cfg α, p.N, p.θ⟩
/-- `DataPointSampler(tree_dist, rng, outliers=(outlier_prob > 0))`, `PruneRegraphSampler(tree_dist, rng)` -/
def Params.mv (p : Params) (α : ℚ) : Moves.Cfg := ⟨p.dt, α, p.c.op != 0⟩

inductive Phase where
  | burnin
  | main
deriving DecidableEq, Repr

/-- `y` can be reached from `x` by `n` successive draws from the kernel `K` -/
def IterOut (K : T → Dist T) : ℕ → T → T → Prop
  | 0, x, y => y = x
  | n + 1, x, y => ∃ z, IterOut K n x z ∧ Listed (K z) y

/-- the tree sampler of one iteration: unconditional SMC during burn-in; in the main loop the
whole-tree particle-Gibbs update or the random-subtree update -/
def TreeStep (p : Params) (ph : Phase) (α : ℚ) (x y : T) : Prop :=
  match ph with
  | .burnin => Listed (smcStep (p.run α) x) y
  | .main => Listed (pgStep (p.run α) x) y ∨ Listed (subtreeMove (p.run α) x) y

/-- one sweep (iteration) of `_run_burnin` / `_run_main_sampler`, any outcome of every draw -/
def SweepOut (p : Params) (ph : Phase) (α : ℚ) (x y : T) : Prop :=
  ∃ x1 x2, TreeStep p ph α x x1 ∧ IterOut (dataPointMove (p.mv α)) p.ndp x1 x2 ∧
    IterOut (pruneRegraft (p.mv α)) p.nprg x2 y

/-- a run: sweeps along a schedule of phases and concentration values -/
def ChainOut (p : Params) : List (Phase × ℚ) → T → T → Prop
  | [], x, y => y = x
  | (ph, α) :: rest, x, y => ∃ z, SweepOut p ph α x z ∧ ChainOut p rest z y

/-- `Tree.get_single_node_tree(data)`: all data points in one clone -/
def single (D : List ℕ) : T := T.mk' (.cons D .nil .nil) []

theorem single_holds (c : Proposal.Cfg) {D : List ℕ} (hne : D ≠ []) (hnd : D.Nodup)
    (hbig : ∀ a ∈ D, a < Forest.big) : Holds c D (single D) := by
  have e : (Orders.Forest.cons D .nil .nil).all = D := List.append_nil D
  refine holds_mk' ⟨?_, ⟨hne, trivial, trivial⟩, ?_⟩ ?_ hnd hbig (fun _ => rfl)
  · rwa [e]
  · rwa [e]
  · rw [e, List.append_nil]

end trees

section stores
open PhyModel.Store

/-- the tree a store represents, up to names, graph indices and caches -/
def absT (s : Store) : T := T.mk' s.abs.1 s.abs.2

/-- the shared store invariants: C07 (`WF`, `Full`, `Aligned`) and C06 (`CacheOK`) -/
def SInv (dt : Data) (s : Store) : Prop := WF s ∧ Full s ∧ CacheOK dt s ∧ Aligned s

/-- `s'` is one of the live trees after a history of edits started from the single tree `s`, each
edit `Legal` in the state where it is applied and mentioning only data points of the data set -/
def LegalFrom (dt : Data) (s s' : Store) : Prop :=
  ∃ (ops : List Op) (sys : Sys) (h : ℕ), LegalRun dt [s] ops ∧ (∀ op ∈ ops, C06.InRange dt op) ∧
    run dt [s] ops = some sys ∧ sys[h]? = some s'

/-- a chain state: the store invariants hold and the store represents a well-formed tree on `D` -/
def StOK (p : Params) (D : List ℕ) (s : Store) : Prop := SInv p.dt s ∧ Holds p.c D (absT s)

/-- **the sampler oracle realises the sweep model** of phase `ph` in iteration `i` at the store `s`:
what it returns is reached from `s` by a legal edit history, and the tree it represents is listed by
the sweep model for the tree `s` represents (for some concentration value) -/
def RealisesAt (p : Params) (ph : Phase) (mv : ℕ → Store → Store) (i : ℕ) (s : Store) : Prop :=
  LegalFrom p.dt s (mv i s) ∧ ∃ α, SweepOut p ph α (absT s) (absT (mv i s))

/-- the same on every chain state (a stronger hypothesis) -/
def Realises (p : Params) (D : List ℕ) (ph : Phase) (mv : ℕ → Store → Store) : Prop :=
  ∀ i s, StOK p D s → RealisesAt p ph mv i s

/-- the tree after `b` burn-in iterations (sampler, auxiliary moves, `relabel_nodes`) -/
def burnState (mv : ℕ → Store → Store) : ℕ → Store → Store
  | 0, s => s
  | b + 1, s => (mv b (burnState mv b s)).relabelNodes

end stores

end PhyModel.RunOK
