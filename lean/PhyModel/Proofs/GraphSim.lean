import PhyModel.Proofs.GraphOfCreate
import PhyModel.Proofs.GraphOfGetSub
import PhyModel.Proofs.GraphOfGraft
import PhyModel.Proofs.GraphOfDict
import PhyModel.Proofs.GraphStep
/-! **Every edit of the structural store model (`Store.step`) that does not raise is simulated by legal
graph-level edits (`gStep`) on the graphs of the stores**, handle by handle, up to the order of the node
list and of the edge list (`GEquiv`): `graph_step`.  `Simulates sys sys'`: some list of legal graph-level
edits takes the graphs of `sys` to graphs equivalent to the graphs of `sys'`; there is one lemma per kind
of store edit, in the form `Store.step` produces the new system (`setH sys h s'`, `sys ++ [r]`).  The
edits of payloads (`add_data_point_to_node`, `remove_data_point_from_node`,
`remove_data_point_from_outliers`, `relabel_nodes`, `update`) need no graph-level edit; every other edit
needs exactly one.  With `forest_step` (`Proofs/GraphStep.lean`) and `GEquiv.isForest` the graphs of the
stores after the step are rooted forests *because the graph operations keep them so*, not because the
structural model cannot express anything else. -/
namespace PhyModel.Graph
open PhyModel.Store

/-- the conclusion of `graph_step` -/
def Simulates (sys sys' : Store.Sys) : Prop :=
  ∃ gops : List GOp, (∀ o ∈ gops, GLegal o) ∧ ∃ gs', gRun (graphsOf sys) gops = some gs' ∧
    List.Forall₂ GEquiv gs' (graphsOf sys')

/-! ### lists of graphs -/

theorem forall₂_gequiv_refl (gs : GSys) : List.Forall₂ GEquiv gs gs :=
  List.forall₂_same.2 fun g _ => .refl g

theorem forall₂_gequiv_set {g' g'' : DG} (he : GEquiv g' g'') : ∀ (gs : GSys) (h : Nat),
    List.Forall₂ GEquiv (gs.set h g') (gs.set h g'')
  | [], _ => .nil
  | _ :: gs, 0 => .cons he (forall₂_gequiv_refl gs)
  | g :: gs, h + 1 => .cons (GEquiv.refl g) (forall₂_gequiv_set he gs h)

theorem set_of_getElem? {α} {l : List α} {h : Nat} {v : α} (hv : l[h]? = some v) : l.set h v = l := by
  obtain ⟨hlt, rfl⟩ := List.getElem?_eq_some_iff.1 hv
  exact List.set_getElem_self hlt

theorem graphsOf_setH (sys : Store.Sys) (h : Nat) (s' : Store) :
    graphsOf (Store.setH sys h s') = (graphsOf sys).set h (graphOf s'.forest) := by
  simp [graphsOf, Store.setH, List.map_set]

theorem graphsOf_append (sys : Store.Sys) (r : Store) :
    graphsOf (sys ++ [r]) = graphsOf sys ++ [graphOf r.forest] := by
  simp [graphsOf]

theorem graphsOf_get {sys : Store.Sys} {h : Nat} {s : Store} (hs : sys[h]? = some s) :
    (graphsOf sys)[h]? = some (graphOf s.forest) := by
  rw [graphsOf, List.getElem?_map, hs]
  rfl

/-- replacing a store by one with the same graph leaves the graphs alone -/
theorem graphsOf_setH_same {sys : Store.Sys} {h : Nat} {s s' : Store} (hs : sys[h]? = some s)
    (hg : graphOf s'.forest = graphOf s.forest) : graphsOf (Store.setH sys h s') = graphsOf sys := by
  rw [graphsOf_setH, hg, set_of_getElem? (graphsOf_get hs)]

/-! ### building a simulation -/

theorem Simulates.nil {sys sys' : Store.Sys} (h : graphsOf sys' = graphsOf sys) : Simulates sys sys' :=
  ⟨[], by simp, graphsOf sys, rfl, h ▸ forall₂_gequiv_refl _⟩

theorem Simulates.one {sys sys' : Store.Sys} {o : GOp} {gs' : GSys} (hl : GLegal o)
    (hs : gStep (graphsOf sys) o = some gs') (hf : List.Forall₂ GEquiv gs' (graphsOf sys')) :
    Simulates sys sys' :=
  ⟨[o], fun _ h => List.mem_singleton.1 h ▸ hl, gs', by rw [gRun, List.foldlM_cons, hs]; rfl, hf⟩

theorem Simulates.set {sys : Store.Sys} {h : Nat} {s' : Store} {o : GOp} {g' : DG} (hl : GLegal o)
    (hs : gStep (graphsOf sys) o = some ((graphsOf sys).set h g')) (he : GEquiv g' (graphOf s'.forest)) :
    Simulates sys (Store.setH sys h s') :=
  .one hl hs (graphsOf_setH sys h s' ▸ forall₂_gequiv_set he _ _)

/-- `sys₁`: the old handles after reads that leave their graphs alone -/
theorem Simulates.push {sys sys₁ : Store.Sys} {r : Store} {o : GOp} {g' : DG} (hl : GLegal o)
    (hs : gStep (graphsOf sys) o = some (graphsOf sys ++ [g'])) (he : GEquiv g' (graphOf r.forest))
    (h₁ : graphsOf sys₁ = graphsOf sys) : Simulates sys (sys₁ ++ [r]) :=
  .one hl hs (by rw [graphsOf_append, h₁]; exact List.rel_append (forall₂_gequiv_refl _) (.cons he .nil))

/-- edits of payloads only: no graph-level edit -/
theorem sim_same {sys : Store.Sys} {h : Nat} {s s' : Store} (hs : sys[h]? = some s)
    (hg : graphOf s'.forest = graphOf s.forest) : Simulates sys (Store.setH sys h s') :=
  .nil (graphsOf_setH_same hs hg)

/-- `create_root_node` (followed by any edit `s''` of the result that leaves the graph alone) -/
theorem sim_create {dt : Data} {sys : Store.Sys} {h : Nat} {s s'' : Store} {ch : List Int} {d : List Nat}
    {r : Store × Int} (hwf : WF s) (hs : sys[h]? = some s) (hr : s.createRootNode dt ch d = some r)
    (hg : graphOf s''.forest = graphOf r.1.forest) : Simulates sys (Store.setH sys h s'') := by
  obtain ⟨cis, g', hcis, hc, hn, he⟩ := graph_store_createRootNode hwf hr
  exact .set (o := .create h s.fresh cis) (createRootNode_kids hwf hr hcis)
    (by simp only [gStep, graphsOf_get hs, hc, Option.bind_eq_bind, Option.bind_some, Option.pure_def])
    (.trans ⟨hn, he⟩ (.of_eq hg.symm))

/-- `get_subtree(root)` and `copy()` -/
theorem sim_copy {sys : Store.Sys} {h : Nat} {s : Store} (hs : sys[h]? = some s) : Simulates sys (sys ++ [s]) :=
  .push (o := .copy h) trivial (by rw [gStep, graphsOf_get hs]; rfl) (.refl _) rfl

/-- `get_subtree(clone)`; reading `_data` of the clones touches the source store -/
theorem sim_getSub {dt : Data} {sys : Store.Sys} {h : Nat} {s r : Store} {name : Int} (hwf : WF s)
    (hs : sys[h]? = some s) (hr : s.getSubtree dt (some name) = some r) :
    Simulates sys (Store.setH sys h (s.touch r.nodes) ++ [r]) := by
  obtain ⟨i, m₂, g', hg, he⟩ := graph_store_getSubtree hwf hr
  exact .push (o := .getSub h i [] m₂) trivial (by simp only [gStep, graphsOf_get hs, hg, Option.bind_eq_bind, Option.bind_some, Option.pure_def]) he
    (graphsOf_setH_same hs (graphOf_touch s r.nodes))

/-- `remove_subtree` -/
theorem sim_rmSub {dt : Data} {sys : Store.Sys} {h hsub : Nat} {s sb r : Store} (hwf : WF s)
    (hs : sys[h]? = some s) (hsb : sys[hsub]? = some sb) (hr : s.removeSubtree dt sb = some r) :
    Simulates sys (Store.setH (Store.setH sys hsub sb) h r) := by
  rw [show Store.setH sys hsub sb = sys from set_of_getElem? hsb]
  rcases graph_store_removeSubtree hwf hr with ⟨_, hi⟩ | ⟨i, g', hg, hi0, he⟩
  · exact .set (o := .reinit h) trivial (by rw [gStep, graphsOf_get hs]; rfl) (.of_eq hi.symm)
  · exact .set (o := .rmSub h i) hi0 (by simp only [gStep, graphsOf_get hs, hg, Option.bind_eq_bind, Option.bind_some, Option.pure_def]) he

/-- `add_subtree` -/
theorem sim_addSub {dt : Data} {sys : Store.Sys} {h hsub : Nat} {s sb r : Store} {par : Option Int}
    (hwf : WF s) (hwsb : WF sb) (hs : sys[h]? = some s) (hsb : sys[hsub]? = some sb)
    (hr : s.addSubtree dt sb par = some r) : Simulates sys (Store.setH sys h r) := by
  obtain ⟨p, m, g', hg, he⟩ := graph_store_addSubtree hwf hwsb hr
  exact .set (o := .addSub h hsub p m) trivial
    (by simp only [gStep, graphsOf_get hs, graphsOf_get hsb, gCopy, hg, Option.bind_eq_bind, Option.bind_some,
      Option.pure_def]) he

/-- `from_dict(to_dict())`: the dictionary handed to `from_dict` is the dictionary form of a forest -/
theorem sim_dictRT {dt : Data} {sys : Store.Sys} {h : Nat} {s r : Store} (hinv : WF s ∧ Full s)
    (hs : sys[h]? = some s) (hr : Store.fromDict dt s.toDict = some r) :
    Simulates sys (Store.setH sys h r) :=
  .set (o := .fromDict h _ _) (isForest_toDict hinv.1) (by rw [gStep, graphsOf_get hs]; rfl)
    (graph_fromDict hinv hr)

/-! ### the step -/

/-- **C07, graph shape: the structural store model is simulated by the graph model (step).** -/
theorem graph_step {dt : Data} {sys sys' : Store.Sys} {op : Store.Op} (hall : ∀ s ∈ sys, Store.WF s ∧ Store.Full s)
    (hstep : Store.step dt sys op = some sys') :
    ∃ gops : List GOp, (∀ o ∈ gops, GLegal o) ∧ ∃ gs', gRun (graphsOf sys) gops = some gs' ∧
      List.Forall₂ GEquiv gs' (graphsOf sys') := by
  show Simulates sys sys'
  have hinv : ∀ {h : Nat} {s : Store}, sys[h]? = some s → WF s ∧ Full s :=
    fun hs => hall _ (List.mem_of_getElem? hs)
  cases op with
  | create h ch d =>
    obtain ⟨s, hs, hstep⟩ := Option.bind_eq_some_iff.1 hstep
    obtain ⟨r, hr, hstep⟩ := Option.bind_eq_some_iff.1 hstep
    cases hstep
    exact sim_create (hinv hs).1 hs hr rfl
  | createAdd h ch dp =>
    obtain ⟨s, hs, hstep⟩ := Option.bind_eq_some_iff.1 hstep
    obtain ⟨r, hr, hstep⟩ := Option.bind_eq_some_iff.1 hstep
    obtain ⟨r2, hr2, hstep⟩ := Option.bind_eq_some_iff.1 hstep
    cases hstep
    exact sim_create (hinv hs).1 hs hr (graphOf_addDataPointToNode hr2)
  | addDp h dp nd =>
    obtain ⟨s, hs, hstep⟩ := Option.bind_eq_some_iff.1 hstep
    obtain ⟨r, hr, hstep⟩ := Option.bind_eq_some_iff.1 hstep
    cases hstep
    exact sim_same hs (graphOf_addDataPointToNode hr)
  | rmDp h dp nd =>
    obtain ⟨s, hs, hstep⟩ := Option.bind_eq_some_iff.1 hstep
    obtain ⟨r, hr, hstep⟩ := Option.bind_eq_some_iff.1 hstep
    cases hstep
    exact sim_same hs (graphOf_removeDataPointFromNode hr)
  | rmOut h dp =>
    obtain ⟨s, hs, hstep⟩ := Option.bind_eq_some_iff.1 hstep
    obtain ⟨r, hr, hstep⟩ := Option.bind_eq_some_iff.1 hstep
    cases hstep
    exact sim_same hs (graphOf_removeDataPointFromOutliers hr)
  | getSub h rt =>
    obtain ⟨s, hs, hstep⟩ := Option.bind_eq_some_iff.1 hstep
    obtain ⟨r, hr, hstep⟩ := Option.bind_eq_some_iff.1 hstep
    cases hstep
    cases rt with
    | none =>
      cases hr
      show Simulates sys (sys.set h s ++ [s])
      rw [set_of_getElem? hs]
      exact sim_copy hs
    | some name => exact sim_getSub (hinv hs).1 hs hr
  | rmSub h hsub =>
    obtain ⟨s, hs, hstep⟩ := Option.bind_eq_some_iff.1 hstep
    obtain ⟨sb, hsb, hstep⟩ := Option.bind_eq_some_iff.1 hstep
    obtain ⟨r, hr, hstep⟩ := Option.bind_eq_some_iff.1 hstep
    cases hstep
    rw [touch_nodes_of_full (hinv hs).2, touch_nodes_of_full (hinv hsb).2] at hr
    rw [touch_nodes_of_full (hinv hsb).2]
    exact sim_rmSub (hinv hs).1 hs hsb hr
  | addSub h hsub par =>
    obtain ⟨s, hs, hstep⟩ := Option.bind_eq_some_iff.1 hstep
    obtain ⟨sb, hsb, hstep⟩ := Option.bind_eq_some_iff.1 hstep
    obtain ⟨r, hr, hstep⟩ := Option.bind_eq_some_iff.1 hstep
    cases hstep
    exact sim_addSub (hinv hs).1 (hinv hsb).1 hs hsb hr
  | relabel h =>
    obtain ⟨s, hs, hstep⟩ := Option.bind_eq_some_iff.1 hstep
    cases hstep
    exact sim_same hs (graphOf_relabelNodes s)
  | copy h =>
    obtain ⟨s, hs, hstep⟩ := Option.bind_eq_some_iff.1 hstep
    cases hstep
    exact sim_copy hs
  | dictRT h =>
    obtain ⟨s, hs, hstep⟩ := Option.bind_eq_some_iff.1 hstep
    obtain ⟨r, hr, hstep⟩ := Option.bind_eq_some_iff.1 hstep
    cases hstep
    exact sim_dictRT (hinv hs) hs hr
  | update h =>
    obtain ⟨s, hs, hstep⟩ := Option.bind_eq_some_iff.1 hstep
    cases hstep
    exact sim_same hs (graphOf_update dt s)
  | fresh =>
    cases hstep
    exact .push (o := .fresh) trivial rfl (.refl _) rfl

theorem forall₂_isForest {a b : GSys} (h : List.Forall₂ GEquiv a b) (ha : ∀ g ∈ a, IsForest g) :
    ∀ g ∈ b, IsForest g := by
  induction h with
  | nil => intro g hg; cases hg
  | cons he _ ih =>
    intro g hg
    rcases List.mem_cons.1 hg with rfl | hg
    · exact he.isForest (ha _ (List.mem_cons_self ..))
    · exact ih (fun g hg => ha g (List.mem_cons_of_mem _ hg)) g hg

/-- the graphs of the stores after a step are rooted forests: consequence of the graph-level closure
theorem (`forest_run`), not of the structure of `SF` -/
theorem graph_step_forest {dt : Data} {sys sys' : Store.Sys} {op : Store.Op}
    (hall : ∀ s ∈ sys, Store.WF s ∧ Store.Full s) (hstep : Store.step dt sys op = some sys')
    (hf : ∀ g ∈ graphsOf sys, IsForest g) : ∀ g ∈ graphsOf sys', IsForest g := by
  obtain ⟨gops, hleg, gs', hrun, h2⟩ := graph_step hall hstep
  exact forall₂_isForest h2 (forest_run hf hleg hrun)

/-! ### non-vacuity -/

open C07Ex in
/-- the hypotheses hold for the system `[t2, sub]`; `remove_subtree(sub)` on handle 0 is the graph-level
`.rmSub 0 1`, `add_subtree` of handle 1 under clone 1 of the result is `.addSub 0 1 2 m` -/
example : (∀ s ∈ [t2, sub], WF s ∧ Full s) ∧
    (Store.step dt [t2, sub] (.rmSub 0 1)).map graphsOf = some (graphsOf [t3, sub]) ∧
    GLegal (.rmSub 0 1) ∧ gRun (graphsOf [t2, sub]) [.rmSub 0 1] = some (graphsOf [t3, sub]) ∧
    (Store.step dt [t3, sub] (.addSub 0 1 (some 1))).map graphsOf =
      some [⟨[0, 2, 3], [(0, 2), (2, 3)]⟩, ⟨[0, 1], [(0, 1)]⟩] ∧
    gRun (graphsOf [t3, sub]) [.addSub 0 1 2 [(0, 4), (1, 3)]] =
      some [⟨[0, 2, 3], [(0, 2), (2, 3)]⟩, ⟨[0, 1], [(0, 1)]⟩] := by
  decide +kernel

end PhyModel.Graph
