import PhyModel.Model.Emission
import PhyModel.Proofs.LikProofs
import Mathlib.Data.Nat.Choose.Sum
import Mathlib.Data.Nat.Choose.Cast
import Mathlib.Algebra.BigOperators.Field
import Mathlib.Algebra.Order.Field.Rat
import Mathlib.Tactic.Ring
import Mathlib.Tactic.Linarith
import Mathlib.Tactic.FieldSimp
/-! Helper lemmas for C05.  The pmf primitives of the emission model sum to one (binomial theorem,
Chu–Vandermonde in rising-factorial form) and are positive; the genotype list in closed form; the
expected VAF as a weighted mean of the per-population variant probabilities, hence within their
bounds; entries of grids and of their pointwise products. -/

open Finset

namespace PhyModel.Emission

theorem fact_eq (n : ℕ) : fact n = n.factorial := by
  induction n with
  | zero => rfl
  | succ n ih => simp [fact, ih, Nat.factorial_succ]

theorem qpow_eq (q : ℚ) (n : ℕ) : qpow q n = q ^ n := by
  induction n with
  | zero => simp [qpow]
  | succ n ih => simp [qpow, ih, pow_succ]

theorem chooseQ_eq {n x : ℕ} (h : x ≤ n) : chooseQ n x = (n.choose x : ℚ) := by
  unfold chooseQ
  rw [fact_eq, fact_eq, fact_eq, Nat.cast_choose ℚ h]

theorem chooseQ_pos {n x : ℕ} (h : x ≤ n) : 0 < chooseQ n x := by
  rw [chooseQ_eq h]
  exact_mod_cast Nat.choose_pos h

theorem binomLik_eq {n x : ℕ} (h : x ≤ n) (p : ℚ) :
    binomLik n x p = p ^ x * (1 - p) ^ (n - x) := by
  -- the two special branches are `0 ^ x` and `0 ^ (n - x)`
  unfold binomLik
  by_cases h0 : p = 0
  · rw [if_pos h0, h0, sub_zero, one_pow, mul_one, zero_pow_eq]
  · rw [if_neg h0]
    by_cases h1 : p = 1
    · rw [if_pos h1, h1, sub_self, one_pow, one_mul, zero_pow_eq]
      exact if_congr
        ⟨fun e => e ▸ Nat.sub_self x, fun e => le_antisymm h (Nat.sub_eq_zero_iff_le.mp e)⟩ rfl rfl
    · rw [if_neg h1, qpow_eq, qpow_eq]

/-- binomial theorem: the binomial pmf sums to one over `x = 0..n`, for every `p` -/
theorem binomPmf_sum (n : ℕ) (p : ℚ) : ∑ x ∈ range (n + 1), binomPmf n x p = 1 := by
  have h : ∀ x ∈ range (n + 1), binomPmf n x p = p ^ x * (1 - p) ^ (n - x) * (n.choose x : ℚ) := by
    intro x hx
    have hx' : x ≤ n := mem_range_succ_iff.mp hx
    unfold binomPmf
    rw [chooseQ_eq hx', binomLik_eq hx']
    ring
  rw [Finset.sum_congr rfl h, ← add_pow, add_sub_cancel, one_pow]

theorem binomPmf_pos {n x : ℕ} (h : x ≤ n) {p : ℚ} (h0 : 0 < p) (h1 : p < 1) : 0 < binomPmf n x p := by
  unfold binomPmf
  rw [binomLik_eq h]
  exact qmul_pos (chooseQ_pos h) (qmul_pos (pow_pos h0 _) (pow_pos (sub_pos.mpr h1) _))

theorem rising_pos {a : ℚ} (ha : 0 < a) (n : ℕ) : 0 < rising a n := by
  induction n with
  | zero => simp [rising]
  | succ n ih =>
    exact qmul_pos ih (add_pos_of_pos_of_nonneg ha n.cast_nonneg)

/-- Chu–Vandermonde identity for rising factorials -/
theorem rising_add (n : ℕ) (a b : ℚ) :
    ∑ x ∈ range (n + 1), (n.choose x : ℚ) * (rising a x * rising b (n - x)) = rising (a + b) n := by
  induction n with
  | zero => simp [rising]
  | succ n ih =>
    -- Pascal's rule splits the sum in two; term by term they add up to the old term times `a + b + n`
    rw [Finset.sum_choose_succ_mul (fun i j => rising a i * rising b j) n, ← Finset.sum_add_distrib,
      rising, ← ih, Finset.sum_mul]
    refine Finset.sum_congr rfl fun i hi => ?_
    have hi' : i ≤ n := mem_range_succ_iff.mp hi
    rw [Nat.succ_sub hi', rising, rising, Nat.cast_sub hi']
    ring

/-- the beta-binomial pmf (Pochhammer form) sums to one over `x = 0..n` -/
theorem betaBinomPmf_sum (n : ℕ) {a b : ℚ} (hab : 0 < a + b) :
    ∑ x ∈ range (n + 1), betaBinomPmf n x a b = 1 := by
  have hne : rising (a + b) n ≠ 0 := ne_of_gt (rising_pos hab n)
  have h : ∀ x ∈ range (n + 1), betaBinomPmf n x a b
      = ((n.choose x : ℚ) * (rising a x * rising b (n - x))) / rising (a + b) n := by
    intro x hx
    have hx' : x ≤ n := mem_range_succ_iff.mp hx
    unfold betaBinomPmf betaBinomLik
    rw [chooseQ_eq hx']
    ring
  rw [Finset.sum_congr rfl h, ← Finset.sum_div, rising_add, div_self hne]

theorem betaBinomPmf_pos {n x : ℕ} (h : x ≤ n) {a b : ℚ} (ha : 0 < a) (hb : 0 < b) :
    0 < betaBinomPmf n x a b := by
  unfold betaBinomPmf betaBinomLik
  exact qmul_pos (chooseQ_pos h)
    (qdiv_pos (qmul_pos (rising_pos ha _) (rising_pos hb _)) (rising_pos (add_pos ha hb) _))

theorem genoLik_sum (d : Density) (hd : ∀ s, d = .betaBinomial s → 0 < s) (n : ℕ) (v : ℚ) :
    ∑ x ∈ range (n + 1), genoLik d n x v = 1 := by
  cases d with
  | binomial => exact binomPmf_sum n v
  | betaBinomial s => exact betaBinomPmf_sum n ((add_sub_cancel (v * s) s).symm ▸ hd s rfl)

/-- the pmf summed over the alternate count at total depth `n`, written with the reference count -/
theorem genoLik_sum_depth (d : Density) (hd : ∀ s, d = .betaBinomial s → 0 < s) (n : ℕ) (v : ℚ) :
    ∑ x ∈ range (n + 1), genoLik d (n - x + x) x v = 1 :=
  (Finset.sum_congr rfl fun x hx => by rw [Nat.sub_add_cancel (mem_range_succ_iff.mp hx)]).trans
    (genoLik_sum d hd n v)

theorem genoLik_pos (d : Density) (hd : ∀ s, d = .betaBinomial s → 0 < s) {n x : ℕ} (h : x ≤ n)
    {v : ℚ} (h0 : 0 < v) (h1 : v < 1) : 0 < genoLik d n x v := by
  cases d with
  | binomial => exact binomPmf_pos h h0 h1
  | betaBinomial s =>
    have hs := hd s rfl
    exact betaBinomPmf_pos h (qmul_pos h0 hs) (sub_pos.mpr ((mul_lt_iff_lt_one_left hs).mpr h1))

/-- the "mutation before the copy-number change" genotypes, x = i+1 variant copies -/
def beforeG (major minor normal : ℕ) (eps : ℚ) (i : ℕ) : Genotype :=
  { cnN := normal, cnR := normal, cnV := major + minor, muN := eps, muR := eps,
    muV := qmin (1 - eps) (((i + 1 : ℕ) : ℚ) / ((major + minor : ℕ) : ℚ)) }

/-- the "mutation after the copy-number change" genotype: one variant copy, reference population
at the tumour copy number -/
def afterG (major minor normal : ℕ) (eps : ℚ) : Genotype :=
  { cnN := normal, cnR := major + minor, cnV := major + minor, muN := eps, muR := eps,
    muV := qmin (1 - eps) (1 / ((major + minor : ℕ) : ℚ)) }

theorem genotypes_eq (major minor normal : ℕ) (eps : ℚ) (h : 1 ≤ major) :
    genotypes major minor normal eps =
      (List.range major).map (beforeG major minor normal eps) ++
        (if normal = major + minor then [] else [afterG major minor normal eps]) := by
  -- every `beforeG` genotype passes the membership test iff `normal = major + minor`
  unfold genotypes
  by_cases hn : normal = major + minor
  · rw [if_pos hn, List.append_nil]
    exact if_pos (List.any_eq_true.mpr
      ⟨_, List.mem_map.mpr ⟨0, List.mem_range.mpr h, rfl⟩, by simp [hn]⟩)
  · rw [if_neg hn]
    exact if_neg (by simp [hn])

theorem genotypes_length_pos (major minor normal : ℕ) (eps : ℚ) (h : 1 ≤ major) :
    0 < (genotypes major minor normal eps).length := by
  rw [genotypes_eq _ _ _ _ h, List.length_append, List.length_map, List.length_range]
  exact Nat.add_pos_left h _

/-- the model's `qmin` is `min`, so `min_le_left`, `min_le_right`, `lt_min` apply to it as they stand -/
theorem qmin_eq_min (a b : ℚ) : qmin a b = min a b := rfl

/-- what every enumerated genotype looks like -/
theorem genotype_props {major minor normal : ℕ} {eps : ℚ} (h : 1 ≤ major) (hn : 1 ≤ normal)
    (he1 : eps < 1) {g : Genotype} (hg : g ∈ genotypes major minor normal eps) :
    g.muN = eps ∧ g.muR = eps ∧ 0 < g.muV ∧ g.muV ≤ 1 - eps ∧ 1 ≤ g.cnR ∧ 1 ≤ g.cnV := by
  have htot : 1 ≤ major + minor := Nat.le_add_right_of_le h
  have hq : (0 : ℚ) < ((major + minor : ℕ) : ℚ) := Nat.cast_pos.mpr htot
  have he : (0 : ℚ) < 1 - eps := sub_pos.mpr he1
  rw [genotypes_eq _ _ _ _ h, List.mem_append, List.mem_map] at hg
  obtain ⟨i, _, rfl⟩ | hg := hg
  · exact ⟨rfl, rfl, lt_min he (qdiv_pos (Nat.cast_pos.mpr i.succ_pos) hq), min_le_left _ _,
      hn, htot⟩
  · split_ifs at hg
    · exact absurd hg List.not_mem_nil
    · rw [List.mem_singleton.mp hg]
      exact ⟨rfl, rfl, lt_min he (qdiv_pos one_pos hq), min_le_left _ _, htot, htot⟩

theorem wN_nonneg (g : Genotype) {t : ℚ} (ht1 : t ≤ 1) : 0 ≤ wN g t :=
  mul_nonneg (sub_nonneg.mpr ht1) (Nat.cast_nonneg _)

theorem le_wR {g : Genotype} {t f : ℚ} (hR : 1 ≤ g.cnR) (ht0 : 0 < t) (hf1 : f ≤ 1) :
    t * (1 - f) ≤ wR g t f :=
  le_mul_of_one_le_right (mul_nonneg ht0.le (sub_nonneg.mpr hf1)) (Nat.one_le_cast.mpr hR)

theorem le_wV {g : Genotype} {t f : ℚ} (hV : 1 ≤ g.cnV) (ht0 : 0 < t) (hf0 : 0 ≤ f) :
    t * f ≤ wV g t f :=
  le_mul_of_one_le_right (mul_nonneg ht0.le hf0) (Nat.one_le_cast.mpr hV)

theorem vafDen_pos {g : Genotype} {t f : ℚ} (hR : 1 ≤ g.cnR) (hV : 1 ≤ g.cnV)
    (ht0 : 0 < t) (ht1 : t ≤ 1) (hf0 : 0 ≤ f) (hf1 : f ≤ 1) : 0 < vafDen g t f := by
  have a := wN_nonneg g ht1
  have b := le_wR hR ht0 hf1
  have c := le_wV hV ht0 hf0
  unfold vafDen
  linarith only [a, b, c, ht0]

theorem wmean_bounds {a b c x y z lo hi : ℚ} (ha : 0 ≤ a) (hb : 0 ≤ b) (hc : 0 ≤ c)
    (hd : 0 < a + b + c) (hx : lo ≤ x ∧ x ≤ hi) (hy : lo ≤ y ∧ y ≤ hi) (hz : lo ≤ z ∧ z ≤ hi) :
    lo ≤ (a * x + b * y + c * z) / (a + b + c) ∧ (a * x + b * y + c * z) / (a + b + c) ≤ hi := by
  rw [le_div_iff₀ hd, div_le_iff₀ hd, mul_comm lo, mul_comm hi, add_mul, add_mul, add_mul, add_mul]
  exact ⟨add_le_add (add_le_add (mul_le_mul_of_nonneg_left hx.1 ha)
      (mul_le_mul_of_nonneg_left hy.1 hb)) (mul_le_mul_of_nonneg_left hz.1 hc),
    add_le_add (add_le_add (mul_le_mul_of_nonneg_left hx.2 ha)
      (mul_le_mul_of_nonneg_left hy.2 hb)) (mul_le_mul_of_nonneg_left hz.2 hc)⟩

/-- the expected VAF is a weighted mean of the per-population variant probabilities -/
theorem expVaf_bounds {g : Genotype} {t f eps : ℚ} (hmN : g.muN = eps) (hmR : g.muR = eps)
    (hmV1 : g.muV ≤ 1 - eps) (he1 : eps < 1 / 2) (hR : 1 ≤ g.cnR) (hV : 1 ≤ g.cnV)
    (ht0 : 0 < t) (ht1 : t ≤ 1) (hf0 : 0 ≤ f) (hf1 : f ≤ 1) :
    qmin eps g.muV ≤ expVaf g t f ∧ expVaf g t f ≤ 1 - eps := by
  have he : qmin eps g.muV ≤ eps ∧ eps ≤ 1 - eps :=
    ⟨min_le_left _ _, le_sub_iff_add_le.mpr ((add_lt_add he1 he1).le.trans (add_halves 1).le)⟩
  rw [expVaf, hmN, hmR]
  exact wmean_bounds (wN_nonneg g ht1)
    (le_trans (mul_nonneg ht0.le (sub_nonneg.mpr hf1)) (le_wR hR ht0 hf1))
    (le_trans (mul_nonneg ht0.le hf0) (le_wV hV ht0 hf0))
    (vafDen_pos hR hV ht0 ht1 hf0 hf1) he he ⟨min_le_right _ _, hmV1⟩

/-- at cellular prevalence 0 no cell carries the mutation: the expected VAF is the error rate -/
theorem expVaf_zero {g : Genotype} {t eps : ℚ} (hmN : g.muN = eps) (hmR : g.muR = eps)
    (hR : 1 ≤ g.cnR) (hV : 1 ≤ g.cnV) (ht0 : 0 < t) (ht1 : t ≤ 1) :
    expVaf g t 0 = eps := by
  have hden := vafDen_pos hR hV ht0 ht1 (le_refl 0) zero_le_one
  unfold expVaf
  rw [div_eq_iff (ne_of_gt hden), hmN, hmR]
  unfold vafDen wV
  ring

theorem sampleLik_eq_lsum (d : Density) (o : Obs) (f : ℚ) :
    sampleLik d o f = lsum (genotypes o.major o.minor o.normal o.eps) fun g =>
      (1 / ((genotypes o.major o.minor o.normal o.eps).length : ℚ))
        * genoLik d (o.ref + o.alt) o.alt (expVaf g o.t f) := rfl

theorem entry_def (g : List Vec) (s k : ℕ) : entry g s k = (g.getD s []).getD k 0 := rfl

theorem entry_ones (S G s k : ℕ) (hs : s < S) (hk : k < G) : entry (gridOnes S G) s k = 1 := by
  unfold entry gridOnes getQ
  simp [List.getD_eq_getElem?_getD, hs, hk]

/-- holds for grids of any shape: a missing entry reads as 0 on both sides -/
theorem entry_gridMul (a b : List Vec) (s k : ℕ) :
    entry (gridMul a b) s k = entry a s k * entry b s k := by
  unfold entry gridMul getQ
  simp only [List.getD_eq_getElem?_getD, List.getElem?_zipWith]
  cases a[s]? <;> cases b[s]? <;>
    simp only [Option.getD_none, Option.getD_some, List.getElem?_nil, zero_mul, mul_zero,
      List.getElem?_zipWith]
  rename_i ra rb
  cases ra[k]? <;> cases rb[k]? <;>
    simp only [Option.getD_none, Option.getD_some, zero_mul, mul_zero]

theorem entry_foldl (members : List (List Vec)) (s k : ℕ) (acc : List Vec) :
    entry (members.foldl gridMul acc) s k
      = entry acc s k * (members.map fun m => entry m s k).prod := by
  induction members generalizing acc with
  | nil => simp
  | cons m ms ih =>
    rw [List.foldl_cons, ih, entry_gridMul, List.map_cons, List.prod_cons, mul_assoc]

end PhyModel.Emission
