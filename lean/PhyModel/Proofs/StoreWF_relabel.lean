import PhyModel.Proofs.StoreWF_Facts
/-! C07 for `Tree.relabel_nodes()` (`Store.relabelNodes`): the relabelled store satisfies the
invariant, its names are dense, the outliers, the data points, the number of clones and the
clone-side view (`toDF`) are conserved, and every payload list stays equal to the `_data` list of its
(new) name. -/
namespace PhyModel.Store
open Store.Store SF AL

/-- the `_data` map written by `relabelNodes` -/
def relabelData (s : Store) : List (Int × List Nat) :=
  (outKey, s.outliers) :: (relabelSF s.forest 0).2.2.map fun (o, nw) => (nw, s.dataOf o)

theorem relabelNodes_forest (s : Store) : s.relabelNodes.forest = (relabelSF s.forest 0).1 := rfl
theorem relabelNodes_data_eq (s : Store) : s.relabelNodes.data = relabelData s := rfl
theorem relabelNodes_nodeIdx (s : Store) :
    s.relabelNodes.nodeIdx = (relabelSF s.forest 0).1.recs.map fun n => (n.name, n.idx) := rfl
theorem relabelNodes_nodeIdxRev (s : Store) :
    s.relabelNodes.nodeIdxRev = (relabelSF s.forest 0).1.recs.map fun n => (n.idx, n.name) := rfl

theorem relabelData_keys (s : Store) : keys (relabelData s) = outKey :: (relabelSF s.forest 0).1.names := by
  simp only [relabelData, keys, List.map_cons, List.map_map]
  congr 1
  rw [← relabelSF_ren_snd]
  apply List.map_congr_left
  rintro ⟨o, nw⟩ _; rfl

theorem relabelData_vals (s : Store) :
    vals (relabelData s) = (outKey :: s.forest.names).flatMap (dOf s.data) := by
  simp only [relabelData, vals, List.flatMap_cons]
  congr 1
  rw [← relabelSF_ren_fst s.forest 0, List.flatMap_map, List.flatMap_map]
  exact List.flatMap_congr fun ⟨o, nw⟩ _ => rfl

theorem relabelData_keys_nodup (s : Store) : (keys (relabelData s)).Nodup := by
  rw [relabelData_keys, List.nodup_cons]
  exact ⟨fun h => absurd (relabelSF_bounds h).1 (by decide), relabelSF_names_nodup _ _⟩

theorem WF.outKey_names_nodup {s : Store} (hw : WF s) : (outKey :: s.forest.names).Nodup :=
  List.nodup_cons.2 ⟨fun h => let ⟨_, hn, e⟩ := mem_names.1 h; hw.name_ne_outKey hn e, hw.names_nodup⟩

theorem WF.flatMap_dOf_perm {s : Store} (hw : WF s) :
    ((outKey :: s.forest.names).flatMap (dOf s.data)).Perm (vals s.data) :=
  flatMap_dOf_perm_vals hw.data_keys hw.outKey_names_nodup fun k hk =>
    (hw.d.data_sub k hk).elim (fun h => h ▸ List.mem_cons_self) (List.mem_cons_of_mem _)

/-- the value of the new `_data` at the new name of an old clone -/
theorem relabelData_dOf {s : Store} {o nw : Int} (h : (o, nw) ∈ (relabelSF s.forest 0).2.2) :
    dOf (relabelData s) nw = s.dataOf o := by
  have hm : (nw, s.dataOf o) ∈ relabelData s := by
    simp only [relabelData, List.mem_cons, List.mem_map]
    exact Or.inr ⟨(o, nw), h, rfl⟩
  simp [dOf, lookup_of_mem (relabelData_keys_nodup s) hm]

theorem relabelNodes_inv {s : Store} (hw : WF s) : Inv0 s.relabelNodes ∧ Dense s.relabelNodes := by
  refine ⟨⟨?_, ?_⟩, ?_⟩
  · rw [wf_iff, relabelNodes_forest, relabelNodes_data_eq, relabelNodes_nodeIdx, relabelNodes_nodeIdxRev]
    refine ⟨⟨relabelSF_names_nodup _ _, ?_, fun n' hn' => ?_, fun n' hn' => ?_⟩,
      ⟨List.Perm.refl _, List.Perm.refl _⟩,
      ⟨relabelData_keys_nodup s, fun k hk => ?_, fun n' hn' => ?_, ?_⟩⟩
    · rw [relabelSF_map (·.idx) (fun _ _ => rfl)]; exact hw.idxs_nodup
    · obtain ⟨n, hn, he, _⟩ := relabelSF_mem hn'
      rw [he]; exact hw.idx_pos n hn
    · exact (relabelSF_bounds (List.mem_map_of_mem hn')).1
    · rw [relabelData_keys] at hk
      rcases List.mem_cons.1 hk with h | h
      · exact Or.inl h
      · exact Or.inr h
    · obtain ⟨n, hn, he, hr⟩ := relabelSF_mem hn'
      rw [relabelData_dOf hr]
      have : n'.dps = n.dps := by rw [he]
      rw [this]; exact hw.payload_data n hn
    · rw [relabelData_vals]
      exact flatMap_dOf_nodup hw.data_keys hw.data_nodup hw.outKey_names_nodup
  · intro n' hn'
    rw [relabelNodes_forest] at hn'
    show n'.name ∈ keys s.relabelNodes.data
    rw [relabelNodes_data_eq, relabelData_keys]
    exact List.mem_cons_of_mem _ (List.mem_map_of_mem hn')
  · intro n' hn'
    rw [relabelNodes_forest] at hn'
    have := (relabelSF_bounds (List.mem_map_of_mem hn')).2
    simp only [Store.numNodes, relabelNodes_forest, relabelSF_numNodes]
    rwa [Int.zero_add] at this

theorem relabelNodes_outliers (s : Store) : s.relabelNodes.outliers = s.outliers := rfl

theorem relabelNodes_data {s : Store} (hw : WF s) : (vals s.relabelNodes.data).Perm (vals s.data) := by
  rw [relabelNodes_data_eq, relabelData_vals]; exact hw.flatMap_dOf_perm

theorem relabelNodes_numNodes (s : Store) : s.relabelNodes.numNodes = s.numNodes := by
  simp only [Store.numNodes, relabelNodes_forest, relabelSF_numNodes]

theorem relabelSF_toDF (f : SF) (c : Int) : (relabelSF f c).1.toDF = f.toDF := by
  induction f generalizing c with
  | nil => rfl
  | cons n k s ihk ihs => simp [relabelSF, toDF, ihk, ihs]

/-- the clone-side view is only renamed: same shape and data-point sets -/
theorem relabelNodes_toDF (s : Store) : s.relabelNodes.forest.toDF = s.forest.toDF :=
  relabelSF_toDF s.forest 0

theorem relabelNodes_aligned {s : Store} (_hw : WF s) (ha : Aligned s) : Aligned s.relabelNodes := by
  intro n' hn'
  rw [relabelNodes_forest] at hn'
  obtain ⟨n, hn, he, hr⟩ := relabelSF_mem hn'
  have hd : n'.dps = n.dps := by rw [he]
  rw [dataOf_eq, relabelNodes_data_eq, relabelData_dOf hr, hd]
  exact ha n hn

end PhyModel.Store
