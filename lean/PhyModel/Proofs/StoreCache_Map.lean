import PhyModel.Proofs.StoreCache_Gen
/-! C06, generic layer: the cache invariant does not look at graph indices or names.  Payload maps
that keep `dps`, `p`, `r` (`mapRecs`), and the counter-threading renumberings `reindex` / `relabelSF`
(through the erasure `er`), preserve it. -/
namespace PhyModel.Store.C06

theorem mapRecs_cons (g : NodeRec → NodeRec) (n : NodeRec) (k s : SF) :
    (SF.cons n k s).mapRecs g = .cons (g n) (k.mapRecs g) (s.mapRecs g) := rfl

theorem Dc_mapRecs (G sm : Nat) (g : NodeRec → NodeRec) (hr : ∀ n, (g n).r = n.r) :
    ∀ f : SF, Dc G sm (f.mapRecs g) = Dc G sm f
  | .nil => rfl
  | .cons n k s => by simp only [mapRecs_cons, Dc, hr, Dc_mapRecs G sm g hr s]

theorem recompR_congr (dt : Data) (n n' : NodeRec) (k k' : SF) (hp : n'.p = n.p)
    (hk : ∀ sm, Dc dt.G sm k' = Dc dt.G sm k) : recompR dt n' k' = recompR dt n k := by
  unfold recompR
  simp only [hp, hk]

theorem recompRoot_congr (dt : Data) (f f' : SF) (hk : ∀ sm, Dc dt.G sm f' = Dc dt.G sm f) :
    recompRoot dt f' = recompRoot dt f := by
  unfold recompRoot
  simp only [hk]

theorem isNil_mapRecs (g : NodeRec → NodeRec) (f : SF) : (f.mapRecs g).isNil = f.isNil := by
  cases f <;> rfl

theorem idxs_mapRecs (g : NodeRec → NodeRec) (hi : ∀ n, (g n).idx = n.idx) :
    ∀ f : SF, (f.mapRecs g).idxs = f.idxs
  | .nil => rfl
  | .cons n k s => by
    rw [mapRecs_cons, SF.idxs_cons, SF.idxs_cons, hi, idxs_mapRecs g hi k, idxs_mapRecs g hi s]

theorem POK_mapRecs (dt : Data) (g : NodeRec → NodeRec) (hd : ∀ n, (g n).dps = n.dps)
    (hp : ∀ n, (g n).p = n.p) : ∀ f : SF, POK dt (f.mapRecs g) ↔ POK dt f
  | .nil => Iff.rfl
  | .cons n k s => by
    simp only [mapRecs_cons, POK, hd, hp, POK_mapRecs dt g hd hp k, POK_mapRecs dt g hd hp s]

theorem ROKe_mapRecs (dt : Data) (g : NodeRec → NodeRec) (hp : ∀ n, (g n).p = n.p)
    (hr : ∀ n, (g n).r = n.r) (E E' : NodeRec → SF → Prop)
    (hE : ∀ n k, E' (g n) (k.mapRecs g) ↔ E n k) :
    ∀ f : SF, ROKe dt E' (f.mapRecs g) ↔ ROKe dt E f
  | .nil => Iff.rfl
  | .cons n k s => by
    simp only [mapRecs_cons, ROKe, hE, hr, ROKe_mapRecs dt g hp hr E E' hE k,
      ROKe_mapRecs dt g hp hr E E' hE s,
      recompR_congr dt n (g n) k (k.mapRecs g) (hp n) (fun sm => Dc_mapRecs dt.G sm g hr k)]

theorem ROK_mapRecs (dt : Data) (g : NodeRec → NodeRec) (hp : ∀ n, (g n).p = n.p)
    (hr : ∀ n, (g n).r = n.r) (f : SF) : ROK dt (f.mapRecs g) ↔ ROK dt f :=
  ROKe_mapRecs dt g hp hr _ _ (fun _ _ => Iff.rfl) f

theorem ROKx_mapRecs (dt : Data) (i : Nat) (g : NodeRec → NodeRec) (hi : ∀ n, (g n).idx = n.idx)
    (hp : ∀ n, (g n).p = n.p) (hr : ∀ n, (g n).r = n.r) (f : SF) :
    ROKx dt i (f.mapRecs g) ↔ ROKx dt i f :=
  ROKe_mapRecs dt g hp hr _ _ (fun n k => by rw [hi, idxs_mapRecs g hi]) f

theorem cacheOKsf_mapRecs (dt : Data) (g : NodeRec → NodeRec) (hd : ∀ n, (g n).dps = n.dps)
    (hp : ∀ n, (g n).p = n.p) (hr : ∀ n, (g n).r = n.r) (f : SF) :
    CacheOKsf dt (f.mapRecs g) ↔ CacheOKsf dt f := by
  rw [cacheOKsf_iff, cacheOKsf_iff, POK_mapRecs dt g hd hp, ROK_mapRecs dt g hp hr]

/-! ### erasure of indices and names -/

/-- forget graph indices and names -/
def erRec (n : NodeRec) : NodeRec := { n with idx := 0, name := 0 }
def er (f : SF) : SF := f.mapRecs erRec

theorem er_cons (n : NodeRec) (k s : SF) :
    er (.cons n k s) = .cons (erRec n) (er k) (er s) := rfl

theorem cacheOKsf_er (dt : Data) (f : SF) : CacheOKsf dt (er f) ↔ CacheOKsf dt f :=
  cacheOKsf_mapRecs dt erRec (fun _ => rfl) (fun _ => rfl) (fun _ => rfl) f

theorem POK_er (dt : Data) (f : SF) : POK dt (er f) ↔ POK dt f :=
  POK_mapRecs dt erRec (fun _ => rfl) (fun _ => rfl) f

theorem Dc_er (G sm : Nat) (f : SF) : Dc G sm (er f) = Dc G sm f :=
  Dc_mapRecs G sm erRec (fun _ => rfl) f

theorem cacheOKsf_of_er_eq (dt : Data) {f f' : SF} (h : er f' = er f) :
    CacheOKsf dt f' ↔ CacheOKsf dt f := by
  rw [← cacheOKsf_er dt f', h, cacheOKsf_er]

theorem POK_of_er_eq (dt : Data) {f f' : SF} (h : er f' = er f) : POK dt f' ↔ POK dt f := by
  rw [← POK_er dt f', h, POK_er]

theorem recompRoot_of_er_eq (dt : Data) {f f' : SF} (h : er f' = er f) :
    recompRoot dt f' = recompRoot dt f :=
  recompRoot_congr dt f f' fun sm => by rw [← Dc_er, h, Dc_er]

theorem isNil_of_er_eq {f f' : SF} (h : er f' = er f) : f'.isNil = f.isNil := by
  have h1 : (er f').isNil = f'.isNil := isNil_mapRecs _ _
  have h2 : (er f).isNil = f.isNil := isNil_mapRecs _ _
  rw [← h1, h, h2]

theorem er_mapRecs (g : NodeRec → NodeRec) (hd : ∀ n, (g n).dps = n.dps) (hp : ∀ n, (g n).p = n.p)
    (hr : ∀ n, (g n).r = n.r) : ∀ f : SF, er (f.mapRecs g) = er f
  | .nil => rfl
  | .cons n k s => by
    rw [mapRecs_cons, er_cons, er_cons, er_mapRecs g hd hp hr k, er_mapRecs g hd hp hr s]
    simp only [erRec, hd, hp, hr]

theorem er_reindex : ∀ (f : SF) (c : Nat), er (Store.reindex f c).1 = er f
  | .nil, _ => rfl
  | .cons n k s, c => by
    simp only [Store.reindex, er_cons, er_reindex k, er_reindex s, erRec]

theorem er_relabelSF : ∀ (f : SF) (c : Int), er (Store.relabelSF f c).1 = er f
  | .nil, _ => rfl
  | .cons n k s, c => by
    simp only [Store.relabelSF, er_cons, er_relabelSF k, er_relabelSF s, erRec]

theorem er_append : ∀ f g : SF, er (f.append g) = (er f).append (er g)
  | .nil, _ => rfl
  | .cons n k s, g => by simp only [SF.append, er_cons, er_append s g]

end PhyModel.Store.C06
