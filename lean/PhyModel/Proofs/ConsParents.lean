import PhyModel.Proofs.ConsFamily
import PhyModel.Proofs.ExceptLemmas
import Mathlib.Data.List.Lattice
/-! The digraph of `consensus` and the relabelling on a good family: `find_smallest_superset`
returns a shortest strict superset and never raises, whatever the order of the candidates; the
edges into a node are exactly its children in the nesting relation of `Proofs/Consensus.lean`;
`relabel` (`set.remove` of the children's elements, here `List.diff`) never raises KeyError and
leaves the node minus the union of the members strictly inside it; these own sets cover exactly
the union of the family. -/
open Finset

namespace PhyModel.ConsBridge
open PhyModel.Consensus

/-! ### tables built by `mapM` in `Except` -/

theorem mapM_pair_ok {β : Type} {g : Clade → Except String β} {l : List Clade}
    (h : ∀ c ∈ l, ∃ b, g c = .ok b) :
    ∃ bs, (l.mapM fun c => do let p ← g c; pure (c, p)) = .ok bs :=
  mapM_ok_of fun c hc =>
    let ⟨b, hb⟩ := h c hc
    ⟨(c, b), bind_eq_ok.mpr ⟨b, hb, rfl⟩⟩

theorem mapM_pair_spec {β : Type} {g : Clade → Except String β} {l : List Clade}
    {bs : List (Clade × β)} (h : (l.mapM fun c => do let p ← g c; pure (c, p)) = .ok bs) :
    bs.map (·.1) = l ∧ ∀ e ∈ bs, g e.1 = .ok e.2 := by
  have hrel : List.Forall₂ (fun c e => e.1 = c ∧ g e.1 = .ok e.2) l bs :=
    (mapM_ok h).imp fun c e he => by
      obtain ⟨p, hp, he⟩ := bind_eq_ok.mp he
      cases he
      exact ⟨rfl, hp⟩
  exact ⟨forall₂_map_eq hrel, fun e he => let ⟨_, _, _, hg⟩ := forall₂_mem_right hrel he; hg⟩

theorem exists_entry {β : Type} {l : List Clade} {bs : List (Clade × β)} (h : bs.map (·.1) = l)
    {c : Clade} (hc : c ∈ l) : ∃ b, (c, b) ∈ bs := by
  obtain ⟨⟨_, b⟩, he, rfl⟩ := List.mem_map.mp (h ▸ hc)
  exact ⟨b, he⟩

/-! ### `find_smallest_superset` -/

theorem length_eq_card {c : List ℕ} (h : c.Nodup) : c.length = c.toFinset.card :=
  (List.toFinset_card_of_nodup h).symm

theorem go_ok (q : Clade) (cs : List Clade) (best : Option Clade)
    (h : (best.toList ++ cs.filter (subsetL q)).Pairwise fun a b => a.length ≠ b.length) :
    ∃ r, findSmallestGo q cs best = .ok r := by
  induction cs generalizing best with
  | nil => exact ⟨best, rfl⟩
  | cons c cs ih =>
    by_cases hs : subsetL q c = true
    · rw [List.filter_cons_of_pos hs] at h
      cases best with
      | none =>
        simp only [findSmallestGo, hs, if_true]
        exact ih (some c) h
      | some b =>
        obtain ⟨hb, hc⟩ := List.pairwise_cons.mp h
        simp only [findSmallestGo, hs, if_true, if_neg (hb c List.mem_cons_self).symm]
        split
        · exact ih (some c) hc
        · exact ih (some b) (h.sublist (.cons_cons b (List.sublist_cons_self c _)))
    · rw [List.filter_cons_of_neg hs] at h
      simp only [findSmallestGo, hs]
      exact ih best h

theorem go_spec (q : Clade) (cs : List Clade) (best r : Option Clade)
    (h : findSmallestGo q cs best = .ok r) :
    (∀ p ∈ r, p ∈ best.toList ++ cs.filter (subsetL q)) ∧
    ∀ c ∈ best.toList ++ cs.filter (subsetL q), ∃ p ∈ r, p.length ≤ c.length := by
  induction cs generalizing best with
  | nil =>
    cases h
    rw [List.filter_nil, List.append_nil]
    exact ⟨fun p hp => Option.mem_toList.mpr hp, fun c hc => ⟨c, Option.mem_toList.mp hc, le_rfl⟩⟩
  | cons c cs ih =>
    by_cases hs : subsetL q c = true
    · rw [List.filter_cons_of_pos hs]
      simp only [findSmallestGo, hs, if_true] at h
      cases best with
      | none => exact ih (some c) h
      | some b =>
        simp only at h
        split at h
        · cases h
        split at h
        · -- `c` replaces the longer `b`
          obtain ⟨h1, h2⟩ := ih (some c) h
          obtain ⟨p, hp, hle⟩ := h2 c List.mem_cons_self
          exact ⟨fun p hp => List.mem_cons_of_mem _ (h1 p hp),
            List.forall_mem_cons.mpr ⟨⟨p, hp, hle.trans (Nat.le_of_lt ‹_›)⟩, h2⟩⟩
        · -- `b` stays: it is shorter than `c`
          obtain ⟨h1, h2⟩ := ih (some b) h
          obtain ⟨⟨p, hp, hle⟩, hrest⟩ := List.forall_mem_cons.mp h2
          exact ⟨fun p hp => (List.Sublist.cons_cons b (List.sublist_cons_self c _)).subset (h1 p hp),
            List.forall_mem_cons.mpr ⟨⟨p, hp, hle⟩,
              List.forall_mem_cons.mpr ⟨⟨p, hp, hle.trans (Nat.le_of_not_lt ‹_›)⟩, hrest⟩⟩⟩
    · rw [List.filter_cons_of_neg hs]
      simp only [findSmallestGo, hs] at h
      exact ih best h

theorem mem_discard {q d : Clade} {m : List Clade} :
    d ∈ discard q m ↔ d ∈ m ∧ d.toFinset ≠ q.toFinset := by
  rw [PhyModel.Consensus.discard, List.mem_filter, Bool.not_eq_true', ← Bool.not_eq_true, setEq_iff]

theorem mem_supersets {c d : Clade} {m : List Clade} :
    d ∈ (discard c m).filter (subsetL c) ↔ d ∈ m ∧ c.toFinset ⊂ d.toFinset := by
  rw [List.mem_filter, mem_discard, subsetL_iff, and_assoc, ssubset_iff_subset_ne]
  exact and_congr_right fun _ => and_comm.trans (and_congr_right fun _ => ne_comm)

/-- the "Inconsistent set of clades" branch is unreachable on a laminar family, in whatever order
the candidates `cs` are scanned: two supersets of a non-empty set that differ as sets differ in
size -/
theorem go_ok_good {m : List Clade} (hm : GoodFamily m) {q : Clade} (hq : q.toFinset.Nonempty)
    {cs : List Clade} (hsub : ∀ d ∈ cs, d ∈ m)
    (hpw : cs.Pairwise fun a b => a.toFinset ≠ b.toFinset) :
    ∃ r, findSmallestGo q cs none = .ok r := by
  refine go_ok q cs none ((hpw.filter _).imp_of_mem fun {a b} ha hb hne hlen => hne ?_)
  obtain ⟨ha, hqa⟩ := List.mem_filter.mp ha
  obtain ⟨hb, hqb⟩ := List.mem_filter.mp hb
  refine _root_.Consensus.smallest_superset_unique (F m) hm.lam q.toFinset hq _ _
    (mem_F_of_mem (hsub a ha)) (mem_F_of_mem (hsub b hb)) (subsetL_iff.mp hqa) (subsetL_iff.mp hqb) ?_
  rw [← length_eq_card (hm.nd a (hsub a ha)), ← length_eq_card (hm.nd b (hsub b hb)), hlen]

theorem findSmallestSuperset_ok {m : List Clade} (hm : GoodFamily m) (c : Clade) (hc : c ∈ m) :
    ∃ r, findSmallestSuperset m c = .ok r :=
  go_ok_good hm (hm.ne c hc) (fun _ hd => (mem_discard.mp hd).1) (hm.pw.filter _)

theorem findSmallestSuperset_spec {m : List Clade} {c : Clade} {r : Option Clade}
    (h : findSmallestSuperset m c = .ok r) :
    (∀ p ∈ r, p ∈ m ∧ c.toFinset ⊂ p.toFinset) ∧
    ∀ d ∈ m, c.toFinset ⊂ d.toFinset → ∃ p ∈ r, p.length ≤ d.length :=
  let ⟨h1, h2⟩ := go_spec c (discard c m) none r h
  ⟨fun p hp => mem_supersets.mp (h1 p hp), fun d hd hcd => h2 d (mem_supersets.mpr ⟨hd, hcd⟩)⟩

/-- `find_smallest_superset m c = p`: `p` is a member of `m`, a strict superset of `c`, and no
member lies strictly between them — the child relation of `Proofs/Consensus.lean` -/
theorem parent_isChild {m : List Clade} (hnd : ∀ c ∈ m, c.Nodup) {c p : Clade}
    (h : findSmallestSuperset m c = .ok (some p)) (hc : c ∈ m) :
    _root_.Consensus.isChild (F m) p.toFinset c.toFinset := by
  obtain ⟨h1, h2⟩ := findSmallestSuperset_spec h
  obtain ⟨hpm, hcp⟩ := h1 p rfl
  refine ⟨mem_F_of_mem hc, hcp, fun e he hce hep => ?_⟩
  obtain ⟨d, hd, rfl⟩ := mem_F.mp he
  obtain ⟨_, hp, hle⟩ := h2 d hd hce
  cases hp
  rw [length_eq_card (hnd _ hpm), length_eq_card (hnd d hd)] at hle
  exact eq_of_subset_of_card_le hep hle

/-- a root of the consensus graph has no strict superset in the family -/
theorem root_maximal {m : List Clade} {c : Clade} (h : findSmallestSuperset m c = .ok none) :
    ∀ d ∈ m, ¬ c.toFinset ⊂ d.toFinset := fun d hd hcd =>
  let ⟨_, hp, _⟩ := (findSmallestSuperset_spec h).2 d hd hcd
  nomatch hp

/-! ### the parent table and the children of a node -/

theorem parentTable_ok {m : List Clade} (hm : GoodFamily m) : ∃ tbl, parentTable m = .ok tbl :=
  mapM_pair_ok (findSmallestSuperset_ok hm)

variable {m : List Clade} {tbl : List (Clade × Option Clade)} {c : Clade}

theorem mem_childrenOf {d : Clade} :
    d ∈ childrenOf tbl c ↔ ∃ p, (d, some p) ∈ tbl ∧ p.toFinset = c.toFinset := by
  simp only [childrenOf, isParent, List.mem_map, List.mem_filter]
  constructor
  · rintro ⟨⟨d', q⟩, ⟨he, hp⟩, rfl⟩
    cases q with
    | none => cases hp
    | some p => exact ⟨p, he, setEq_iff.mp hp⟩
  · rintro ⟨p, he, hp⟩
    exact ⟨(d, some p), ⟨he, setEq_iff.mpr hp⟩, rfl⟩

theorem childrenOf_sublist (h : parentTable m = .ok tbl) (c : Clade) :
    (childrenOf tbl c).Sublist m :=
  (mapM_pair_spec h).1 ▸ List.filter_sublist.map _

/-- the edges into `c` recorded by `consensus` are exactly the children of `c` in the nesting
relation of the family -/
theorem childrenOf_iff (hg : GoodFamily m) (h : parentTable m = .ok tbl) (hc : c ∈ m) (d : Clade) :
    d ∈ childrenOf tbl c ↔ d ∈ m ∧ _root_.Consensus.isChild (F m) c.toFinset d.toFinset := by
  obtain ⟨hkeys, hval⟩ := mapM_pair_spec h
  rw [mem_childrenOf]
  constructor
  · rintro ⟨p, he, hp⟩
    have hd : d ∈ m := hkeys ▸ List.mem_map_of_mem he
    exact ⟨hd, hp ▸ parent_isChild hg.nd (hval _ he) hd⟩
  · rintro ⟨hd, hch⟩
    obtain ⟨q, he⟩ := exists_entry hkeys hd
    have hq := hval _ he
    cases q with
    | none => exact absurd hch.2.1 (root_maximal hq c hc)
    | some p =>
      have hp := ((findSmallestSuperset_spec hq).1 p rfl).1
      exact ⟨p, he, _root_.Consensus.isChild_unique hg.lam (hg.ne _ hd) (mem_F_of_mem hc)
        (mem_F_of_mem hp) hch (parent_isChild hg.nd hq hd)⟩

/-! ### `set.remove` -/

theorem removeOne_eq (x : ℕ) (r : List ℕ) :
    removeOne x r = if x ∈ r then some (r.erase x) else none := by
  induction r with
  | nil => rfl
  | cons a l ih =>
    rw [removeOne, ih]
    by_cases h : a = x
    · rw [if_pos h, h, if_pos List.mem_cons_self, List.erase_cons_head]
    · rw [if_neg h, List.erase_cons_tail (by simpa using h)]
      by_cases hx : x ∈ l
      · rw [if_pos hx, if_pos (List.mem_cons_of_mem _ hx)]
        rfl
      · rw [if_neg hx, if_neg fun h' => (List.mem_cons.mp h').elim (fun e => h e.symm) hx]
        rfl

/-- removing the elements of a duplicate-free list that are all present never raises KeyError -/
theorem removeAll_ok (xs r : List ℕ) (hnd : xs.Nodup) (hsub : ∀ x ∈ xs, x ∈ r) :
    removeAll xs r = .ok (r.diff xs) := by
  induction xs generalizing r with
  | nil => rfl
  | cons x xs ih =>
    obtain ⟨hx, hnd'⟩ := List.nodup_cons.mp hnd
    rw [removeAll, removeOne_eq, if_pos (hsub x List.mem_cons_self), List.diff_cons]
    refine ih (r.erase x) hnd' fun y hy => ?_
    exact (List.mem_erase_of_ne fun (e : y = x) => hx (e ▸ hy)).mpr (hsub y (List.mem_cons_of_mem _ hy))

theorem removeAll_append (xs ys r : List ℕ) :
    removeAll (xs ++ ys) r = (removeAll xs r).bind (removeAll ys) := by
  induction xs generalizing r with
  | nil => rfl
  | cons x xs ih =>
    rw [List.cons_append, removeAll, removeAll]
    cases removeOne x r with
    | none => rfl
    | some r' => exact ih r'

theorem removeChildren_eq (chs : List Clade) (r : List ℕ) :
    removeChildren chs r = removeAll chs.flatten r := by
  induction chs generalizing r with
  | nil => rfl
  | cons ch chs ih =>
    rw [List.flatten_cons, removeAll_append, removeChildren]
    cases removeAll ch r with
    | error e => rfl
    | ok r' => exact ih r'

/-! ### own data -/

/-- union of the members strictly inside `s` -/
def strictU (m : List Clade) (s : Finset ℕ) : Finset ℕ :=
  ((F m).filter (fun e => e ⊂ s)).biUnion id

theorem strictU_subset (m : List Clade) (s : Finset ℕ) : strictU m s ⊆ s :=
  biUnion_subset.mpr fun _ he => (mem_filter.mp he).2.subset

theorem children_flatten_nodup (hg : GoodFamily m) (h : parentTable m = .ok tbl) (hc : c ∈ m) :
    (childrenOf tbl c).flatten.Nodup := by
  refine List.nodup_flatten.mpr ⟨fun d hd => hg.nd d ((childrenOf_iff hg h hc d).mp hd).1, ?_⟩
  refine (hg.pw.sublist (childrenOf_sublist h c)).imp_of_mem fun {a b} ha hb hne => ?_
  exact List.disjoint_toFinset_iff_disjoint.mp (_root_.Consensus.children_disjoint hg.lam
    ((childrenOf_iff hg h hc a).mp ha).2 ((childrenOf_iff hg h hc b).mp hb).2 hne)

/-- the elements removed by `relabel` at node `c` are those of the members strictly inside `c` -/
theorem mem_children_flatten (hg : GoodFamily m) (h : parentTable m = .ok tbl) (hc : c ∈ m) (x : ℕ) :
    x ∈ (childrenOf tbl c).flatten ↔ x ∈ strictU m c.toFinset := by
  rw [strictU, ← _root_.Consensus.mem_child_iff_mem_strict, List.mem_flatten]
  constructor
  · rintro ⟨d, hd, hx⟩
    exact ⟨d.toFinset, ((childrenOf_iff hg h hc d).mp hd).2, List.mem_toFinset.mpr hx⟩
  · rintro ⟨D, hD, hx⟩
    obtain ⟨d, hd, rfl⟩ := mem_F.mp hD.1
    exact ⟨d, (childrenOf_iff hg h hc d).mpr ⟨hd, hD⟩, List.mem_toFinset.mp hx⟩

/-- **bridge (a)**: `_relabel` at a node of a good family succeeds (no KeyError: no element is
removed twice, every removed element is present) and leaves the node minus the union of the
members strictly inside it -/
theorem ownOf_spec (hg : GoodFamily m) (h : parentTable m = .ok tbl) (hc : c ∈ m) :
    ∃ o, ownOf tbl c = .ok o ∧ o.Nodup ∧ o.toFinset = c.toFinset \ strictU m c.toFinset := by
  refine ⟨c.diff (childrenOf tbl c).flatten, ?_, (hg.nd c hc).diff, ?_⟩
  · rw [ownOf, removeChildren_eq]
    refine removeAll_ok _ _ (children_flatten_nodup hg h hc) fun x hx => ?_
    exact List.mem_toFinset.mp (strictU_subset m _ ((mem_children_flatten hg h hc x).mp hx))
  · ext x
    rw [List.mem_toFinset, (hg.nd c hc).mem_sdiff_iff, mem_children_flatten hg h hc, mem_sdiff,
      List.mem_toFinset]

/-- the `relabel` pass over all nodes -/
def ownsOf (tbl : List (Clade × Option Clade)) (m : List Clade) : Except String (List (Clade × List ℕ)) :=
  m.mapM fun c => do
    let o ← ownOf tbl c
    pure (c, o)

variable {owns : List (Clade × List ℕ)}

/-- `relabel` never raises KeyError on a good family -/
theorem ownsOf_ok (hg : GoodFamily m) (h : parentTable m = .ok tbl) : ∃ owns, ownsOf tbl m = .ok owns :=
  mapM_pair_ok fun _ hc => let ⟨o, ho, _⟩ := ownOf_spec hg h hc; ⟨o, ho⟩

theorem owns_entry (hg : GoodFamily m) (h : parentTable m = .ok tbl) (ho : ownsOf tbl m = .ok owns)
    {e : Clade × List ℕ} (he : e ∈ owns) :
    e.1 ∈ m ∧ e.2.Nodup ∧ e.2.toFinset = e.1.toFinset \ strictU m e.1.toFinset := by
  obtain ⟨hkeys, hval⟩ := mapM_pair_spec ho
  have hm : e.1 ∈ m := hkeys ▸ List.mem_map_of_mem he
  obtain ⟨o, ho1, ho2⟩ := ownOf_spec hg h hm
  obtain rfl : e.2 = o := Except.ok.inj ((hval e he).symm.trans ho1)
  exact ⟨hm, ho2⟩

/-- the data a built node carries -/
theorem lookupOwn_spec (hg : GoodFamily m) (h : parentTable m = .ok tbl) (ho : ownsOf tbl m = .ok owns)
    (hc : c ∈ m) : (lookupOwn owns c).toFinset = c.toFinset \ strictU m c.toFinset := by
  rw [lookupOwn]
  cases hf : owns.find? (fun e => setEq e.1 c) with
  | none =>
    obtain ⟨o, he⟩ := exists_entry (mapM_pair_spec ho).1 hc
    exact absurd (setEq_iff.mpr rfl) (List.find?_eq_none.mp hf _ he)
  | some e =>
    have hp : setEq e.1 c = true := List.find?_some (p := fun e : Clade × List ℕ => setEq e.1 c) hf
    rw [(owns_entry hg h ho (List.mem_of_find?_eq_some hf)).2.2, setEq_iff.mp hp]

/-- the own sets of the table cover exactly the union of the family -/
theorem owns_cover (hg : GoodFamily m) (h : parentTable m = .ok tbl) (ho : ownsOf tbl m = .ok owns)
    (i : ℕ) : (∃ e ∈ owns, i ∈ e.2) ↔ ∃ c ∈ m, i ∈ c := by
  constructor
  · rintro ⟨e, he, hi⟩
    obtain ⟨h1, _, h3⟩ := owns_entry hg h ho he
    have hi' := h3 ▸ List.mem_toFinset.mpr hi
    exact ⟨e.1, h1, List.mem_toFinset.mp (mem_sdiff.mp hi').1⟩
  · rintro ⟨c, hc, hi⟩
    -- `i` is own data of the smallest member inside `c` that contains it
    have hi' := _root_.Consensus.own_cover (F m) c.toFinset (mem_F_of_mem hc) ▸ List.mem_toFinset.mpr hi
    obtain ⟨D, hD, hiD⟩ := mem_biUnion.mp hi'
    obtain ⟨d, hd, rfl⟩ := mem_F.mp (mem_filter.mp hD).1
    obtain ⟨o, he⟩ := exists_entry (mapM_pair_spec ho).1 hd
    exact ⟨_, he, List.mem_toFinset.mp ((owns_entry hg h ho he).2.2 ▸ hiD)⟩

end PhyModel.ConsBridge

#print axioms PhyModel.ConsBridge.ownOf_spec
#print axioms PhyModel.ConsBridge.owns_cover
#print axioms PhyModel.ConsBridge.lookupOwn_spec
