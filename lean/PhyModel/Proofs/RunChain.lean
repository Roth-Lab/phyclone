import PhyModel.Proofs.HoldsSubtree
import PhyModel.Proofs.RunSpec
import PhyModel.Proofs.DensityPos
import PhyModel.Proofs.TraceEntries
import PhyModel.Proofs.DictInv
import PhyModel.Proofs.StoreCache_Legal
import PhyModel.Proofs.StoreCache_relabel
import PhyModel.Proofs.StoreWF_Step
import PhyModel.Proofs.StoreWF_Labels
/-! # Every state of a run is a complete well-formed tree with a positive `log_p_one` density

On trees: each of the five samplers of a sweep keeps `Holds`, so every `ChainOut` state holds the data
of the start tree.  On stores: when the sampler oracle realises the sweep model (`RealisesAt`), every
chain state — after any number of burn-in sweeps and any number of main sweeps — satisfies the store
invariants and represents a complete well-formed tree, and every recorded entry restores to such a
tree with the recorded, positive, `log_p_one`. -/

namespace PhyModel.RunOK

section trees

theorem iterOut_inv {P : T → Prop} {K : T → Dist T} (hK : ∀ x, P x → AllD P (K x)) :
    ∀ (n : ℕ) (x y : T), P x → IterOut K n x y → P y := by
  intro n
  induction n with
  | zero => intro x y hx h; exact h ▸ hx
  | succ n ih =>
    intro x y hx h
    obtain ⟨z, hz, hy⟩ := h
    exact (hK z (ih x z hx hz)).listed hy

/-- the SMC samplers run with the options `p.run α`, which agree with `p.c` on outlier modelling -/
theorem run_holds {K : SMC.Run → T → Dist T}
    (hK : ∀ (r : SMC.Run) {D : List ℕ} {x : T}, Holds r.c D x → AllD (Holds r.c D) (K r x))
    (p : Params) (α : ℚ) {D : List ℕ} {x : T} (hx : Holds p.c D x) : AllD (Holds p.c D) (K (p.run α) x) :=
  (hK (p.run α) (Holds.congr (c := p.c) (c' := (p.run α).c) id hx)).mono fun _ h =>
    Holds.congr (c := (p.run α).c) (c' := p.c) id h

theorem mv_outliers (p : Params) (α : ℚ) : (p.mv α).outliers = true → p.c.op ≠ 0 :=
  fun ho => bne_iff_ne.1 ho

theorem sweep_holds (p : Params) (ph : Phase) (α : ℚ) {D : List ℕ} {x y : T} (hx : Holds p.c D x)
    (h : SweepOut p ph α x y) : Holds p.c D y := by
  obtain ⟨x1, x2, h1, h2, h3⟩ := h
  have hx1 : Holds p.c D x1 := by
    cases ph with
    | burnin => exact (run_holds smcStep_holds p α hx).listed h1
    | main =>
      exact h1.elim (run_holds pgStep_holds p α hx).listed (run_holds subtreeMove_holds p α hx).listed
  have hx2 : Holds p.c D x2 :=
    iterOut_inv (fun _ hz => dataPointMove_holds (p.mv α) hz (mv_outliers p α)) p.ndp x1 x2 hx1 h2
  exact iterOut_inv (fun _ hz => pruneRegraft_holds (p.mv α) hz) p.nprg x2 y hx2 h3

theorem chain_holds (p : Params) {D : List ℕ} : ∀ (sched : List (Phase × ℚ)) (x y : T), Holds p.c D x →
    ChainOut p sched x y → Holds p.c D y := by
  intro sched
  induction sched with
  | nil => intro x y hx h; exact h ▸ hx
  | cons a rest ih =>
    obtain ⟨ph, α⟩ := a
    intro x y hx h
    obtain ⟨z, hz, hy⟩ := h
    exact ih z y (sweep_holds p ph α hx hz) hy

/-- `log_p_one` of a tree on data points of the data set is positive (finite in the log domain) for
positive likelihoods, outlier priors in `[0,1)` and a positive concentration value -/
theorem holds_pOne_pos (dt : Data) (hG : 0 < dt.G)
    (hL : ∀ i s k, i < dt.n → s < dt.S → k < dt.G → 0 < getQ (dt.L i s) k)
    (hop : ∀ i, i < dt.n → 0 ≤ dt.opOf i ∧ dt.opOf i < 1) {c : Proposal.Cfg} {D : List ℕ} {y : T}
    (hy : Holds c D y) (hD : ∀ i ∈ D, i < dt.n) {α : ℚ} (hα : 0 < α) : 0 < Density.pOne dt α y.f y.out :=
  C19P.Density.pOne_pos dt hG α hα y.f y.out fun j hj =>
    have hj' := hD j (hy.perm.subset hj)
    ⟨fun s hs k hk => hL j s k hj' hs hk, hop j hj'⟩

end trees

section stores
open PhyModel.Store PhyModel.Store.Store PhyModel.TraceLoop Orders.Forest

theorem sinv_of_legalFrom {dt : Data} (hNZ : DataNZ dt) {s s' : Store} (hs : SInv dt s)
    (h : LegalFrom dt s s') : SInv dt s' := by
  obtain ⟨ops, sys, hd, hleg, hin, hrun, hget⟩ := h
  have hmem : s' ∈ sys := List.mem_of_getElem? hget
  have h7 := inv_run (List.forall_mem_singleton.2 ⟨hs.1, hs.2.1, hs.2.2.2⟩) hleg hrun s' hmem
  have h6 := C06.cacheOK_run_legal dt hNZ ops [s] sys (List.forall_mem_singleton.2 ⟨hs.1, hs.2.1⟩) hleg hin
    (List.forall_mem_singleton.2 hs.2.2.1) hrun s' hmem
  exact ⟨h7.1, h7.2.1, h6, h7.2.2⟩

/-- the empty tree `Tree(grid_size)` satisfies the store invariants -/
theorem sinv_init (dt : Data) : SInv dt (Store.init dt) :=
  ⟨(inv_init' dt).1, (inv_init' dt).2.1, C06.cacheOK_init dt, (inv_init' dt).2.2⟩

theorem sinv_relabel {dt : Data} {s : Store} (hs : SInv dt s) : SInv dt s.relabelNodes :=
  ⟨(relabelNodes_inv hs.1).1.1, (relabelNodes_inv hs.1).1.2, C06.cacheOK_relabel dt s hs.2.2.1,
    relabelNodes_aligned hs.1 hs.2.2.2⟩

theorem absT_relabel (s : Store) : absT s.relabelNodes = absT s := by
  unfold absT Store.abs
  rw [relabelNodes_toDF, relabelNodes_outliers]

theorem absT_normRoot (dt : Data) (s : Store) : absT (normRoot dt s) = absT s := by
  unfold normRoot
  split <;> rfl

theorem stOK_step {p : Params} {D : List ℕ} (hNZ : DataNZ p.dt) {ph : Phase} {mv : ℕ → Store → Store}
    {i : ℕ} {s : Store} (hR : RealisesAt p ph mv i s) (hs : StOK p D s) : StOK p D (mv i s).relabelNodes := by
  obtain ⟨hleg, α, hsw⟩ := hR
  refine ⟨sinv_relabel (sinv_of_legalFrom hNZ hs.1 hleg), ?_⟩
  rw [absT_relabel]
  exact sweep_holds p ph α hs.2 hsw

/-- `s` is instantiated by the burn-in states `burnState mv · s0` and by the main-loop states
`(stateAt o cu st0 ·).tree` -/
theorem chain_ok {p : Params} {D : List ℕ} (hNZ : DataNZ p.dt) {ph : Phase} {mv : ℕ → Store → Store}
    {s : ℕ → Store} (hs : ∀ n, s (n + 1) = (mv n (s n)).relabelNodes) (h0 : StOK p D (s 0)) :
    ∀ n, (∀ i, i < n → RealisesAt p ph mv i (s i)) → StOK p D (s n) := by
  intro n
  induction n with
  | zero => exact fun _ => h0
  | succ n ih =>
    intro hR
    rw [hs]
    exact stOK_step hNZ (hR n (Nat.lt_succ_self n)) (ih fun i hi => hR i (Nat.lt_succ_of_lt hi))

theorem stateAt_alpha_pos {o : Oracles} (hc : ∀ i α s, 0 < α → 0 < o.conc i α s) (cu : Bool) {st0 : St}
    (h0 : 0 < st0.alpha) : ∀ k, 0 < (stateAt o cu st0 k).alpha := by
  intro k
  induction k with
  | zero => exact h0
  | succ k ih =>
    show 0 < (body o cu k (stateAt o cu st0 k)).alpha
    unfold body
    simp only
    split
    · exact hc _ _ _ ih
    · exact ih

/-- a store representing a tree on `0 .. n-1` lists every data point exactly once -/
theorem dataComplete_of_holds {c : Proposal.Cfg} {n : ℕ} {s : Store} (hw : WF s)
    (h : Holds c (List.range n) (absT s)) : dataCompleteB n s = true := by
  have h1 : (s.labels.map (·.1)).Perm (List.range n) := by
    refine hw.abs_perm_labels.symm.trans ?_
    refine List.perm_append_comm.trans ?_
    refine List.Perm.trans ?_ h.perm
    exact (PG.mk'_perm _ _).symm
  unfold dataCompleteB
  rw [sortNat_perm_eq h1, sortNat_of_sorted]
  · simp
  · exact (List.pairwise_lt_range).imp (fun h => Nat.le_of_lt h)

/-- the density a store reports is positive -/
theorem stOK_pOneC_pos {p : Params} {D : List ℕ} (hG : 0 < p.dt.G) (hgood : ∀ i ∈ D, C19P.GoodIdx p.dt i)
    {s : Store} (hs : StOK p D s) {α : ℚ} (hα : 0 < α) : 0 < pOneC p.dt α s := by
  rw [C06.pOneC_eq p.dt α s hs.1.2.2.1]
  have hperm : (s.forest.toDF.all ++ s.outliers).Perm D :=
    (PG.mk'_perm _ _).symm.trans hs.2.perm
  exact C19P.Density.pOne_pos p.dt hG α hα _ _ fun j hj => hgood j (hperm.subset hj)

/-- `from_dict` recomputes the root vector of a tree without clones; nothing else changes -/
theorem sinv_normRoot {dt : Data} {s : Store} (h : SInv dt s) : SInv dt (normRoot dt s) :=
  normRoot_inv dt s h.1 h.2.1 h.2.2.1 h.2.2.2

theorem entry_ok (p : Params) (hG : 0 < p.dt.G) (hgood : ∀ i, i < p.dt.n → C19P.GoodIdx p.dt i) {st : St}
    (hk : StOK p (List.range p.dt.n) st.tree) (hα : 0 < st.alpha) (j : ℕ) (t : ℚ) :
    ∃ s', fromDict p.dt (mkEntry p.dt j t st).tree = some s' ∧ SInv p.dt s' ∧ dataCompleteB p.dt.n s' = true ∧
      Holds p.c (List.range p.dt.n) (absT s') ∧
      pOneC p.dt (mkEntry p.dt j t st).alpha s' = (mkEntry p.dt j t st).logPOne ∧
      0 < (mkEntry p.dt j t st).logPOne := by
  obtain ⟨hr1, hr2⟩ :=
    mkEntry_restores p.dt j t st (wfd_of_shared p.dt _ hk.1.1 hk.1.2.1 hk.1.2.2.1 hk.1.2.2.2)
  have hok' : StOK p (List.range p.dt.n) (normRoot p.dt st.tree) :=
    ⟨sinv_normRoot hk.1, by rw [absT_normRoot]; exact hk.2⟩
  refine ⟨_, hr1, hok'.1, dataComplete_of_holds hok'.1.1 hok'.2, hok'.2, hr2, ?_⟩
  rw [← hr2]
  exact stOK_pOneC_pos hG (fun i hi => hgood i (List.mem_range.1 hi)) hok' hα

end stores

end PhyModel.RunOK
