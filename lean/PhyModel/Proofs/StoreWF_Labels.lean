import PhyModel.Proofs.StoreWF_relabel
/-! C07: the clone-side view (payload data-point sets + outliers) and the `_data` view (`Tree.labels`)
are the same assignment: every data point sits in exactly one clone or in the outlier set. -/
namespace PhyModel.Store
open SF AL

theorem toDF_all_perm (f : SF) : f.toDF.all.Perm (f.recs.flatMap (·.dps)) := by
  induction f with
  | nil => simp [SF.toDF, Orders.Forest.all]
  | cons n k s ihk ihs =>
    simp only [SF.toDF, Orders.Forest.all, recs_cons, List.flatMap_cons, List.flatMap_append]
    refine (List.Perm.append (List.perm_append_comm.trans (List.Perm.append_left _ ihk)) ihs).trans ?_
    simp

/-- clone-side data and outliers are, up to order, the values of `_data` -/
theorem WF.clone_view_perm {s : Store} (hw : WF s) :
    (s.outliers ++ s.forest.recs.flatMap (·.dps)).Perm (vals s.data) := by
  have h1 : (s.forest.recs.flatMap (·.dps)).Perm (s.forest.names.flatMap (dOf s.data)) := by
    simp only [SF.names, List.flatMap_map]
    exact List.Perm.flatMap_left _ fun n hn => hw.d.payload_data n hn
  have h2 : (s.outliers ++ s.forest.recs.flatMap (·.dps)).Perm
      ((outKey :: s.forest.names).flatMap (dOf s.data)) := by
    simp only [List.flatMap_cons]
    exact List.Perm.append_left _ h1
  exact h2.trans hw.flatMap_dOf_perm

/-- **every data point sits in exactly one place** (clone-side statement) -/
theorem WF.clone_view_nodup {s : Store} (hw : WF s) :
    (s.outliers ++ s.forest.recs.flatMap (·.dps)).Nodup :=
  hw.clone_view_perm.nodup_iff.2 hw.d.data_nodup

theorem labels_fst (s : Store) : s.labels.map (·.1) = vals s.data := by
  simp only [Store.labels, List.map_flatMap, List.map_map, Function.comp_def, List.map_id']

theorem mem_labels {s : Store} {d : Nat} {nm : Int} :
    (d, nm) ∈ s.labels ↔ ∃ l, (nm, l) ∈ s.data ∧ d ∈ l := by
  simp only [Store.labels, List.mem_flatMap, List.mem_map, Prod.mk.injEq]
  constructor
  · rintro ⟨e, he, d', hd', rfl, rfl⟩; exact ⟨e.2, he, hd'⟩
  · rintro ⟨l, hl, hd⟩; exact ⟨(nm, l), hl, d, hd, rfl, rfl⟩

/-- the `_data` view and the clone-side view give the same assignment -/
theorem WF.mem_labels_iff {s : Store} (hw : WF s) {d : Nat} {nm : Int} :
    (d, nm) ∈ s.labels ↔ (nm = outKey ∧ d ∈ s.outliers) ∨ ∃ n ∈ s.forest.recs, n.name = nm ∧ d ∈ n.dps := by
  rw [mem_labels]
  constructor
  · rintro ⟨l, hl, hd⟩
    rcases hw.key_cases hl with ⟨h1, h2⟩ | ⟨n, hn, h1, h2⟩
    · exact Or.inl ⟨h1, h2 ▸ hd⟩
    · exact Or.inr ⟨n, hn, h1, h2.symm.subset hd⟩
  · rintro (⟨rfl, hd⟩ | ⟨n, hn, rfl, hd⟩)
    · exact mem_of_mem_dOf hd
    · exact mem_of_mem_dOf ((hw.d.payload_data n hn).subset hd)

/-- `labels` is a function: no data point is listed twice -/
theorem WF.labels_nodup {s : Store} (hw : WF s) : (s.labels.map (·.1)).Nodup := by
  rw [labels_fst]; exact hw.d.data_nodup

theorem WF.labels_unique {s : Store} (hw : WF s) {d : Nat} {nm nm' : Int} (h1 : (d, nm) ∈ s.labels)
    (h2 : (d, nm') ∈ s.labels) : nm = nm' := by
  have := List.inj_on_of_nodup_map hw.labels_nodup h1 h2 rfl
  exact (Prod.mk.injEq _ _ _ _ ▸ this).2

/-- the abstraction (tree up to names, indices, caches) holds exactly the labelled data points -/
theorem WF.abs_perm_labels {s : Store} (hw : WF s) : (s.abs.2 ++ s.abs.1.all).Perm (s.labels.map (·.1)) := by
  rw [labels_fst]
  exact (List.Perm.append_left _ (toDF_all_perm s.forest)).trans hw.clone_view_perm

end PhyModel.Store
