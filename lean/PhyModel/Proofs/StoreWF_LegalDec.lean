import PhyModel.Proofs.StoreWF_Step
import PhyModel.Proofs.StoreWFB
/-! C07: what the non-vacuity examples decide by `decide +kernel`.  The store invariants are decidable
(`WF` through the Boolean check `wfB`), and there is a decidable sufficient condition for `Legal` / `LegalRun`,
so that a concrete history can be shown legal (non-vacuity of `wf_reachable`). -/
namespace PhyModel.Store

instance (s : Store) : Decidable (WF s) := decidable_of_iff _ (wfB_iff s)
instance (s : Store) : Decidable (Full s) := by unfold Full; infer_instance
instance (s : Store) : Decidable (Aligned s) := by unfold Aligned; infer_instance
instance (s : Store) : Decidable (Dense s) := by unfold Dense; infer_instance
instance (s : Store) : Decidable (Inv0 s) := by unfold Inv0; infer_instance
instance (s : Store) : Decidable (Inv s) := by unfold Inv; infer_instance

/-! ### legality -/

/-- the `remove_subtree` side condition, with the witnesses looked up instead of quantified over -/
def rmLegalD (s sb : Store) : Prop :=
  Store.keyEq sb s = true ∨
    ∃ r ∈ sb.roots.head?, sb.roots = [r] ∧ ∃ i ∈ s.nodeIdx.lookup r, ∃ x ∈ s.forest.findSub i,
      sb.nodes.Perm (SF.cons x.1 x.2 .nil).names

instance (s sb : Store) : Decidable (rmLegalD s sb) := by unfold rmLegalD; infer_instance

theorem rmLegal_of_dec {s sb : Store} (h : rmLegalD s sb) (hne : Store.keyEq sb s = false) :
    ∃ r i x, sb.roots = [r] ∧ s.nodeIdx.lookup r = some i ∧ s.forest.findSub i = some x ∧
      sb.nodes.Perm (SF.cons x.1 x.2 .nil).names := by
  rcases h with h | ⟨r, _, hr, i, hi, x, hx, hp⟩
  · rw [hne] at h; cases h
  · exact ⟨r, i, x, hr, hi, hx, hp⟩

/-- decidable rendering of `Legal` (the handles are looked up instead of quantified over) -/
def legalD (sys : Sys) : Op → Prop
  | .create h _ d => d ≠ [] ∧ ∀ s ∈ sys[h]?, Dense s ∧ ∀ x ∈ d, x ∉ s.data.flatMap (·.2)
  | .createAdd h _ _ => ∀ s ∈ sys[h]?, Dense s
  | .rmSub h hs => ∀ s ∈ sys[h]?, ∀ sb ∈ sys[hs]?, rmLegalD s sb
  | .addSub h hs _ => ∀ s ∈ sys[h]?, ∀ sb ∈ sys[hs]?,
      ∀ d ∈ sb.forest.recs.flatMap (fun n => sb.dataOf n.name), d ∉ s.data.flatMap (·.2)
  | _ => True

instance (sys : Sys) (op : Op) : Decidable (legalD sys op) := by
  cases op <;> unfold legalD <;> infer_instance

/-- membership in an `Option` unfolds to the equation `Legal` is written with: `add_subtree` only has its
binders in another order, `remove_subtree` needs its witnesses -/
theorem legal_of_dec {sys : Sys} {op : Op} (h : legalD sys op) : Legal sys op := by
  cases op with
  | rmSub hd hs => exact fun s sb h1 h2 hne => rmLegal_of_dec (h s h1 sb h2) hne
  | addSub hd hs par => exact fun s sb h1 h2 => h s h1 sb h2
  | _ => exact h

/-- Boolean check of a whole history -/
def legalRunB (dt : Data) : Sys → List Op → Bool
  | _, [] => true
  | sys, op :: ops => decide (legalD sys op) &&
      match step dt sys op with
      | some sys' => legalRunB dt sys' ops
      | none => true

theorem legalRun_of_B {dt : Data} {ops : List Op} {sys : Sys} (h : legalRunB dt sys ops = true) :
    LegalRun dt sys ops := by
  induction ops generalizing sys with
  | nil => trivial
  | cons op ops ih =>
    simp only [legalRunB, Bool.and_eq_true, decide_eq_true_eq] at h
    refine ⟨legal_of_dec h.1, fun sys' hs => ih ?_⟩
    have := h.2; rw [hs] at this; exact this

end PhyModel.Store
