import PhyModel.Proofs.PGKernel
import PhyModel.Proofs.PGCsmc
import PhyModel.Proofs.PGRetained
/-! # C01, stage 3: the executable particle-Gibbs update `SMC.pgStep` has, for every test
function, the expectation given by the abstract kernel `pgKernel` (with `κ = u = 1/N`); hence it leaves
`pOne` invariant on the complete trees of the data set (`pg_invariant`). -/

namespace PhyModel.PG
open Proposal PGSpec Orders

variable {dt : Data} {c : Cfg} {D : List ℕ}

theorem sum_mul_eq_of_kernel {X : Type} [Fintype X] (π : X → ℚ) (ker : X → X → ℚ) (e ψ : X → ℚ)
    (he : ∀ x, π x ≠ 0 → e x = ∑ y, ker x y * ψ y) (hinv : ∀ y, ∑ x, π x * ker x y = π y) :
    ∑ x, π x * e x = ∑ y, π y * ψ y :=
  calc ∑ x, π x * e x = ∑ x, ∑ y, π x * ker x y * ψ y := Finset.sum_congr rfl fun x _ => by
        by_cases hx : π x = 0
        · simp only [hx, zero_mul, Finset.sum_const_zero]
        · rw [he x hx, Finset.mul_sum]
          exact Finset.sum_congr rfl fun y _ => (mul_assoc _ _ _).symm
    _ = ∑ y, (∑ x, π x * ker x y) * ψ y := by
        rw [Finset.sum_comm]
        exact Finset.sum_congr rfl fun y _ => (Finset.sum_mul _ _ _).symm
    _ = ∑ y, π y * ψ y := Finset.sum_congr rfl fun y _ => by rw [hinv]

theorem sampleOrder_bind_E (h : HypD dt c D) {x : T} (hx : x ∈ finals c D) {β Y : Type} [Fintype Y]
    (K : List ℕ → Dist β) (φ : β → ℚ) (ker : Ord D → Y → ℚ) (ψ : Y → ℚ)
    (hK : ∀ s : Ord D, s.1 ∈ allOrders x.f x.out → Dist.E (K s.1) φ = ∑ y, ker s y * ψ y) :
    Dist.E (Dist.bind (Dist.norm (sampleOrder x.f x.out)) K) φ
      = ∑ y, (∑ s : Ord D, uOrd x s.1 * ker s y) * ψ y := by
  obtain ⟨w, hperm⟩ := finals_wft h hx
  rw [E_bind, Dist.E_norm, sampleOrder_uniform, ← sum_indicator_lsum (perms D) _ _
    (allOrders_nodup x.f x.out w.nodup)
    (fun a ha => mem_perms_of_perm D a ((allOrders_sound x.f x.out a ha).1.trans hperm)), Finset.mul_sum]
  simp only [Finset.sum_mul]
  rw [Finset.sum_comm]
  refine Finset.sum_congr rfl fun s _ => ?_
  unfold uOrd
  by_cases hs : s.1 ∈ allOrders x.f x.out
  · rw [if_pos hs, if_pos hs, hK s hs, countCode_eq_length, Finset.mul_sum]
    exact Finset.sum_congr rfl fun y _ => (mul_assoc _ _ _).symm
  · simp only [if_neg hs, zero_mul, mul_zero, Finset.sum_const_zero]

theorem finals_pathOK (h : HypD dt c D) {x : St (allStates c D)} (hx : x.1 ∈ finals c D) (s : Ord D)
    (hs : s.1 ∈ allOrders x.1.f x.1.out) :
    s.1 ≠ [] ∧ ∃ path : ℕ → St (allStates c D), PathOK c s.1 x.1 path ∧ path s.1.length = x := by
  have hh := h.hyp s.2
  have hxl : x.1 ∈ level c s.1 s.1.length :=
    (reachable_iff_order c s.1 hh.nodup x.1 (finals_wft h hx).1).mpr hs
  obtain ⟨path, hp, hlast⟩ := exists_pathOK (L := allStates c D) hh.nodup hh.big (states_sub_allStates s.2) hxl
  exact ⟨fun h0 => h.ne (List.length_eq_zero_iff.mp
    ((length_of_mem_perms' s.2).symm.trans (congrArg List.length h0))), path, hp, Subtype.ext hlast⟩

/-- **the executable update is the abstract kernel**: for a complete tree `x` of the data set and every
test function -/
theorem pgStep_E (h : HypD dt c D) (θ : ℚ) (m : ℕ) (x : St (allStates c D)) (hx : x.1 ∈ finals c D)
    (hh : T → ℚ) :
    Dist.E (SMC.pgStep (runOf dt c m θ) x.1) hh
      = ∑ y : St (allStates c D), pgKernel dt c D (uN m) θ m (uN m) x y * hh y.1 := by
  unfold SMC.pgStep
  rw [Dist.E_norm]
  refine sampleOrder_bind_E h hx _ hh (fun s y => kernelAlong dt c D (uN m) θ m (uN m) s x y) _ fun s hs => ?_
  obtain ⟨hne, path, hp, hlast⟩ := finals_pathOK h hx s hs
  rw [csmc_E (h.hyp s.2) (states_sub_allStates s.2) θ m hp hne hh, hlast]
  rfl

/-- **Stage 3: `SMC.pgStep` leaves `pOne` invariant** on the complete trees of the data set: with
`P(pgStep x = y)` the expectation of the indicator of `y` -/
theorem pg_invariant (h : HypD dt c D) (θ : ℚ) (m : ℕ) (y : St (allStates c D)) :
    ∑ x : St (allStates c D), piD dt c D x.1 *
        Dist.E (SMC.pgStep (runOf dt c m θ) x.1) (fun z => if z = y.1 then 1 else 0)
      = piD dt c D y.1 := by
  rw [← pg_invariant_abstract h (uN m) (uN_pos m) θ m (uN m) (uN_pos m) y]
  refine Finset.sum_congr rfl fun x _ => ?_
  by_cases hx : x.1 ∈ finals c D
  · rw [pgStep_E h θ m x hx]
    simp only [mul_ite, mul_one, mul_zero, @eq_comm _ _ y.1]
    rw [sum_mem_ite y.2 (fun y' => pgKernel dt c D (uN m) θ m (uN m) x y')]
  · simp only [piD, if_neg hx, zero_mul]

#print axioms pg_invariant
end PhyModel.PG
