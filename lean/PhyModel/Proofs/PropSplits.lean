import PhyModel.Model.Proposal
import PhyModel.Proofs.OrdersCount
import PhyModel.Proofs.DistLemmas
import Mathlib.Data.Nat.Choose.Basic
import Mathlib.Data.Nat.Choose.Cast
import Mathlib.Algebra.BigOperators.Intervals
import Mathlib.Tactic.FieldSimp
/-! Combinatorics of `splits` (all chosen / not-chosen splits of a list)

* `lsum_splits_count` : a sum over the splits of a function of the number chosen is the binomial sum;
* `lsum_splits_inv_binom` : `Σ 1 / C(r, |chosen|) = r + 1`;
* `splits_double_count` : choosing one element first and then a split of the rest counts every split
  `|chosen|` times (for functions that do not depend on the order of the chosen part). -/

namespace PhyModel
open Finset Proposal

theorem lsum_splits_cons {α} (a : α) (l : List α) (F : List α × List α → ℚ) :
    lsum (splits (a :: l)) F
      = lsum (splits l) (fun cr => F (a :: cr.1, cr.2) + F (cr.1, a :: cr.2)) := by
  simp only [splits]
  rw [lsum_flatMap]
  apply lsum_congr
  rintro ⟨c, r⟩ _
  simp [lsum]

theorem lsum_splits_nil {α} (F : List α × List α → ℚ) : lsum (splits ([] : List α)) F = F ([], []) := by
  simp [splits, lsum]

theorem splits_perm {α} : ∀ (l : List α) (cr : List α × List α), cr ∈ splits l → (cr.1 ++ cr.2).Perm l := by
  intro l
  induction l with
  | nil => intro cr h; simp [splits] at h; subst h; simp
  | cons a l ih =>
    intro cr h
    simp only [splits, List.mem_flatMap] at h
    obtain ⟨⟨c, r⟩, hm, h⟩ := h
    have := ih _ hm
    simp only [List.mem_cons, List.not_mem_nil, or_false] at h
    rcases h with rfl | rfl
    · exact List.Perm.cons a this
    · exact (List.perm_middle).trans (List.Perm.cons a this)

theorem mem_splits {α} : ∀ (l : List α) (cr : List α × List α), cr ∈ splits l →
    (∀ x ∈ cr.1, x ∈ l) ∧ (∀ x ∈ cr.2, x ∈ l) ∧ cr.1.length + cr.2.length = l.length := by
  intro l cr h
  have hp := splits_perm l cr h
  exact ⟨fun x hx => hp.mem_iff.1 (List.mem_append_left _ hx),
    fun x hx => hp.mem_iff.1 (List.mem_append_right _ hx), by rw [← List.length_append, hp.length_eq]⟩

theorem splits_ne_nil {α} (l : List α) : splits l ≠ [] := by
  induction l with
  | nil => simp [splits]
  | cons a l ih =>
    cases h : splits l with
    | nil => exact absurd h ih
    | cons x xs => obtain ⟨c, r⟩ := x; simp [splits, h]

/-- generating-function form of "there are `C(n,k)` sublists of length `k`" -/
theorem lsum_splits_count {α} (l : List α) (f : ℕ → ℚ) :
    lsum (splits l) (fun cr => f cr.1.length)
      = ∑ k ∈ range (l.length + 1), (Nat.choose l.length k : ℚ) * f k := by
  induction l generalizing f with
  | nil => simp [lsum_splits_nil]
  | cons a l ih =>
    rw [lsum_splits_cons]
    simp only [List.length_cons]
    rw [lsum_add, ih (fun k => f (k + 1)), ih f]
    rw [Finset.sum_range_succ' _ (l.length + 1)]
    simp only [Nat.choose_succ_succ, Nat.cast_add, Nat.choose_zero_right, Nat.cast_one, one_mul]
    have h2 : ∑ k ∈ range (l.length + 1), ((l.length.choose (k + 1) : ℚ)) * f (k + 1) + f 0
        = ∑ k ∈ range (l.length + 1), (l.length.choose k : ℚ) * f k := by
      have := Finset.sum_range_succ' (fun k => (l.length.choose k : ℚ) * f k) (l.length + 1)
      simp only [Nat.choose_zero_right, Nat.cast_one, one_mul] at this
      rw [← this, Finset.sum_range_succ, Nat.choose_succ_self]
      simp
    rw [← h2]
    simp only [add_mul, Finset.sum_add_distrib]
    ring

theorem binom_eq_choose (n k : ℕ) (h : k ≤ n) : binom n k = (Nat.choose n k : ℚ) := by
  unfold binom
  rw [Orders.fact_eq, Orders.fact_eq, Orders.fact_eq, Nat.cast_choose ℚ h]

theorem binom_pos (n k : ℕ) : 0 < binom n k := by
  unfold binom
  rw [Orders.fact_eq, Orders.fact_eq, Orders.fact_eq]
  exact qdiv_pos (Nat.cast_pos.2 (Nat.factorial_pos n))
    (qmul_pos (Nat.cast_pos.2 (Nat.factorial_pos k)) (Nat.cast_pos.2 (Nat.factorial_pos (n - k))))

/-- **key combinatorial identity**: `Σ_{chosen ⊆ rs} 1 / C(r, |chosen|) = r + 1` -/
theorem lsum_splits_inv_binom {α} (l : List α) :
    lsum (splits l) (fun cr => 1 / binom l.length cr.1.length) = (l.length : ℚ) + 1 := by
  rw [lsum_splits_count l (fun k => 1 / binom l.length k)]
  have : ∀ k ∈ range (l.length + 1), (Nat.choose l.length k : ℚ) * (1 / binom l.length k) = 1 := by
    intro k hk
    have hk' : k ≤ l.length := by simp at hk; omega
    rw [binom_eq_choose _ _ hk']
    exact mul_one_div_cancel (Nat.cast_ne_zero.2 (Nat.choose_pos hk').ne')
  rw [Finset.sum_congr rfl this]
  simp

theorem lsum_splits_div_binom {α} (l : List α) (a : ℚ) :
    lsum (splits l) (fun cr => a / binom l.length cr.1.length) = a * ((l.length : ℚ) + 1) := by
  rw [← lsum_splits_inv_binom, ← lsum_mul_left]
  apply lsum_congr
  intro cr _
  rw [mul_one_div]

/-- the element picked first together with the rest: `(l[j], l.eraseIdx j)` for every `j` -/
def picks {α} : List α → List (α × List α)
  | [] => []
  | a :: l => (a, l) :: (picks l).map fun bm => (bm.1, a :: bm.2)

theorem picks_perm {α} : ∀ (l : List α) (am : α × List α), am ∈ picks l → (am.1 :: am.2).Perm l := by
  intro l
  induction l with
  | nil => intro am h; simp [picks] at h
  | cons a l ih =>
    intro am h
    simp only [picks, List.mem_cons, List.mem_map] at h
    rcases h with rfl | ⟨bm, hbm, rfl⟩
    · exact List.Perm.refl _
    · exact (List.Perm.swap a bm.1 bm.2).trans (List.Perm.cons a (ih bm hbm))

theorem mem_picks {α} : ∀ (l : List α) (am : α × List α), am ∈ picks l →
    am.1 ∈ l ∧ (∀ x ∈ am.2, x ∈ l) ∧ am.2.length + 1 = l.length := by
  intro l am h
  have hp := picks_perm l am h
  exact ⟨hp.mem_iff.1 List.mem_cons_self, fun x hx => hp.mem_iff.1 (List.mem_cons_of_mem _ hx),
    by rw [← hp.length_eq, List.length_cons]⟩

theorem lsum_range_picks {α} (l : List α) (G : α → List α → ℚ) :
    lsum (List.range l.length)
        (fun j => (l[j]?).elim 0 (fun a => G a (l.eraseIdx j)))
      = lsum (picks l) (fun am => G am.1 am.2) := by
  induction l generalizing G with
  | nil => simp [picks, lsum]
  | cons a l ih =>
    simp only [List.length_cons, List.range_succ_eq_map, picks]
    rw [lsum_cons, lsum_cons, lsum_map, lsum_map]
    simp only [List.getElem?_cons_zero, List.eraseIdx_cons_zero, Nat.succ_eq_add_one,
      List.getElem?_cons_succ, List.eraseIdx_cons_succ]
    rw [ih (fun b m => G b (a :: m))]
    simp only [Option.elim]

/-- double counting: for `F` symmetric in the chosen part (on elements satisfying `P`), picking one
element first and then a split of the rest counts each split once per chosen element -/
theorem splits_double_count {α} (P : α → Prop) (l : List α) (hl : ∀ x ∈ l, P x)
    (F : List α × List α → ℚ)
    (hF : ∀ c c' r, c.Perm c' → (∀ x ∈ c, P x) → F (c, r) = F (c', r)) :
    lsum (picks l) (fun am => lsum (splits am.2) (fun cr => F (am.1 :: cr.1, cr.2)))
      = lsum (splits l) (fun cr => (cr.1.length : ℚ) * F cr) := by
  induction l generalizing F with
  | nil => rw [lsum_splits_nil]; simp [picks, lsum]
  | cons a l ih =>
    have hl' : ∀ x ∈ l, P x := fun x hx => hl x (List.mem_cons_of_mem _ hx)
    have hPa : P a := hl a List.mem_cons_self
    simp only [picks]
    rw [lsum_cons, lsum_map, lsum_splits_cons]
    simp only [lsum_splits_cons]
    -- swap the picked element past `a`
    have hswap : lsum (picks l) (fun bm => lsum (splits bm.2)
          (fun cr => F (bm.1 :: a :: cr.1, cr.2) + F (bm.1 :: cr.1, a :: cr.2)))
        = lsum (picks l) (fun bm => lsum (splits bm.2) (fun cr => F (a :: bm.1 :: cr.1, cr.2)))
          + lsum (picks l) (fun bm => lsum (splits bm.2) (fun cr => F (bm.1 :: cr.1, a :: cr.2))) := by
      rw [← lsum_add]
      apply lsum_congr
      intro bm hbm
      rw [← lsum_add]
      apply lsum_congr
      intro cr hcr
      congr 1
      obtain ⟨h1, h2, _⟩ := mem_picks l bm hbm
      exact hF _ _ _ (List.Perm.swap _ _ _) (List.forall_mem_cons.2 ⟨hl' _ h1,
        List.forall_mem_cons.2 ⟨hPa, fun x hx => hl' _ (h2 _ ((mem_splits _ _ hcr).1 x hx))⟩⟩)
    rw [hswap]
    rw [ih hl' (fun cr => F (a :: cr.1, cr.2)) (by
      intro c c' r hp hc
      exact hF _ _ _ (List.Perm.cons a hp) (List.forall_mem_cons.2 ⟨hPa, hc⟩))]
    rw [ih hl' (fun cr => F (cr.1, a :: cr.2)) (by
      intro c c' r hp hc
      exact hF _ _ _ hp hc)]
    rw [← lsum_add, ← lsum_add]
    apply lsum_congr
    intro cr _
    simp only [List.length_cons]
    push_cast
    ring

end PhyModel
