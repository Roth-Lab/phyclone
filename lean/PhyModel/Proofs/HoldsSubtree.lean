import PhyModel.Proofs.HoldsSMC
import PhyModel.Proofs.HoldsMoves
import PhyModel.Proofs.PGSubKernel
/-! # The random-subtree move keeps the tree complete and well formed

`Moves.subtreeMove` picks a data point, takes the parent of its clone (with its whole subtree) as
the region to resample, runs the conditional SMC sweep on that region together with all outliers,
and grafts every root of the resampled region back where the region's root hung (`attachAll`).
The grafting point is a clone of the untouched remainder of the tree, the region and the remainder
share no data point, and the sweep returns a well-formed tree on the region's data (`csmc_allHold`) — so the
re-assembled tree is a well-formed tree on all data points. -/

namespace PhyModel.RunOK
open Orders Orders.Forest PG Moves

/-! ### `attachAll` -/

theorem attachAll_roots (gk : Option ℕ) (P : DF) (wP : Canon.WF P) (hk : ∀ k, gk = some k → k ∈ P.all) :
    ∀ sub : List (List ℕ × DF), Canon.WF (ofRoots sub) → (∀ a ∈ (ofRoots sub).all, a ∉ P.all) →
      Canon.WF (attachAll gk sub P) ∧ (attachAll gk sub P).all.Perm ((ofRoots sub).all ++ P.all) := by
  intro sub
  induction sub with
  | nil =>
    intro _ _
    cases gk with
    | none => exact ⟨wP, List.Perm.refl _⟩
    | some k => exact ⟨wP, List.Perm.refl _⟩
  | cons r rest ih =>
    obtain ⟨d, kk⟩ := r
    intro wS hdis
    have wS' : Canon.WF (Orders.Forest.cons d kk (ofRoots rest)) := wS
    obtain ⟨wA, pA⟩ := ih wS'.sibs fun a ha => hdis a (List.mem_append_right (kk.all ++ d) ha)
    have step : Canon.NE (attachAll gk ((d, kk) :: rest) P) ∧
        (attachAll gk ((d, kk) :: rest) P).all.Perm ((kk.all ++ d) ++ (attachAll gk rest P).all) := by
      cases gk with
      | none => exact ⟨⟨wS'.ne.1, wS'.ne.2.1, wA.ne⟩, List.Perm.refl _⟩
      | some k =>
        exact ⟨Canon.attachUnder_ne k wS'.ne.1 wS'.ne.2.1 wA.ne, Canon.attachUnder_all_perm d kk wA.nodup
          (pA.symm.subset (List.mem_append_right _ (hk k rfl)))⟩
    have hp : (attachAll gk ((d, kk) :: rest) P).all.Perm ((ofRoots ((d, kk) :: rest)).all ++ P.all) := by
      refine step.2.trans ?_
      show ((kk.all ++ d) ++ _).Perm ((kk.all ++ d ++ (ofRoots rest).all) ++ P.all)
      rw [List.append_assoc (kk.all ++ d)]
      exact pA.append_left _
    refine ⟨⟨hp.nodup_iff.mpr ?_, step.1, fun a ha => ?_⟩, hp⟩
    · exact List.nodup_append.mpr ⟨wS.nodup, wP.nodup, fun a ha b hb e => hdis a ha (e ▸ hb)⟩
    · exact List.forall_mem_append.2 ⟨wS.small, wP.small⟩ a (hp.subset ha)

/-! ### the region and the remainder -/

/-- what the sweep needs of the region `Moves.regionOf` chooses (region, remainder, grafting point) -/
structure Region (x : T) (reg : DF × DF × Option ℕ) : Prop where
  wfR : Canon.WF reg.1
  wfP : Canon.WF reg.2.1
  perm : (reg.1.all ++ reg.2.1.all).Perm x.f.all
  key : ∀ k, reg.2.2 = some k → k ∈ reg.2.1.all

theorem regionOf_ok {x : T} (w : Canon.WFT x) {i : ℕ} (hi : i ∈ x.f.all) : Region x (regionOf x i) := by
  obtain ⟨nd, hnd, hind⟩ := Canon.mem_all_iff.mp hi
  unfold regionOf
  cases hp : parentOf i x.f with
  | none => exact ⟨w.wf, Canon.WF.nil, by simp [Forest.all], fun _ h => by simp at h⟩
  | some g =>
    obtain ⟨pd, pk⟩ := g
    have hsub : (pd, pk) ∈ nodesOf x.f := ((parentOf_spec (sk := nd.2) hind w.wf hnd).2 _ hp).1
    have b := Canon.pbase_of_node w hsub
    refine ⟨b.wfSub, b.wfP, ?_, ?_⟩
    · show ((pk.all ++ pd ++ []) ++ _).Perm x.f.all
      rw [List.append_nil]
      exact (Canon.removeSub_all_perm w.wf hsub b.key_mem).symm
    · -- the grafting point is a data point of the parent of the region's root, which pruning leaves alone
      exact (Canon.prune_eqv_parent w.wf hsub b.key_mem).2

section graft
variable {c : Proposal.Cfg} {D : List ℕ} {x : T} (hx : Holds c D x) {reg : DF × DF × Option ℕ} (hr : Region x reg)
include hx hr

/-- the start tree of the sweep: the region with all outliers -/
theorem region_holds : Holds c (reg.1.all ++ x.out) (T.mk' reg.1 x.out) := by
  have hall : ((reg.1.all ++ reg.2.1.all) ++ x.out).Perm (x.f.all ++ x.out) := hr.perm.append_right _
  have hsub : (reg.1.all ++ x.out).Sublist ((reg.1.all ++ reg.2.1.all) ++ x.out) :=
    (List.sublist_append_left _ _).append (List.Sublist.refl _)
  exact holds_mk' hr.wfR (List.Perm.refl _) ((hall.nodup_iff.mpr hx.wft.nodup).sublist hsub)
    (fun a ha => hx.wft.big a (hall.subset (hsub.subset ha))) hx.wft.out

theorem graftBack_holds {y : T} (hy : Holds c (reg.1.all ++ x.out) y) :
    Holds c D (graftBack reg.2.1 reg.2.2 y) := by
  have hall : ((reg.1.all ++ reg.2.1.all) ++ x.out).Perm D := (hr.perm.append_right _).trans hx.perm
  have hdis : ∀ a ∈ y.f.all, a ∉ reg.2.1.all := by
    intro a ha hrem
    have h2 := List.nodup_append.mp (hall.nodup_iff.mpr hx.nodupD)
    rcases List.mem_append.1 (hy.perm.subset (List.mem_append_left _ ha)) with h | h
    · exact (List.nodup_append.mp h2.1).2.2 a h a hrem rfl
    · exact h2.2.2 a (List.mem_append_right _ hrem) a h rfl
  have hA := attachAll_roots reg.2.2 reg.2.1 hr.wfP hr.key y.f.roots
  rw [ofRoots_roots y.f] at hA
  obtain ⟨wA, pA⟩ := hA hy.wft.wf hdis
  refine holds_mk' wA ?_ hx.nodupD hx.bigD hy.wft.out
  -- grafted tree + its outliers = `y` + remainder = region + outliers + remainder = everything
  exact ((pA.append_right _).trans ((perm_swap_right _ _ _).trans
    ((hy.perm.append_right _).trans (perm_swap_right _ _ _)))).trans hall

end graft

theorem subtreeGiven_holds (r : SMC.Run) {D : List ℕ} {x : T} (hx : Holds r.c D x)
    {reg : DF × DF × Option ℕ} (hr : Region x reg) :
    AllD (Holds r.c D) (subtreeGiven r reg.2.1 reg.2.2 (T.mk' reg.1 x.out)) :=
  allD_bind (allD_norm (sampleOrder_support _ _)) fun _ hσ =>
    allD_bind (csmc_allHold r (region_holds hx hr) hσ) fun _ hsw =>
      allD_categorical (List.forall_mem_map.2 fun tw htw => graftBack_holds hx hr (hsw tw htw))

/-- **random-subtree move**: every tree listed by `Moves.subtreeMove` for a well-formed tree holding
`D` is a well-formed tree holding `D` (the fallback to the whole-tree update when every data point is an
outlier included) -/
theorem subtreeMove_holds (r : SMC.Run) {D : List ℕ} {x : T} (hx : Holds r.c D x) :
    AllD (Holds r.c D) (subtreeMove r x) := by
  rw [subtreeMove_eq_via]
  exact allD_ite (fun _ => pgStep_holds r hx) fun _ =>
    allD_norm (allD_bind (allD_uniform (P := (· ∈ x.f.all)) fun _ h => h) fun _ hi =>
      subtreeGiven_holds r hx (regionOf_ok (toCanon hx.wft) hi))

end PhyModel.RunOK
