import PhyModel.Proofs.PGSubGiven
import PhyModel.Proofs.MovesPrBlocks
/-! # C04, random-subtree move: every region the move can choose satisfies the hypotheses of the
conditional statement.

For a well-formed tree `x` (positive likelihoods) and any clone data point `i`, the region
`Moves.regionOf x i = (region, rem, gk)` is such that, with `xs = T.mk' region x.out` the extracted
subtree and `D` its data: the region's data set satisfies `HypD`, `RegionOK rem gk D` holds, the data of
`rem` are good, `xs` is one of the complete subtrees on `D`, and `graftBack rem gk xs = x` — the current
tree is the full tree of the subtree the move extracts (`regionOf_ok`). -/

namespace PhyModel.PG
open Proposal PGSpec Orders Orders.Forest Canon
open PhyModel.Moves (parentOf attachAll nodesOf regionOf graftBack)

variable {dt : Data} {c : Cfg}

/-- **every region the move can choose is a legitimate instance of the conditional statement** -/
theorem regionOf_ok {x : T} (w : WFT c x) (hG : 0 < dt.G) (hα : 0 < c.α) (op0 : 0 ≤ c.op) (op1 : c.op < 1)
    (hup : c.usePerm = true) (hgood : ∀ j ∈ x.f.all ++ x.out, C19P.GoodIdx dt j) {i : ℕ} (hi : i ∈ x.f.all)
    {reg R : DF} {gk : Option ℕ} (hr : regionOf x i = (reg, R, gk)) :
    HypD dt c (reg.all ++ x.out) ∧ RegionOK R gk (reg.all ++ x.out) ∧ (∀ j ∈ R.all, C19P.GoodIdx dt j) ∧
    T.mk' reg x.out = ⟨reg, x.out⟩ ∧
    T.mk' reg x.out ∈ finals c (reg.all ++ x.out) ∧ graftBack R gk (T.mk' reg x.out) = x := by
  have hforest : WF reg ∧ Forest.canon reg = reg ∧ reg.all ≠ [] ∧ x.f.all.Perm (reg.all ++ R.all) ∧
      Eqv x.f (attachAll gk reg.roots R) ∧ ∀ k, gk = some k → k ∈ R.all := by
    obtain ⟨nd, hnd, hind⟩ := mem_all_iff.mp hi
    cases hp : parentOf i x.f with
    | none =>
      simp only [regionOf, hp] at hr
      cases hr
      refine ⟨w.wf, w.canon_f, List.ne_nil_of_mem hi, by simp [Forest.all], ?_, fun _ hk => nomatch hk⟩
      show Eqv x.f (x.f.roots.foldr (fun r acc => Orders.Forest.cons r.1 r.2 acc) Orders.Forest.nil)
      rw [foldr_cons_eq]
      simp only [roots, List.append_nil, ofRoots_roots]
      exact Eqv.refl _
    | some p =>
      obtain ⟨pd, pk⟩ := p
      have hpn : (pd, pk) ∈ nodesOf x.f := ((parentOf_spec (sk := nd.2) hind w.wf hnd).2 _ hp).1
      have hpdne : pd ≠ [] := node_ne w.wf.ne _ hpn
      have hkey : pd.headD 0 ∈ pd := headD_mem hpdne
      simp only [regionOf, hp] at hr
      cases hr
      have hfix := canon_node_fixed w.wf (pd, pk) (by rw [w.canon_f]; exact hpn)
      have hregall : (Orders.Forest.cons pd pk .nil).all = pk.all ++ pd := by simp [Forest.all]
      obtain ⟨E, hgk⟩ := prune_eqv_parent w.wf hpn hkey
      refine ⟨node_wf w.wf hpn, ?_, ?_, ?_, E, hgk⟩
      · simp only [Forest.canon, hfix.1, hfix.2, roots, insertSorted, ofRoots]
      · rw [hregall]; exact fun h0 => hpdne (List.append_eq_nil_iff.mp h0).2
      · rw [hregall]; exact removeSub_all_perm w.wf hpn hkey
  obtain ⟨wreg, creg, hne, hall, E, hkey⟩ := hforest
  have hxs : T.mk' reg x.out = ⟨reg, x.out⟩ := by unfold T.mk'; rw [creg, w.sort_out]
  have hbig : ((reg.all ++ R.all) ++ x.out).Nodup := (hall.append_right x.out).nodup_iff.mp w.nodup
  have nodupD : (reg.all ++ x.out).Nodup :=
    ((List.sublist_append_left reg.all R.all).append (List.Sublist.refl x.out)).nodup hbig
  have hsub : ∀ a ∈ reg.all ++ x.out, a ∈ x.f.all ++ x.out := by
    intro a ha
    rcases List.mem_append.mp ha with h | h
    · exact List.mem_append_left _ (hall.symm.subset (List.mem_append_left _ h))
    · exact List.mem_append_right _ h
  have hRsub : ∀ a ∈ R.all, a ∈ x.f.all := fun a ha => hall.symm.subset (List.mem_append_right _ ha)
  refine ⟨?_, ?_, ?_, hxs, ?_, ?_⟩
  · exact ⟨hG, hα, op0, op1, nodupD, fun j hj => hgood j (hsub j hj), fun j hj => w.big j (hsub j hj),
      fun h0 => hne (List.append_eq_nil_iff.mp h0).1, hup⟩
  · obtain ⟨h1, _, h2⟩ := List.nodup_append.mp hbig
    obtain ⟨_, hRnd, h3⟩ := List.nodup_append.mp h1
    refine ⟨fun a ha hD => ?_, hRnd, hkey⟩
    rcases List.mem_append.mp hD with h | h
    · exact h3 a h a ha rfl
    · exact h2 a (List.mem_append_right _ ha) a h rfl
  · exact fun j hj => hgood j (List.mem_append_left _ (hRsub j hj))
  · rw [hxs]
    apply wft_mem_finals (x := ⟨reg, x.out⟩) _ (List.Perm.refl _)
    refine ⟨?_, (ne_iff _).mpr wreg.ne, nodupD, fun a ha => w.big a (hsub a ha), w.out⟩
    show T.mk' reg x.out = _
    exact hxs
  · rw [hxs]
    unfold graftBack T.mk'
    show T.mk (Forest.canon (attachAll gk reg.roots R)) (sortNat x.out) = x
    rw [← canon_congr E w.wf, w.canon_f, w.sort_out]

#print axioms regionOf_ok
end PhyModel.PG
