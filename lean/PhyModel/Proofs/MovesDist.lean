import PhyModel.Model.Moves
import PhyModel.Proofs.OrdersUniform
import PhyModel.Proofs.DistLemmas
/-! The move kernels (C04) merge equal outcomes with `Dist.norm`, whose expectation lemma `E_norm`
needs a lawful `==` on the outcomes.  The derived `==` on forests and trees compares the fields one
after the other (by unfolding), so it is lawful. -/
namespace PhyModel

instance : LawfulBEq Orders.Forest where
  rfl {a} := by
    induction a with
    | nil => rfl
    | cons d k s ihk ihs =>
      show (d == d && (k == k && s == s)) = true
      rw [ihk, ihs, beq_self_eq_true]; rfl
  eq_of_beq {a b} h := by
    induction a generalizing b with
    | nil =>
      cases b with
      | nil => rfl
      | cons => exact Bool.noConfusion h
    | cons d k s ihk ihs =>
      cases b with
      | nil => exact Bool.noConfusion h
      | cons d' k' s' =>
        have h' : (d == d' && (k == k' && s == s')) = true := h
        rw [Bool.and_eq_true, Bool.and_eq_true] at h'
        rw [eq_of_beq h'.1, ihk h'.2.1, ihs h'.2.2]

instance : LawfulBEq T where
  rfl {a} := by
    cases a with
    | mk f out =>
      show (f == f && out == out) = true
      rw [beq_self_eq_true, beq_self_eq_true]; rfl
  eq_of_beq {a b} h := by
    cases a with
    | mk f out =>
      cases b with
      | mk f' out' =>
        have h' : (f == f' && out == out') = true := h
        rw [Bool.and_eq_true] at h'
        rw [eq_of_beq h'.1, eq_of_beq h'.2]

end PhyModel
