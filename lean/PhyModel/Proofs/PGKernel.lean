import PhyModel.Proofs.PGValid
import PhyModel.Proofs.PGReachable
import PhyModel.Proofs.Gibbs
/-! # C01, stage 2: the order draw composed with the conditional SMC sweep.

With the order `σ` drawn uniformly from the compatible orders of the current tree (C09) and the sweep
along `σ` leaving `pOne · pdf` invariant on the trees reachable along `σ` (stage 1), and
`reachable_iff_order`, the mixture kernel leaves `pOne` invariant on the complete trees of the data
set (`pg_invariant_abstract`).  The statement is proved with a positive correction `hh` of the final
weights, which turns the target into `pOne · hh` (`corrected_invariant_abstract`); the random-subtree move
of C04 is the other instance. -/

namespace PhyModel.PG
open Orders Proposal PGSpec

/-- standing hypotheses for a data set with data indices `D` -/
structure HypD (dt : Data) (c : Cfg) (D : List ℕ) : Prop where
  hG : 0 < dt.G
  hα : 0 < c.α
  op0 : 0 ≤ c.op
  op1 : c.op < 1
  nodup : D.Nodup
  good : ∀ i ∈ D, C19P.GoodIdx dt i
  big : ∀ i ∈ D, i < Forest.big
  ne : D ≠ []
  perm : c.usePerm = true

variable {dt : Data} {c : Cfg} {D : List ℕ}

theorem HypD.hyp (h : HypD dt c D) {σ : List ℕ} (hσ : σ ∈ perms D) : Hyp dt c σ := by
  have hp := perm_of_mem_perms D σ hσ
  exact ⟨h.hG, h.hα, h.op0, h.op1, hp.nodup_iff.mpr h.nodup, fun i hi => h.good i (hp.subset hi),
    fun i hi => h.big i (hp.subset hi)⟩

theorem states_sub_allStates {σ : List ℕ} (hσ : σ ∈ perms D) : ∀ x ∈ states c σ, x ∈ allStates c D :=
  fun _ hx => List.mem_flatMap.mpr ⟨σ, hσ, hx⟩

/-- the orders of the data set, as a finite type -/
abbrev Ord (D : List ℕ) := {σ : List ℕ // σ ∈ perms D}

/-- the target: `pOne` on the complete trees of the data set -/
def piD (dt : Data) (c : Cfg) (D : List ℕ) (x : T) : ℚ := if x ∈ finals c D then pOneT dt c x else 0

/-- law of the order given the tree: uniform on the compatible orders, with the code's count -/
def uOrd (x : T) (σ : List ℕ) : ℚ :=
  if σ ∈ allOrders x.f x.out then 1 / countCode x.f x.out.length else 0

/-- the conditional SMC kernel along `σ` (with the code's schedule, `ASMC.kernelX`), on the common state
space of all orders -/
def kernelAlong (dt : Data) (c : Cfg) (D : List ℕ) (κ θ : ℚ) (m : ℕ) (u : ℚ) (s : Ord D)
    (x y : St (allStates c D)) : ℚ :=
  ASMC.kernelX (spec dt c s.1 κ (allStates c D) (states_sub_allStates s.2) θ m) u s.1.length x y

/-- the particle-Gibbs kernel: draw the order, sweep along it -/
def pgKernel (dt : Data) (c : Cfg) (D : List ℕ) (κ θ : ℚ) (m : ℕ) (u : ℚ) (x y : St (allStates c D)) : ℚ :=
  ∑ s : Ord D, uOrd x.1 s.1 * kernelAlong dt c D κ θ m u s x y

theorem sum_indicator_lsum {α : Type} [DecidableEq α] (P : List α) (F : α → ℚ) : ∀ (A : List α), A.Nodup →
    (∀ a ∈ A, a ∈ P) → ∑ s : {s // s ∈ P}, (if s.1 ∈ A then F s.1 else 0) = lsum A F := by
  intro A
  induction A with
  | nil => intro _ _; simp only [List.not_mem_nil, if_false, Finset.sum_const_zero, lsum_nil]
  | cons a A ih =>
    intro hnd hsub
    obtain ⟨ha, hA⟩ := List.nodup_cons.mp hnd
    have hstep : ∀ s : {s // s ∈ P}, (if s.1 ∈ a :: A then F s.1 else 0)
        = (if a = s.1 then F s.1 else 0) + (if s.1 ∈ A then F s.1 else 0) := by
      intro s
      by_cases hs : a = s.1
      · rw [if_pos hs, if_pos (hs ▸ List.mem_cons_self), if_neg (hs ▸ ha), add_zero]
      · simp only [if_neg hs, zero_add, List.mem_cons, Ne.symm hs, false_or]
    simp only [hstep]
    rw [Finset.sum_add_distrib, ih hA (fun b hb => hsub b (List.mem_cons_of_mem _ hb)),
      sum_mem_ite (hsub a List.mem_cons_self) (fun s => F s.1), lsum_cons]

theorem length_of_mem_perms' {σ : List ℕ} (hσ : σ ∈ perms D) : σ.length = D.length :=
  (perm_of_mem_perms D σ hσ).length_eq

theorem mem_finals {x : T} : x ∈ finals c D ↔ ∃ σ ∈ perms D, x ∈ level c σ σ.length := by
  simp only [finals, List.mem_flatMap]
  exact exists_congr fun σ => and_congr_right fun hσ => by rw [length_of_mem_perms' hσ]

theorem finals_wft (h : HypD dt c D) {x : T} (hx : x ∈ finals c D) :
    WFT c x ∧ (x.f.all ++ x.out).Perm D := by
  obtain ⟨σ, hσ, hxl⟩ := mem_finals.mp hx
  have hh := h.hyp hσ
  refine ⟨level_wft c σ hh.nodup hh.big hxl, ?_⟩
  have := (level_inv c σ _ x hxl).perm
  rw [List.take_length] at this
  exact this.trans (perm_of_mem_perms D σ hσ)

/-- **the joint target factorises**: `pOne x · P(σ | x)` is the last-level target of the sweep along `σ` -/
theorem piD_uOrd (h : HypD dt c D) (κ : ℚ) (s : Ord D) (x : T) :
    κ * (piD dt c D x * uOrd x s.1) = gT dt c s.1 κ s.1.length x := by
  have hh := h.hyp s.2
  have hlen : s.1.length ≠ 0 := by
    rw [length_of_mem_perms' s.2]
    exact fun h0 => h.ne (List.length_eq_zero_iff.mp h0)
  by_cases hx : x ∈ level c s.1 s.1.length
  · have ho := (reachable_iff_order c s.1 hh.nodup x (level_wft c s.1 hh.nodup hh.big hx)).mp hx
    rw [gT_of_mem hx, if_neg hlen, if_pos rfl]
    unfold piD uOrd pdfOf
    rw [if_pos (mem_finals.mpr ⟨s.1, s.2, hx⟩), if_pos ho, if_pos h.perm]
  · rw [gT_of_not_mem hx]
    unfold piD uOrd
    by_cases hf : x ∈ finals c D
    · have ho : s.1 ∉ allOrders x.f x.out := fun ho =>
        hx ((reachable_iff_order c s.1 hh.nodup x (finals_wft h hf).1).mpr ho)
      rw [if_neg ho, mul_zero, mul_zero]
    · rw [if_neg hf, zero_mul, mul_zero]

/-- the order law is a probability distribution for every complete tree -/
theorem uOrd_sum (h : HypD dt c D) {x : T} (hx : x ∈ finals c D) : ∑ s : Ord D, uOrd x s.1 = 1 := by
  obtain ⟨w, hperm⟩ := finals_wft h hx
  obtain ⟨σ, hσ, hxl⟩ := mem_finals.mp hx
  have hσo := (reachable_iff_order c σ (h.hyp hσ).nodup x w).mp hxl
  have hsub : ∀ a ∈ allOrders x.f x.out, a ∈ perms D := by
    intro a ha
    have := (allOrders_sound x.f x.out a ha).1
    exact mem_perms_of_perm D a (this.trans hperm)
  have e : ∑ s : Ord D, uOrd x s.1 = ((allOrders x.f x.out).length : ℚ) * (1 / countCode x.f x.out.length) := by
    rw [← lsum_const, ← sum_indicator_lsum (perms D) _ _ (allOrders_nodup x.f x.out w.nodup) hsub]
    refine Finset.sum_congr rfl fun s _ => ?_
    -- the two sides decide membership through different `BEq (List ℕ)` instances
    unfold uOrd
    congr
  rw [e, countCode_eq_length]
  exact mul_one_div_cancel (Nat.cast_ne_zero.mpr (List.length_pos_of_mem hσo).ne')

/-- Drawing the order uniformly from the compatible orders of the current tree, sweeping along it and
correcting the final weights by `hh` leaves `pOne · hh` invariant on the complete trees of the data set. -/
theorem corrected_invariant_abstract (h : HypD dt c D) (hh : T → ℚ) (hpos : ∀ y ∈ finals c D, 0 < hh y)
    (κ : ℚ) (hκ : 0 < κ) (θ : ℚ) (m : ℕ) (u : ℚ) (hu : 0 < u) (y : St (allStates c D)) :
    ∑ x : St (allStates c D), (piD dt c D x.1 * hh x.1) * ∑ s : Ord D, uOrd x.1 s.1 *
        ASMC.kernelXH (spec dt c s.1 κ (allStates c D) (states_sub_allStates s.2) θ m) u
          (fun z : St (allStates c D) => hh z.1) s.1.length x y
      = piD dt c D y.1 * hh y.1 := by
  apply Moves.aux_mixture_invariant (fun x : St (allStates c D) => piD dt c D x.1 * hh x.1)
    (fun x (s : Ord D) => uOrd x.1 s.1)
    (fun s x y => ASMC.kernelXH (spec dt c s.1 κ (allStates c D) (states_sub_allStates s.2) θ m) u
      (fun z : St (allStates c D) => hh z.1) s.1.length x y)
  · intro x hx
    apply uOrd_sum h
    by_contra hf
    exact hx (by unfold piD; rw [if_neg hf, zero_mul])
  · intro s y
    apply mul_left_cancel₀ (ne_of_gt hκ)
    rw [Finset.mul_sum]
    have hg : ∀ x : T, κ * (piD dt c D x * hh x * uOrd x s.1) = gT dt c s.1 κ s.1.length x * hh x := by
      intro x
      rw [← piD_uOrd h κ s x]
      ring
    simp only [← mul_assoc, hg]
    exact ASMC.csmc_corrected_invariant_X (spec_valid (h.hyp s.2) hκ (states_sub_allStates s.2) θ m) hu
      (fun x hx => hpos _ (mem_finals.mpr ⟨s.1, s.2, mem_of_gT_pos hx⟩)) y

/-- **Stage 2.**  Drawing the order uniformly from the compatible orders of the current tree and then
sweeping along it leaves `pOne` invariant on the complete trees of the data set. -/
theorem pg_invariant_abstract (h : HypD dt c D) (κ : ℚ) (hκ : 0 < κ) (θ : ℚ) (m : ℕ) (u : ℚ) (hu : 0 < u)
    (y : St (allStates c D)) :
    ∑ x : St (allStates c D), piD dt c D x.1 * pgKernel dt c D κ θ m u x y = piD dt c D y.1 := by
  have := corrected_invariant_abstract h (fun _ => 1) (fun _ _ => one_pos) κ hκ θ m u hu y
  simp only [mul_one, ASMC.kernelXH_one] at this
  exact this

#print axioms pg_invariant_abstract
end PhyModel.PG
