import PhyModel.Proofs.PGPeel
/-! # C01 instance: `reachable_iff_order` — a well-formed complete tree is reached along `σ`
exactly when `σ` is one of its compatible orders. -/

namespace PhyModel.PG
open Orders Orders.Forest Proposal PGSpec Canon

theorem mem_addAt_of_mem (i : ℕ) : ∀ (rs : List (List ℕ × DF)) (j : ℕ) (r : List ℕ × DF), r ∈ rs →
    r ∈ addAt i j rs ∨ (r.1 ++ [i], r.2) ∈ addAt i j rs
  | (d, k) :: rs, 0, r, h => by
    rcases List.mem_cons.mp h with rfl | h
    · exact Or.inr List.mem_cons_self
    · exact Or.inl (List.mem_cons_of_mem _ h)
  | x :: rs, j+1, r, h => by
    rcases List.mem_cons.mp h with rfl | h
    · exact Or.inl List.mem_cons_self
    · exact (mem_addAt_of_mem i rs j r h).imp (List.mem_cons_of_mem _) (List.mem_cons_of_mem _)

/-- placing a data point does not remove any "must come before" pair -/
theorem prec_placement_mono (p : T) (i : ℕ) (kt : Kind × T) (hkt : kt ∈ placements p i) (ab : ℕ × ℕ)
    (hab : ab ∈ prec p.f) : ab ∈ prec kt.2.f := by
  obtain ⟨r, hr, h⟩ := mem_prec_roots.mp hab
  rcases mem_placements.mp hkt with ⟨j, hj, rfl⟩ | ⟨cr, hcr, rfl⟩ | rfl
  · refine (mem_prec_eqv (canon_eqv _) ab).mpr (mem_prec_ofRoots.mpr ?_)
    rcases mem_addAt_of_mem i _ j r hr with h' | h'
    · exact ⟨r, h', h⟩
    · exact ⟨_, h', h.imp (fun h => ⟨h.1, List.mem_append_left _ h.2⟩) id⟩
  · refine (mem_prec_eqv (canon_eqv _) ab).mpr (mem_prec_ofRoots.mpr ?_)
    rcases List.mem_append.mp ((splits_perm _ _ hcr).mem_iff.mpr hr) with hc | hc
    · exact ⟨([i], ofRoots cr.1), List.mem_cons_self, Or.inr (mem_prec_ofRoots.mpr ⟨r, hc, h⟩)⟩
    · exact ⟨r, List.mem_cons_of_mem _ hc, h⟩
  · exact (mem_prec_eqv (canon_eqv _) ab).mpr hab

/-- a data point of the forest sits in a top-level clone or must come before some other data point -/
theorem top_or_prec : ∀ f : DF, AllNonempty f → ∀ i ∈ f.all,
    (∃ r ∈ f.roots, i ∈ r.1) ∨ ∃ b, (i, b) ∈ prec f
  | .nil, _, i, hi => by simp [Forest.all] at hi
  | .cons d k s, hne, i, hi => by
    obtain ⟨h1, _, h3⟩ := hne
    simp only [Forest.all, List.mem_append] at hi
    rcases hi with (hi | hi) | hi
    · obtain ⟨b, hb⟩ := List.exists_mem_of_ne_nil _ h1
      exact Or.inr ⟨b, mem_prec_cons.mpr (Or.inl (Or.inl ⟨hi, hb⟩))⟩
    · exact Or.inl ⟨(d, k), by simp [roots], hi⟩
    · rcases top_or_prec s h3 i hi with ⟨r, hr, h⟩ | ⟨b, hb⟩
      · exact Or.inl ⟨r, by simp [roots, hr], h⟩
      · exact Or.inr ⟨b, mem_prec_cons.mpr (Or.inr hb)⟩

theorem sublist_concat {l s : List ℕ} {i : ℕ} (h : l.Sublist (s ++ [i])) :
    l.Sublist s ∨ ∃ l', l = l' ++ [i] ∧ l'.Sublist s := by
  obtain ⟨l₁, l₂, rfl, h1, h2⟩ := List.sublist_append_iff.mp h
  rcases List.sublist_singleton.mp h2 with rfl | rfl
  · exact Or.inl (by rwa [List.append_nil])
  · exact Or.inr ⟨l₁, rfl, h1⟩

theorem not_sublist_last {s : List ℕ} {i b : ℕ} (hnd : (s ++ [i]).Nodup) : ¬ [i, b].Sublist (s ++ [i]) := by
  have his : i ∉ s := fun hm => (List.nodup_append.mp hnd).2.2 i hm i List.mem_cons_self rfl
  intro h
  rcases sublist_concat h with h | ⟨l', e, h⟩
  · exact his (h.subset List.mem_cons_self)
  · have : l' = [i] := by
      have := congrArg List.dropLast e
      simpa using this.symm
    exact his (h.subset (this ▸ List.mem_cons_self))

theorem sublist_of_append_singleton {l s : List ℕ} {i : ℕ} (h : l.Sublist (s ++ [i])) (hi : i ∉ l) :
    l.Sublist s := by
  rcases sublist_concat h with h | ⟨l', rfl, _⟩
  · exact h
  · exact absurd (List.mem_append_right _ List.mem_cons_self) hi
theorem eq_nil_of_all_nil : ∀ f : DF, AllNonempty f → f.all = [] → f = .nil
  | .nil, _, _ => rfl
  | .cons d k s, hne, h => by
    exfalso
    obtain ⟨b, hb⟩ := List.exists_mem_of_ne_nil _ hne.1
    have : b ∈ (Orders.Forest.cons d k s).all := by simp [Forest.all, hb]
    rw [h] at this
    simp at this

/-- **a well-formed tree compatible with (a prefix of) `σ` is reached along `σ`** -/
theorem compat_level (c : Cfg) (σ : List ℕ) (hnd : σ.Nodup) : ∀ t, t ≤ σ.length → ∀ x : T, WFT c x →
    CompatAll x.f x.out (σ.take t) → x ∈ level c σ t := by
  intro t
  induction t with
  | zero =>
    intro _ x w hc
    have h0 : x.f.all ++ x.out = [] := hc.1.symm.eq_nil
    obtain ⟨hf, ho⟩ := List.append_eq_nil_iff.mp h0
    have hfn := eq_nil_of_all_nil x.f w.ne hf
    simp only [level, List.mem_singleton]
    cases x
    simp only at hfn ho
    subst hfn; subst ho
    rfl
  | succ t ih =>
    intro ht x w hc
    have hlt : t < σ.length := ht
    rw [List.take_succ_eq_append_getElem hlt] at hc
    have hnd' : (σ.take t ++ [σ[t]]).Nodup := by
      rw [← List.take_succ_eq_append_getElem hlt]
      exact hnd.sublist (List.take_sublist _ _)
    have hi : σ[t] ∈ x.f.all ++ x.out :=
      hc.1.mem_iff.mp (List.mem_append_right _ (List.mem_singleton_self _))
    have htop : σ[t] ∈ x.out ∨ ∃ r ∈ x.f.roots, σ[t] ∈ r.1 := by
      rcases List.mem_append.mp hi with hf | ho
      · rcases top_or_prec x.f w.ne _ hf with h | ⟨b, hb⟩
        · exact Or.inr h
        · exact absurd (hc.2 _ hb) (not_sublist_last hnd')
      · exact Or.inl ho
    obtain ⟨p, wp, hch⟩ := peel w htop
    obtain ⟨kt, hkt, _, hkx⟩ := mem_children.mp hch
    have hpp := placement_perm p σ[t] kt hkt
    rw [hkx] at hpp
    have hperm : (σ.take t).Perm (p.f.all ++ p.out) :=
      (List.perm_append_right_iff [σ[t]]).mp (hc.1.trans hpp)
    have hnotin : σ[t] ∉ p.f.all ++ p.out := by
      have := hpp.nodup_iff.mp w.nodup
      intro hm
      exact (List.nodup_append.mp this).2.2 _ hm _ (by simp) rfl
    have hcp : CompatAll p.f p.out (σ.take t) := by
      refine ⟨hperm, ?_⟩
      intro ab hab
      have h1 : ab ∈ prec x.f := hkx ▸ prec_placement_mono p _ kt hkt ab hab
      have h2 := hc.2 ab h1
      obtain ⟨ha, hb⟩ := prec_mem p.f ab hab
      apply sublist_of_append_singleton h2
      intro hm
      simp only [List.mem_cons, List.not_mem_nil, or_false] at hm
      rcases hm with hm | hm
      · exact hnotin (hm ▸ List.mem_append_left _ ha)
      · exact hnotin (hm ▸ List.mem_append_left _ hb)
    exact mem_level_succ.mpr ⟨σ[t], List.getElem?_eq_getElem hlt, p, ih (Nat.le_of_lt hlt) p wp hcp, hch⟩

theorem level_out (c : Cfg) (σ : List ℕ) (h0 : c.op = 0) : ∀ (t : ℕ) (x : T), x ∈ level c σ t → x.out = [] :=
  level_induction rfl fun t _ p _ ih kt hkt hperm => by
    have hpo : sortNat p.out = [] := by rw [ih]; rfl
    rcases mem_placements.mp hkt with ⟨j, _, rfl⟩ | ⟨cr, _, rfl⟩ | rfl
    · exact hpo
    · exact hpo
    · exact absurd h0 (hperm rfl)

/-- the trees met along an order of distinct data points below the sentinel are well formed -/
theorem level_wft (c : Cfg) (σ : List ℕ) (hnd : σ.Nodup) (hbig : ∀ i ∈ σ, i < Forest.big) {t : ℕ} {x : T}
    (hx : x ∈ level c σ t) : WFT c x := by
  have inv := level_inv c σ t x hx
  refine ⟨inv.canon, inv.ne, inv.perm.nodup_iff.mpr (hnd.sublist (List.take_sublist _ _)), ?_,
    fun h0 => level_out c σ h0 t x hx⟩
  intro a ha
  exact hbig a (List.mem_of_mem_take (inv.perm.subset ha))

/-- **reachable iff compatible**: a well-formed tree is in the last level along `σ` exactly when `σ`
is one of the orders `RootPermutationDistribution` can draw for it -/
theorem reachable_iff_order (c : Cfg) (σ : List ℕ) (hnd : σ.Nodup) (x : T) (w : WFT c x) :
    x ∈ level c σ σ.length ↔ σ ∈ allOrders x.f x.out := by
  constructor
  · intro hx
    have := level_compat c σ σ.length x hx
    rw [List.take_length] at this
    exact allOrders_complete x.f x.out σ w.nodup this
  · intro hσ
    have := allOrders_sound x.f x.out σ hσ
    apply compat_level c σ hnd σ.length (le_refl _) x w
    rw [List.take_length]
    exact this

#print axioms reachable_iff_order
end PhyModel.PG
