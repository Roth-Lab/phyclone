import PhyModel.Proofs.MemoProofs
/-! Bridge between C14's memoised function and C02's recursion: on the `R` vectors of the top-level
clones of a forest, `compute_log_D` (`Memo.childD`, the Python loop without a unit) computes the
`D` of `Model/Lik.lean` (right fold with the unit `δ₀`). -/

namespace PhyModel

namespace Memo

/-- the `R` vectors of the top-level clones of a (single-sample) forest -/
def kidsR (G : ℕ) : Forest → List Vec
  | .nil => []
  | .cons p k s => pmul G p (prefixSum G (D G k)) :: kidsR G s

theorem D_eq_foldr (G : ℕ) (f : Forest) : D G f = (kidsR G f).foldr (conv G) (delta0 G) := by
  induction f with
  | nil => rfl
  | cons p k s _ ihs => simp only [D, kidsR, List.foldr_cons, ihs]

theorem kidsR_length (G : ℕ) (f : Forest) : ∀ v ∈ kidsR G f, v.length = G := by
  induction f with
  | nil => intro v h; simp [kidsR] at h
  | cons p k s _ ihs =>
    intro v h
    simp only [kidsR, List.mem_cons] at h
    rcases h with h | h
    · rw [h]; simp [pmul]
    · exact ihs v h

section Red
variable {α : Type} (f : α → α → α)

theorem foldl_pull (hlc : ∀ a b c, f a (f b c) = f b (f a c)) (x : α) :
    ∀ (l : List α) (a : α), f x (l.foldl (fun acc y => f y acc) a) = l.foldl (fun acc y => f y acc) (f x a) := by
  intro l
  induction l with
  | nil => intro a; rfl
  | cons c l ih => intro a; simp only [List.foldl_cons]; rw [ih, hlc]

/-- with a unit on the elements, the order-insensitive reduction is the right fold from the unit -/
theorem red_eq_foldr (hc : ∀ a b, f a b = f b a) (hlc : ∀ a b c, f a (f b c) = f b (f a c)) (e : α) :
    ∀ (l : List α), (∀ x ∈ l, f x e = x) → l ≠ [] → red f l = some (l.foldr f e) := by
  intro l
  induction l with
  | nil => intro _ h; exact absurd rfl h
  | cons c l ih =>
    intro hu _
    cases l with
    | nil => simp only [red, List.foldl_nil, List.foldr_cons, List.foldr_nil]; rw [hu c (by simp)]
    | cons d ds =>
      have ih' := ih (fun x hx => hu x (List.mem_cons_of_mem _ hx)) (by simp)
      simp only [red, List.foldl_cons] at ih' ⊢
      have h2 := Option.some.inj ih'
      rw [List.foldr_cons, ← h2, foldl_pull f hlc, hc c d]

end Red

theorem foldr_single (G : ℕ) (l : List Vec) :
    (l.map fun v => [v]).foldr (convM G) [delta0 G] = [l.foldr (conv G) (delta0 G)] := by
  induction l with
  | nil => rfl
  | cons v l ih => simp only [List.map_cons, List.foldr_cons, ih]; simp [convM]

/-- **bridge**: on a non-empty forest the memoised recursion computes C02's `D` -/
theorem childD_eq_D (G : ℕ) (f : Forest) (hf : f ≠ .nil) :
    childD G 1 ((kidsR G f).map fun v => [v]) = [D G f] := by
  cases f with
  | nil => exact absurd rfl hf
  | cons p k s =>
    have hunit : ∀ x ∈ (kidsR G (.cons p k s)).map (fun v => [v]), convM G x [delta0 G] = x := by
      intro x hx
      obtain ⟨v, hv, rfl⟩ := List.mem_map.mp hx
      simp only [convM, List.zipWith_cons_cons, List.zipWith_nil_right]
      rw [conv_delta0 G v (kidsR_length G _ v hv)]
    have h := red_eq_foldr (convM G) (convM_comm G) (convM_left_comm G) [delta0 G] _ hunit
      (List.cons_ne_nil _ _)
    rw [foldr_single, ← D_eq_foldr] at h
    exact Option.some.inj ((childD_eq_red G 1 _ _).trans h)

end Memo
end PhyModel
