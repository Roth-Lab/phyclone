import PhyModel.Proofs.DFIso
/-! `canon` is a complete invariant of `DFIsoP` on forests with distinct, bounded data and no
empty clone: `DFIsoP` is `Canon.Eqv` and `KeyWF` is `Canon.WF`, for which `canon` is a canonical
form (`Canon.canon_eqv`, `Canon.canon_congr`). -/

namespace PhyModel
open Orders.Forest

def NonemptyClones : DF → Prop
  | .nil => True
  | .cons d k s => d ≠ [] ∧ NonemptyClones k ∧ NonemptyClones s

/-- distinct data, all below the sentinel `big`, no empty clone -/
def KeyWF (f : DF) : Prop := f.all.Nodup ∧ (∀ i ∈ f.all, i < big) ∧ NonemptyClones f

theorem Canon.ne_iff_nonemptyClones (f : DF) : Canon.NE f ↔ NonemptyClones f := by
  induction f with
  | nil => exact Iff.rfl
  | cons d k s ihk ihs => exact and_congr Iff.rfl (and_congr ihk ihs)

theorem Canon.wf_iff_keyWF {f : DF} : Canon.WF f ↔ KeyWF f :=
  ⟨fun w => ⟨w.nodup, w.small, (ne_iff_nonemptyClones f).mp w.ne⟩,
    fun ⟨hn, hb, hc⟩ => ⟨hn, (ne_iff_nonemptyClones f).mpr hc, hb⟩⟩

theorem canon_isoP (f : DF) : DFIsoP f f.canon := Canon.eqv_iff_isoP.mp (Canon.canon_eqv f).symm

theorem canon_eq_of_isoP {f g : DF} (h : DFIsoP f g) (hw : KeyWF f) : canon f = canon g :=
  Canon.canon_congr (Canon.eqv_iff_isoP.mpr h) (Canon.wf_iff_keyWF.mpr hw)

theorem isoP_of_canon_eq {f g : DF} (h : canon f = canon g) : DFIsoP f g :=
  (canon_isoP f).trans (h ▸ (canon_isoP g).symm)

end PhyModel
