import PhyModel.Proofs.MovesPrForest
import PhyModel.Proofs.MovesDpBlocks
/-! The re-attachment lists of the prune-regraft move form blocks on well-formed trees (`prBlock_of_wf`):
every list is a function `prCore` of the subtree and the pruned forest, which the candidates share up to
equivalence.  Hence the unconditional invariance theorem of the prune-regraft move. -/
namespace PhyModel
open Orders Orders.Forest PhyModel.Moves

namespace Canon

/-- the candidate list of prune-regraft as a function of the subtree and the pruned forest -/
def prCore (sub : List Nat × DF) (P : DF) (out : List Nat) : List T :=
  ((nodesOf P).map fun nd => T.mk' (attachUnder (nd.1.headD 0) sub.1 sub.2 P) out) ++
    [T.mk' (.cons sub.1 sub.2 P) out]

theorem prCands_eq (x : T) (sub : List Nat × DF) : prCands x sub = prCore sub (prPruned x sub) x.out := rfl

/-- the context of `prCore`: a canonical well-formed subtree and a well-formed forest disjoint from it -/
structure PBase (sd : List Nat) (sk : DF) (P : DF) : Prop where
  wfP : WF P
  wfSub : WF (.cons sd sk .nil)
  disj : ∀ a ∈ P.all, a ∉ sk.all ++ sd
  sortedSd : sortNat sd = sd
  canonSk : canon sk = sk

namespace PBase
variable {sd : List Nat} {sk P : DF}

theorem sd_ne (b : PBase sd sk P) : sd ≠ [] := b.wfSub.ne.1

theorem key_mem (b : PBase sd sk P) : sd.headD 0 ∈ sd := headD_mem b.sd_ne

theorem key_not_mem (b : PBase sd sk P) : sd.headD 0 ∉ P.all :=
  fun h => b.disj _ h (List.mem_append_right _ b.key_mem)

theorem clade_nodup (b : PBase sd sk P) : (sk.all ++ sd).Nodup := by
  have := b.wfSub.nodup
  simpa only [Forest.all, List.append_nil] using this

theorem union_nodup (b : PBase sd sk P) : ((sk.all ++ sd) ++ P.all).Nodup :=
  List.nodup_append.mpr ⟨b.clade_nodup, b.wfP.nodup, fun _ ha c hc e => b.disj c hc (e ▸ ha)⟩

theorem union_small (b : PBase sd sk P) : ∀ a ∈ (sk.all ++ sd) ++ P.all, a < big := by
  intro a ha
  rcases List.mem_append.mp ha with h | h
  · exact b.wfSub.small a (by simpa only [Forest.all, List.append_nil] using h)
  · exact b.wfP.small a h

theorem attach_wf (b : PBase sd sk P) {a : Nat} (ha : a ∈ P.all) : WF (attachUnder a sd sk P) := by
  have hp := attachUnder_all_perm sd sk b.wfP.nodup ha
  exact ⟨hp.nodup_iff.mpr b.union_nodup, attachUnder_ne a b.sd_ne b.wfSub.ne.2.1 b.wfP.ne,
    fun c hc => b.union_small c (hp.mem_iff.mp hc)⟩

theorem root_wf (b : PBase sd sk P) : WF (.cons sd sk P) :=
  ⟨by simpa only [Forest.all] using b.union_nodup, ⟨b.sd_ne, b.wfSub.ne.2.1, b.wfP.ne⟩,
    by simpa only [Forest.all] using b.union_small⟩

theorem of_eqv (b : PBase sd sk P) {P' : DF} (h : Eqv P P') : PBase sd sk P' :=
  ⟨h.wf b.wfP, b.wfSub, fun a ha => b.disj a (h.all_perm.mem_iff.mpr ha), b.sortedSd, b.canonSk⟩

end PBase

section
variable {sd : List Nat} {sk P : DF} {out : List Nat}

theorem mem_prCore (b : PBase sd sk P) {t : T} :
    t ∈ prCore (sd, sk) P out ↔
      (∃ a ∈ P.all, t = T.mk' (attachUnder a sd sk P) out) ∨ t = T.mk' (.cons sd sk P) out := by
  unfold prCore
  rw [List.mem_append, List.mem_singleton, mem_map_headD b.wfP (fun a => T.mk' (attachUnder a sd sk P) out)
    fun nd hnd a ha c hc => by rw [attachUnder_congr_key sd sk (same_node_iff b.wfP hnd ha hc)]]

theorem prCore_nodup (b : PBase sd sk P) : (prCore (sd, sk) P out).Nodup := by
  unfold prCore
  -- after attaching under `a`, the subtree's clone is a child of `c`'s clone iff `a`, `c` share a clone
  have hch : ∀ a ∈ P.all, ∀ c ∈ P.all,
      childOf (sd.headD 0) c (attachUnder a sd sk P) = together a c P := fun a _ c hc =>
    childOf_attachUnder b.wfP.nodup b.key_mem b.key_not_mem (b.disj c hc)
  refine List.nodup_append.mpr ⟨?_, List.nodup_singleton _, ?_⟩
  · exact nodup_map_headD b.wfP (fun a => attachUnder a sd sk P) out (childOf (sd.headD 0))
      (childOf_eqv (sd.headD 0)) (fun a ha => b.attach_wf ha) hch
  · -- at the top level the subtree's clone is nobody's child
    intro t ht t' ht' e
    subst e
    obtain ⟨nd, hnd, rfl⟩ := List.mem_map.mp ht
    have k₁ := headD_mem (node_ne b.wfP.ne nd hnd)
    have m₁ := mem_all_iff.mpr ⟨nd, hnd, k₁⟩
    have ht := childOf_eqv (sd.headD 0) (nd.1.headD 0)
      ((canon_eq_iff (b.attach_wf m₁)).mp (congrArg T.f (List.mem_singleton.mp ht')))
    rw [hch _ m₁ _ m₁, childOf_cons_root b.key_not_mem (b.disj _ m₁),
      together_iff.mpr ⟨nd, hnd, k₁, k₁⟩] at ht
    exact Bool.noConfusion ht

/-- `prCore` depends on the pruned forest only up to equivalence -/
theorem prCore_perm (b : PBase sd sk P) {P' : DF} (h : Eqv P P') :
    (prCore (sd, sk) P out).Perm (prCore (sd, sk) P' out) := by
  have b' := b.of_eqv h
  rw [List.perm_ext_iff_of_nodup (prCore_nodup b) (prCore_nodup b')]
  intro t
  rw [mem_prCore b, mem_prCore b']
  have e1 : ∀ a ∈ P.all, T.mk' (attachUnder a sd sk P) out = T.mk' (attachUnder a sd sk P') out :=
    fun a ha => mk'_congr (attachUnder_eqv a sd sk h) (b.attach_wf ha) (List.Perm.refl _)
  have e2 : T.mk' (.cons sd sk P) out = T.mk' (.cons sd sk P') out :=
    mk'_congr (.cons (List.Perm.refl _) (Eqv.refl _) h) b.root_wf (List.Perm.refl _)
  apply or_congr
  · constructor
    · rintro ⟨a, ha, rfl⟩; exact ⟨a, h.all_perm.mem_iff.mp ha, e1 a ha⟩
    · rintro ⟨a, ha, rfl⟩
      have ha' := h.all_perm.mem_iff.mpr ha
      exact ⟨a, ha', (e1 a ha').symm⟩
  · rw [e2]

/-- every candidate: pruning the subtree again gives the same forest, the subtree is still a clone,
the number of clones and the outliers are fixed -/
theorem prCore_base (b : PBase sd sk P) {y : T} (hy : y ∈ prCore (sd, sk) P out) :
    Eqv (removeSub (sd.headD 0) y.f) P ∧ (sd, sk) ∈ nodesOf y.f ∧
      y.f.nodes = P.nodes + 1 + sk.nodes ∧ y.out = sortNat out := by
  have hfix : (sortNat sd, canon sk) = (sd, sk) := by rw [b.sortedSd, b.canonSk]
  rcases (mem_prCore b).mp hy with ⟨a, ha, rfl⟩ | rfl
  · refine ⟨?_, ?_, ?_, rfl⟩
    · exact (removeSub_eqv _ (canon_eqv _)).trans
        (Eqv.of_eq (removeSub_attachUnder a sk b.key_mem b.key_not_mem))
    · exact hfix ▸ canon_nodes (mem_nodesOf_attachUnder sd sk ha)
    · show (canon (attachUnder a sd sk P)).nodes = _
      rw [(canon_eqv _).nodes, attachUnder_nodes sd sk b.wfP.nodup ha]
  · refine ⟨?_, ?_, ?_, rfl⟩
    · exact (removeSub_eqv _ (canon_eqv _)).trans
        (Eqv.of_eq (removeSub_cons_self sk b.key_mem b.key_not_mem))
    · exact hfix ▸ canon_nodes (f := .cons sd sk P) (nd := (sd, sk)) (mem_nodesOf_cons.mpr (Or.inl rfl))
    · show (canon (.cons sd sk P)).nodes = _
      rw [(canon_eqv _).nodes]
      simp only [Forest.nodes]
      rw [Nat.add_comm, ← Nat.add_assoc]

end

/-- a clone of a well-formed forest, with its subtree, is a well-formed single-rooted forest -/
theorem node_wf {f : DF} (w : WF f) {sd : List Nat} {sk : DF} (h : (sd, sk) ∈ nodesOf f) :
    WF (.cons sd sk .nil) := by
  induction f with
  | nil => exact absurd h List.not_mem_nil
  | cons d k s ihk ihs =>
    rcases mem_nodesOf_cons.mp h with e | hk | hs
    · obtain ⟨rfl, rfl⟩ := Prod.mk.inj e
      have hn := w.nodup
      simp only [Forest.all] at hn
      refine ⟨?_, ⟨w.ne.1, w.ne.2.1, trivial⟩, ?_⟩
      · simpa only [Forest.all, List.append_nil] using (List.nodup_append.mp hn).1
      · intro a ha
        simp only [Forest.all, List.append_nil] at ha
        exact w.small a (by simp only [Forest.all]; exact List.mem_append_left _ ha)
    · exact ihk w.kids hk
    · exact ihs w.sibs hs

/-- the context of `prCore` for a clone of a well-formed tree -/
theorem pbase_of_node {x : T} (w : WFT x) {sd : List Nat} {sk : DF} (h : (sd, sk) ∈ nodesOf x.f) :
    PBase sd sk (prPruned x (sd, sk)) := by
  have hsub := node_wf w.wf h
  have hkey : sd.headD 0 ∈ sd := headD_mem hsub.ne.1
  have hfix := canon_node_fixed w.wf (sd, sk) (by rw [w.canonF]; exact h)
  refine ⟨removeSub_wf _ w.wf, hsub, fun a ha hc => ?_, hfix.1, hfix.2⟩
  have hn := (removeSub_all_perm w.wf h hkey).nodup_iff.mp w.wf.nodup
  exact (List.nodup_append.mp hn).2.2 a hc a ha rfl

theorem self_mem_prCands {x : T} (w : WFT x) {sd : List Nat} {sk : DF} (h : (sd, sk) ∈ nodesOf x.f) :
    x ∈ prCands x (sd, sk) := by
  have b := pbase_of_node w h
  rw [prCands_eq, mem_prCore b]
  rcases prune_eqv w.wf h b.key_mem with hq | ⟨a, ha, hq⟩
  · exact Or.inr (w.eq_mk' hq (List.Perm.refl _))
  · exact Or.inl ⟨a, ha, w.eq_mk' hq (List.Perm.refl _)⟩

theorem isEmpty_nodesOf_eqv {f g : DF} (h : Eqv f g) : (nodesOf f).isEmpty = (nodesOf g).isEmpty := by
  rw [Bool.eq_iff_iff, List.isEmpty_iff_length_eq_zero, List.isEmpty_iff_length_eq_zero,
    length_nodesOf, length_nodesOf, h.nodes]

/-- The re-attachment lists of the prune-regraft move form blocks on any list of well-formed trees
that is closed under the move. -/
theorem prBlock_of_wf (S : List T) (hwf : ∀ x ∈ S, WFT x)
    (hcl : ∀ x ∈ S, ∀ sub ∈ nodesOf x.f, ∀ y ∈ prCands x sub, y ∈ S) : PrBlock S := by
  -- what every candidate looks like
  have hbase : ∀ x ∈ S, ∀ sub ∈ nodesOf x.f, ∀ y ∈ prCands x sub,
      Eqv (prPruned y sub) (prPruned x sub) ∧ sub ∈ nodesOf y.f ∧ y.f.nodes = x.f.nodes ∧ y.out = x.out := by
    intro x hx sub hsub y hy
    obtain ⟨sd, sk⟩ := sub
    have w := hwf x hx
    have b := pbase_of_node w hsub
    obtain ⟨h1, h2, h3, h4⟩ := prCore_base b hy
    obtain ⟨_, _, h3', _⟩ := prCore_base b (self_mem_prCands w hsub)
    exact ⟨h1, h2, h3.trans h3'.symm, h4.trans w.sortedOut⟩
  have hcount : ∀ x ∈ S, ∀ sub ∈ nodesOf x.f, ∀ y ∈ prCands x sub,
      (nodesOf y.f).length = (nodesOf x.f).length := fun x hx sub hsub y hy => by
    rw [length_nodesOf, length_nodesOf, (hbase x hx sub hsub y hy).2.2.1]
  refine ⟨fun x hx _ => nodesOf_nodup (hwf x hx).wf, fun z _ sub _ => ?_,
    fun x hx _ sub hsub _ => hcount x hx sub hsub⟩
  obtain ⟨sd, sk⟩ := sub
  refine ⟨fun x hx => ?_, fun x hx => ?_, fun x hx y hy => ?_, fun x hx y hy => ?_⟩
  · obtain ⟨hxS, _, hsub, _⟩ := mem_prFilter.mp hx
    exact self_mem_prCands (hwf x hxS) hsub
  · obtain ⟨hxS, _, hsub, _⟩ := mem_prFilter.mp hx
    rw [prCands_eq]
    exact prCore_nodup (pbase_of_node (hwf x hxS) hsub)
  · obtain ⟨hxS, hact, hsub, hprop⟩ := mem_prFilter.mp hx
    obtain ⟨h1, h2, _, _⟩ := hbase x hxS _ hsub y hy
    refine mem_prFilter.mpr ⟨hcl x hxS _ hsub y hy, ?_, h2, ?_⟩
    · rw [prActive, hcount x hxS _ hsub y hy]
      exact hact
    · exact (congrArg not (isEmpty_nodesOf_eqv h1)).trans hprop
  · obtain ⟨hxS, _, hsub, _⟩ := mem_prFilter.mp hx
    obtain ⟨h1, _, _, h4⟩ := hbase x hxS _ hsub y hy
    rw [prCands_eq, prCands_eq, h4]
    exact (prCore_perm (pbase_of_node (hwf x hxS) hsub) h1.symm).symm

-- `Inv` is the invariance predicate of `Gibbs` here, never Mathlib's class of that name
export Gibbs (Inv)

/-- The prune-regraft move leaves `π` invariant on any duplicate-free list of well-formed trees
closed under the re-attachments. -/
theorem pruneRegraft_invariant (c : Moves.Cfg) (S : List T) (hS : S.Nodup) (hwf : ∀ x ∈ S, WFT x)
    (hcl : ∀ x ∈ S, ∀ sub ∈ nodesOf x.f, ∀ y ∈ prCands x sub, y ∈ S)
    (hπ : ∀ x ∈ S, 0 ≤ pOneOf c x) : Inv S (pOneOf c) (pruneRegraft c) :=
  pruneRegraft_invariant_of_block c S hS hπ (prBlock_of_wf S hwf hcl)

end Canon
end PhyModel
