import PhyModel.Model.PGSpec
import PhyModel.Proofs.PropRecover
import PhyModel.Proofs.MovesEqv
import PhyModel.Proofs.PlacementIdx
/-! # C01 instance: what every partial tree met along a fixed order looks like.

`PGSpec.level c σ t` lists the trees obtained from the empty tree by placing `σ[0], …, σ[t-1]`.
Each of them holds exactly those data points (`Inv.perm`), has no empty clone, and is in canonical
form — which is what the C08 theorems (`recover_placement`, `support_complete`, …) ask of a parent
state. -/

namespace PhyModel.PG
open Orders Orders.Forest Proposal PGSpec

theorem all_ofRoots (l : List (List ℕ × DF)) :
    (ofRoots l).all = l.flatMap (fun x => x.2.all ++ x.1) := by
  rw [all_eq_flatMap_roots, roots_ofRoots]

theorem addAt_perm (i : ℕ) : ∀ (rs : List (List ℕ × DF)) (j : ℕ), j < rs.length →
    ((addAt i j rs).flatMap (fun x => x.2.all ++ x.1)).Perm (rs.flatMap (fun x => x.2.all ++ x.1) ++ [i])
  | [], _, hj => absurd hj (Nat.not_lt_zero _)
  | (d, k) :: rs, 0, _ => by
    simp only [addAt, List.flatMap_cons, List.append_assoc]
    exact (List.perm_append_comm.append_left _).append_left _
  | (d, k) :: rs, j+1, hj => by
    simp only [addAt, List.flatMap_cons, List.append_assoc]
    exact ((addAt_perm i rs j (Nat.lt_of_succ_lt_succ hj)).append_left _).append_left _

theorem mem_placements {p : T} {i : ℕ} {kt : Kind × T} : kt ∈ placements p i ↔
    (∃ j < p.f.roots.length, kt = (Kind.existing j, exT p i j)) ∨
    (∃ cr ∈ splits p.f.roots, kt = (Kind.newNode cr.1.length, newT p i cr)) ∨
    kt = (Kind.outlier, outT p i) := by
  simp only [placements_eq, List.mem_append, List.mem_map, List.mem_range, List.mem_singleton, or_assoc,
    eq_comm (b := kt)]

theorem mk'_perm (f : DF) (o : List ℕ) : ((T.mk' f o).f.all ++ (T.mk' f o).out).Perm (f.all ++ o) :=
  (Canon.canon_all_perm f).append (sortNat_perm o)

/-- a placement holds the parent's data points and the new one -/
theorem placement_perm (p : T) (i : ℕ) (kt : Kind × T) (hkt : kt ∈ placements p i) :
    (kt.2.f.all ++ kt.2.out).Perm (p.f.all ++ p.out ++ [i]) := by
  rcases mem_placements.mp hkt with ⟨j, hj, rfl⟩ | ⟨cr, hcr, rfl⟩ | rfl
  · refine (mk'_perm _ _).trans ?_
    rw [all_ofRoots]
    refine ((addAt_perm i _ j hj).append_right _).trans ?_
    rw [← all_eq_flatMap_roots, List.append_assoc, List.append_assoc]
    exact List.perm_append_comm.append_left _
  · refine (mk'_perm _ _).trans ?_
    have h := ((splits_perm _ _ hcr).flatMap_right (fun x : List ℕ × DF => x.2.all ++ x.1)).count_eq
    rw [← all_eq_flatMap_roots, List.flatMap_append] at h
    rw [all_ofRoots, List.flatMap_cons, all_ofRoots]
    refine List.perm_iff_count.mpr fun a => ?_
    have := h a
    simp only [List.count_append] at this ⊢
    omega
  · refine (mk'_perm _ _).trans ?_
    rw [List.append_assoc]

theorem placement_allNonempty (p : T) (i : ℕ) (hne : AllNonempty p.f) (kt : Kind × T)
    (hkt : kt ∈ placements p i) : AllNonempty kt.2.f := by
  have hroots := (allNonempty_iff_roots p.f).mp hne
  rcases mem_placements.mp hkt with ⟨j, _, rfl⟩ | ⟨cr, hcr, rfl⟩ | rfl
  · refine allNonempty_canon _ ((allNonempty_ofRoots _).mpr fun y hy => ?_)
    rcases addAt_mem i j _ y hy with hy | ⟨d, k, hm, rfl⟩
    · exact hroots y hy
    · exact ⟨by simp, (hroots _ hm).2⟩
  · obtain ⟨hc, hr, _⟩ := mem_splits _ _ hcr
    refine allNonempty_canon _ ((allNonempty_ofRoots _).mpr fun y hy => ?_)
    rcases List.mem_cons.1 hy with rfl | hy
    · exact ⟨by simp, (allNonempty_ofRoots _).mpr (fun z hz => hroots z (hc z hz))⟩
    · exact hroots y (hr y hy)
  · exact allNonempty_canon _ hne

theorem mk'_idem (f : DF) (o : List ℕ) : T.mk' (T.mk' f o).f (T.mk' f o).out = T.mk' f o := by
  simp only [T.mk', PhyModel.canon_idem, sortNat_idem]

theorem placement_canon (p : T) (i : ℕ) (kt : Kind × T) (hkt : kt ∈ placements p i) :
    T.mk' kt.2.f kt.2.out = kt.2 := by
  rcases mem_placements.mp hkt with ⟨j, _, rfl⟩ | ⟨cr, _, rfl⟩ | rfl
  · exact mk'_idem _ _
  · exact mk'_idem _ _
  · exact mk'_idem _ _

/-- what is known of a state of level `t` along `σ` -/
structure Inv (σ : List ℕ) (t : ℕ) (x : T) : Prop where
  le : t ≤ σ.length
  perm : (x.f.all ++ x.out).Perm (σ.take t)
  ne : AllNonempty x.f
  canon : T.mk' x.f x.out = x

theorem permitted_iff {c : Cfg} {kt : Kind × T} : permitted c kt = true ↔ (kt.1 = .outlier → c.op ≠ 0) := by
  obtain ⟨k, t⟩ := kt
  cases k <;> simp [permitted]

theorem mem_children {c : Cfg} {p : T} {i : ℕ} {x : T} :
    x ∈ children c p i ↔ ∃ kt ∈ placements p i, (kt.1 = .outlier → c.op ≠ 0) ∧ kt.2 = x := by
  simp only [children, List.mem_map, List.mem_filter, permitted_iff, and_assoc]

theorem mem_children_cases {c : Cfg} {p : T} {i : ℕ} {x : T} : x ∈ children c p i ↔
    (∃ j < p.f.roots.length, x = exT p i j) ∨ (∃ cr ∈ splits p.f.roots, x = newT p i cr) ∨
    (c.op ≠ 0 ∧ x = outT p i) := by
  rw [mem_children]
  constructor
  · rintro ⟨kt, hkt, hp, rfl⟩
    rcases mem_placements.mp hkt with ⟨j, hj, rfl⟩ | ⟨cr, hcr, rfl⟩ | rfl
    · exact Or.inl ⟨j, hj, rfl⟩
    · exact Or.inr (Or.inl ⟨cr, hcr, rfl⟩)
    · exact Or.inr (Or.inr ⟨hp rfl, rfl⟩)
  · rintro (⟨j, hj, rfl⟩ | ⟨cr, hcr, rfl⟩ | ⟨ho, rfl⟩)
    · exact ⟨_, mem_placements.mpr (Or.inl ⟨j, hj, rfl⟩), ⟨nofun, rfl⟩⟩
    · exact ⟨_, mem_placements.mpr (Or.inr (Or.inl ⟨cr, hcr, rfl⟩)), ⟨nofun, rfl⟩⟩
    · exact ⟨_, mem_placements.mpr (Or.inr (Or.inr rfl)), fun _ => ho, rfl⟩

theorem mem_level_succ {c : Cfg} {σ : List ℕ} {t : ℕ} {x : T} :
    x ∈ level c σ (t+1) ↔ ∃ i, σ[t]? = some i ∧ ∃ p ∈ level c σ t, x ∈ children c p i := by
  simp only [level]
  cases σ[t]? with
  | none => simp only [List.not_mem_nil, reduceCtorEq, false_and, exists_false]
  | some i => simp only [List.mem_flatMap, Option.some.injEq, exists_eq_left']

theorem level_induction {c : Cfg} {σ : List ℕ} {P : ℕ → T → Prop} (h0 : P 0 T.empty)
    (hs : ∀ (t : ℕ) (hlt : t < σ.length) (p : T), p ∈ level c σ t → P t p →
      ∀ kt ∈ placements p σ[t], (kt.1 = .outlier → c.op ≠ 0) → P (t+1) kt.2) :
    ∀ (t : ℕ) (x : T), x ∈ level c σ t → P t x := by
  intro t
  induction t with
  | zero =>
    intro x hx
    rw [List.mem_singleton.mp hx]
    exact h0
  | succ t ih =>
    intro x hx
    obtain ⟨i, hi, p, hp, hx⟩ := mem_level_succ.mp hx
    obtain ⟨kt, hkt, hperm, rfl⟩ := mem_children.mp hx
    obtain ⟨hlt, rfl⟩ := List.getElem?_eq_some_iff.mp hi
    exact hs t hlt p hp (ih p hp) kt hkt hperm

theorem level_inv (c : Cfg) (σ : List ℕ) : ∀ (t : ℕ) (x : T), x ∈ level c σ t → Inv σ t x :=
  level_induction ⟨Nat.zero_le _, by simp [T.empty, Forest.all], trivial, rfl⟩
    fun t hlt p _ hp' kt hkt _ => by
      refine ⟨hlt, ?_, placement_allNonempty p _ hp'.ne kt hkt, placement_canon p _ kt hkt⟩
      refine (placement_perm p _ kt hkt).trans ?_
      rw [List.take_succ_eq_append_getElem hlt]
      exact hp'.perm.append_right _

theorem Inv.lev {σ : List ℕ} {t : ℕ} {x : T} (h : Inv σ t x) : lev x = t := by
  have := h.perm.length_eq
  rw [List.length_append, List.length_take, Nat.min_eq_left h.le] at this
  exact this

theorem mem_states {c : Cfg} {σ : List ℕ} {x : T} :
    x ∈ states c σ ↔ ∃ t, t ≤ σ.length ∧ x ∈ level c σ t := by
  simp only [states, List.mem_flatMap, List.mem_range, Nat.lt_add_one_iff]

theorem getElem_not_mem_take {σ : List ℕ} (hnd : σ.Nodup) {s t : ℕ} (hst : s ≤ t) (ht : t < σ.length) :
    σ[t] ∉ σ.take s := by
  intro hm
  obtain ⟨k, hk, hk'⟩ := List.mem_take_iff_getElem.mp hm
  have hkt : k = t := (List.Nodup.getElem_inj_iff hnd).mp hk'
  exact Nat.lt_irrefl k ((lt_min_iff.mp hk).1.trans_le (hst.trans hkt.ge))

end PhyModel.PG
