import PhyModel.Proofs.StoreCache_Vec
import PhyModel.Proofs.StoreWF_AL
/-! C06, locating layer: `findSub`, `setRec`, `parentIn` against the index list, which equations a
payload replacement at node `i` can break, and `_update_path_to_root` as a consumer of `ROKx`. -/
namespace PhyModel.Store.C06

/-- the part of C07's well-formedness that the cache proofs use: graph indices are unique and the
name → index map sends a clone's name to that clone's index -/
structure WFc (s : Store) : Prop where
  idxs_nodup : s.forest.idxs.Nodup
  lookup_idx : ∀ n ∈ s.forest.recs, ∀ j, s.nodeIdx.lookup n.name = some j → j = n.idx

theorem _root_.PhyModel.Store.WF.toWFc {s : Store} (h : WF s) : WFc s where
  idxs_nodup := h.idxs_nodup
  lookup_idx := by
    intro n hn j hj
    obtain ⟨m, hm, hm1, hm2⟩ := (h.nodeIdx_iff n.name j).1 (AL.mem_of_lookup hj)
    have hnn := h.names_nodup
    unfold SF.names at hnn
    have : m = n := List.inj_on_of_nodup_map hnn hm hn hm1
    rw [← hm2, this]

/-! ### `findSub` -/

theorem findSub_cons (i : Nat) (n : NodeRec) (k s : SF) :
    SF.findSub i (.cons n k s) = if n.idx = i then some (n, k) else
      match SF.findSub i k with
      | some x => some x
      | none => SF.findSub i s := rfl

theorem findSub_cons_some {i : Nat} {n : NodeRec} {k s : SF} {x : NodeRec × SF}
    (h : SF.findSub i (.cons n k s) = some x) :
    (n.idx = i ∧ x = (n, k)) ∨ (n.idx ≠ i ∧ i ∈ k.idxs ∧ k.findSub i = some x) ∨
      (n.idx ≠ i ∧ i ∉ k.idxs ∧ s.findSub i = some x) := by
  rw [findSub_cons] at h
  by_cases h1 : n.idx = i
  · rw [if_pos h1] at h
    exact Or.inl ⟨h1, (Option.some.inj h).symm⟩
  · rw [if_neg h1] at h
    cases hk : SF.findSub i k with
    | none =>
      rw [hk] at h
      exact Or.inr (Or.inr ⟨h1, SF.findSub_none_iff.1 hk, h⟩)
    | some y =>
      rw [hk] at h
      have hik : i ∈ k.idxs := not_not.1 fun e => nomatch hk.symm.trans (SF.findSub_none_iff.2 e)
      exact Or.inr (Or.inl ⟨h1, hik, h⟩)

theorem findSub_spec (i : Nat) (f : SF) (n : NodeRec) (k : SF) (h : f.findSub i = some (n, k)) :
    n.idx = i ∧ n ∈ f.recs :=
  ⟨(SF.findSub_some h).1, SF.findSub_mem h⟩

theorem findSub_sub {P : SF → Prop}
    (hP : ∀ n k s, P (.cons n k s) → P (.cons n k .nil) ∧ P k ∧ P s) (i : Nat) (f : SF) :
    ∀ (n : NodeRec) (k : SF), P f → f.findSub i = some (n, k) → P (.cons n k .nil) := by
  induction f with
  | nil => exact fun _ _ _ h => nomatch h
  | cons m km sm ihk ihs =>
    intro n k hp h
    rcases findSub_cons_some h with ⟨_, hx⟩ | ⟨_, _, h⟩ | ⟨_, _, h⟩
    · cases hx
      exact (hP _ _ _ hp).1
    · exact ihk n k (hP _ _ _ hp).2.1 h
    · exact ihs n k (hP _ _ _ hp).2.2 h

theorem POK_findSub (dt : Data) (i : Nat) (f : SF) (n : NodeRec) (k : SF) :
    POK dt f → f.findSub i = some (n, k) → POK dt (.cons n k .nil) :=
  findSub_sub (fun _ _ _ h => ⟨⟨h.1, h.2.1, trivial⟩, h.2.1, h.2.2⟩) i f n k

/-- the equations at a located node -/
theorem cacheOKsf_findSub (dt : Data) (i : Nat) (f : SF) (n : NodeRec) (k : SF) :
    CacheOKsf dt f → f.findSub i = some (n, k) → CacheOKsf dt (.cons n k .nil) :=
  findSub_sub (fun _ _ _ h => ⟨⟨h.1, h.2.1, h.2.2.1, trivial⟩, h.2.2.1, h.2.2.2⟩) i f n k

/-! ### `setRec` -/

theorem setRec_cons (i : Nat) (g : NodeRec → NodeRec) (n : NodeRec) (k s : SF) :
    Store.setRec i g (.cons n k s) =
      .cons (if n.idx = i then g n else n) (Store.setRec i g k) (Store.setRec i g s) := rfl

theorem setRec_of_notMem (i : Nat) (g : NodeRec → NodeRec) :
    ∀ f : SF, i ∉ f.idxs → Store.setRec i g f = f
  | .nil, _ => rfl
  | .cons n k s, h => by
    rw [not_mem_idxs_cons] at h
    rw [setRec_cons, if_neg h.1, setRec_of_notMem i g k h.2.1,
      setRec_of_notMem i g s h.2.2]

theorem idxs_setRec_const (i : Nat) (n' : NodeRec) (hi : n'.idx = i) (f : SF) :
    (Store.setRec i (fun _ => n') f).idxs = f.idxs := by
  unfold Store.setRec SF.idxs
  rw [SF.recs_mapRecs, List.map_map]
  apply List.map_congr_left
  intro n _
  by_cases h : n.idx = i <;> simp [h, hi]

/-- the (name, index) pairs of the payloads do not change when the replacement keeps both -/
theorem recs_setRec_const (i : Nat) (n n' : NodeRec) (f : SF) (hn : n ∈ f.recs)
    (hi : n'.idx = n.idx) (hnm : n'.name = n.name) :
    ∀ p ∈ (Store.setRec i (fun _ => n') f).recs, ∃ m ∈ f.recs, m.name = p.name ∧ m.idx = p.idx := by
  intro p hp
  unfold Store.setRec at hp
  rw [SF.recs_mapRecs, List.mem_map] at hp
  obtain ⟨m, hm, rfl⟩ := hp
  by_cases h : m.idx = i
  · exact ⟨n, hn, by simp [h, hnm], by simp [h, hi]⟩
  · exact ⟨m, hm, by simp [h], by simp [h]⟩

theorem POK_setRec_const (dt : Data) (i : Nat) (n' : NodeRec)
    (hp : n'.p = (List.range dt.S).map (fun sm => nodeP dt sm n'.dps)) :
    ∀ f, POK dt f → POK dt (Store.setRec i (fun _ => n') f)
  | .nil, _ => trivial
  | .cons n k s, ⟨h1, h2, h3⟩ => by
    rw [setRec_cons]
    refine ⟨?_, POK_setRec_const dt i n' hp k h2, POK_setRec_const dt i n' hp s h3⟩
    split
    · exact hp
    · exact h1

/-- replacing the payload of node `i` can only break the equations on the path to `i` -/
theorem ROKx_setRec_const (dt : Data) (i : Nat) (n' : NodeRec) (hi : n'.idx = i) (f : SF) :
    ROK dt f → ROKx dt i (Store.setRec i (fun _ => n') f) := by
  induction f with
  | nil => exact fun _ => trivial
  | cons n k s ihk ihs =>
    intro h
    rw [ROK_cons] at h
    rw [setRec_cons, ROKx_cons]
    refine ⟨?_, ihk h.2.1, ihs h.2.2⟩
    by_cases h1 : n.idx = i
    · exact Or.inl (Or.inl (by rw [if_pos h1]; exact hi))
    · rw [if_neg h1]
      by_cases h2 : i ∈ k.idxs
      · exact Or.inl (Or.inr (by rw [idxs_setRec_const i n' hi]; exact h2))
      · rw [setRec_of_notMem i _ k h2]
        exact Or.inr h.1

/-- ... and only those of the proper ancestors if the new payload satisfies its own equation -/
theorem ROKs_setRec_const (dt : Data) (i : Nat) (n' : NodeRec) (hi : n'.idx = i) (f : SF) :
    ∀ (n : NodeRec) (k : SF), f.idxs.Nodup → ROK dt f → f.findSub i = some (n, k) →
      n'.r = recompR dt n' k → ROKs dt i (Store.setRec i (fun _ => n') f) := by
  induction f with
  | nil => exact fun _ _ _ _ h _ => nomatch h
  | cons m km sm ihk ihs =>
    intro n k hnd h hf hr
    obtain ⟨hnk, hns, hk, hs, hks⟩ := nodup_cons_idxs hnd
    rw [ROK_cons] at h
    rw [setRec_cons, ROKs_cons]
    rcases findSub_cons_some hf with ⟨h1, hx⟩ | ⟨h1, h2, hfk⟩ | ⟨h1, h2, hfs⟩
    · cases hx
      rw [if_pos h1, setRec_of_notMem i _ km (h1 ▸ hnk), setRec_of_notMem i _ sm (h1 ▸ hns)]
      exact ⟨Or.inr hr, h.2.1.toROKs i, h.2.2.toROKs i⟩
    · rw [if_neg h1, setRec_of_notMem i _ sm (hks i h2)]
      exact ⟨Or.inl (by rw [idxs_setRec_const i n' hi]; exact h2),
        ihk n k hk h.2.1 hfk hr, h.2.2.toROKs i⟩
    · rw [if_neg h1, setRec_of_notMem i _ km h2]
      exact ⟨Or.inr h.1, h.2.1.toROKs i, ihs n k hs h.2.2 hfs hr⟩

/-! ### `parentIn` -/

theorem parentIn_cons (i : Nat) (par : Option NodeRec) (n : NodeRec) (k s : SF) :
    SF.parentIn i par (.cons n k s) = if n.idx = i then some par else
      match SF.parentIn i (some n) k with
      | some x => some x
      | none => SF.parentIn i par s := rfl

theorem parentIn_none_iff (i : Nat) (f : SF) : ∀ par : Option NodeRec,
    SF.parentIn i par f = none ↔ i ∉ f.idxs := by
  induction f with
  | nil => exact fun _ => ⟨fun _ => nofun, fun _ => rfl⟩
  | cons n k s ihk ihs =>
    intro par
    rw [parentIn_cons, not_mem_idxs_cons, ← ihk (some n), ← ihs par]
    by_cases h1 : n.idx = i
    · rw [if_pos h1]
      exact ⟨nofun, fun h => absurd h1 h.1⟩
    · rw [if_neg h1, and_iff_right h1]
      cases SF.parentIn i (some n) k with
      | none => exact (and_iff_right rfl).symm
      | some x => exact ⟨nofun, fun h => nomatch h.1⟩

theorem parentIn_cons_some {i : Nat} {par q : Option NodeRec} {n : NodeRec} {k s : SF}
    (h : SF.parentIn i par (.cons n k s) = some q) :
    (n.idx = i ∧ q = par) ∨ (n.idx ≠ i ∧ i ∈ k.idxs ∧ k.parentIn i (some n) = some q) ∨
      (n.idx ≠ i ∧ i ∉ k.idxs ∧ s.parentIn i par = some q) := by
  rw [parentIn_cons] at h
  by_cases h1 : n.idx = i
  · rw [if_pos h1] at h
    exact Or.inl ⟨h1, (Option.some.inj h).symm⟩
  · rw [if_neg h1] at h
    cases hk : SF.parentIn i (some n) k with
    | none =>
      rw [hk] at h
      exact Or.inr (Or.inr ⟨h1, (parentIn_none_iff i k _).1 hk, h⟩)
    | some y =>
      rw [hk] at h
      have hik : i ∈ k.idxs :=
        not_not.1 fun e => nomatch hk.symm.trans ((parentIn_none_iff i k _).2 e)
      exact Or.inr (Or.inl ⟨h1, hik, h⟩)

/-- if only the proper ancestors of `i` are excused, then everything is in order when `i` is a
top-level clone, and otherwise everything except the path to the parent of `i` -/
theorem ROKs_parent (dt : Data) (i : Nat) (f : SF) : ∀ (par : Option NodeRec) (q : Option NodeRec),
    f.idxs.Nodup → ROKs dt i f → SF.parentIn i par f = some q →
    (q = par ∧ ROK dt f) ∨ (∃ p, q = some p ∧ p ∈ f.recs ∧ ROKx dt p.idx f) := by
  induction f with
  | nil => exact fun _ _ _ _ h => nomatch h
  | cons n k s ihk ihs =>
    intro par q hnd h hq
    obtain ⟨hnk, hns, hk, hs, hks⟩ := nodup_cons_idxs hnd
    rw [ROKs_cons] at h
    rcases parentIn_cons_some hq with ⟨h1, rfl⟩ | ⟨_, hik, hpk⟩ | ⟨_, hik, hq⟩
    · exact Or.inl ⟨rfl, ROK_cons.2 ⟨h.1.resolve_left (h1 ▸ hnk), h.2.1.toROK (h1 ▸ hnk),
        h.2.2.toROK (h1 ▸ hns)⟩⟩
    · have hsOK : ROK dt s := h.2.2.toROK (hks i hik)
      refine Or.inr ?_
      rcases ihk (some n) q hk h.2.1 hpk with ⟨rfl, hkOK⟩ | ⟨p, rfl, hp, hpx⟩
      · exact ⟨n, rfl, List.mem_cons_self, ROKx_cons.2
          ⟨Or.inl (Or.inl rfl), hkOK.toROKx _, hsOK.toROKx _⟩⟩
      · exact ⟨p, rfl, List.mem_cons_of_mem _ (List.mem_append_left _ hp), ROKx_cons.2
          ⟨Or.inl (Or.inr (mem_idxs_of_mem_recs hp)), hpx, hsOK.toROKx _⟩⟩
    · have hkOK : ROK dt k := h.2.1.toROK hik
      have hloc : n.r = recompR dt n k := h.1.resolve_left hik
      rcases ihs par q hs h.2.2 hq with ⟨rfl, hsOK⟩ | ⟨p, rfl, hp, hpx⟩
      · exact Or.inl ⟨rfl, ROK_cons.2 ⟨hloc, hkOK, hsOK⟩⟩
      · exact Or.inr ⟨p, rfl, List.mem_cons_of_mem _ (List.mem_append_right _ hp), ROKx_cons.2
          ⟨Or.inr hloc, hkOK.toROKx _, hpx⟩⟩

/-! ### `_update_path_to_root` -/

theorem updatePath_none (dt : Data) (s s' : Store)
    (h : Store.updatePathToRoot dt s none = some s') :
    s' = { s with rootR := recompRoot dt s.forest } := by
  unfold Store.updatePathToRoot at h
  cases h
  rfl

theorem updatePath_some (dt : Data) (s s' : Store) (name : Int)
    (h : Store.updatePathToRoot dt s (some name) = some s') :
    ∃ i, s.nodeIdx.lookup name = some i ∧ i ∈ s.forest.idxs ∧
      s' = { s with forest := (updPath dt i s.forest).1,
                    rootR := recompRoot dt (updPath dt i s.forest).1 } := by
  unfold Store.updatePathToRoot at h
  obtain ⟨i, hi, h⟩ := Option.bind_eq_some_iff.1 h
  by_cases hf : (!(updPath dt i s.forest).2) = true
  · rw [if_pos hf] at h
    cases h
  · rw [if_neg hf] at h
    split at h
    · cases h
    · cases h
      exact ⟨i, hi, (updPath_found dt i s.forest).1 (by simpa using hf), rfl⟩

/-- recomputation from the virtual root: the forest must already be in order -/
theorem cacheOK_updatePath_none (dt : Data) (s s' : Store) (hf : CacheOKsf dt s.forest)
    (h : Store.updatePathToRoot dt s none = some s') : CacheOK dt s' := by
  rw [updatePath_none dt s s' h]
  exact ⟨hf, fun _ => rfl⟩

/-- recomputation from clone `name`: everything off the path to that clone must be in order -/
theorem cacheOK_updatePath_some (dt : Data) (s s' : Store) (name : Int)
    (hnd : s.forest.idxs.Nodup) (hp : POK dt s.forest)
    (hr : ∀ i, s.nodeIdx.lookup name = some i → ROKx dt i s.forest)
    (h : Store.updatePathToRoot dt s (some name) = some s') : CacheOK dt s' := by
  obtain ⟨i, hi, _, rfl⟩ := updatePath_some dt s s' name h
  exact ⟨cacheOKsf_updPath dt i s.forest hnd hp (hr i hi), fun _ => rfl⟩

end PhyModel.Store.C06
