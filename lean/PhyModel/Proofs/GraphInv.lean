import PhyModel.Model.Graph
import Mathlib.Data.List.Perm.Basic
import Mathlib.Data.List.Nodup
import Mathlib.Data.List.Count
/-! The shape invariant of the graph model (`Model/Graph.lean`): `IsForest g` — the virtual root 0 is
live and has no incoming edge, edges join live nodes, every other live node is the target of exactly
one edge of the edge list, and every live node is reachable from 0.  Basic facts: reachability is
monotone in the edge set, the parent is unique, the invariant only depends on the node / edge lists up
to permutation, the targets of the edge list are a permutation of the live non-root nodes, and a
forest has no cycle (`IsForest.acyclic`). -/
namespace PhyModel.Graph

/-- there is a directed path from `a` to `b` (possibly empty) -/
inductive Reach (g : DG) : Nat → Nat → Prop
  | refl (a : Nat) : Reach g a a
  | step {a b c : Nat} : Reach g a b → (b, c) ∈ g.edges → Reach g a c

/-- the targets of the edge list, one entry per edge -/
abbrev DG.targets (g : DG) : List Nat := g.edges.map (·.2)

/-- **C07, first clause**: a rooted forest under the virtual root 0 -/
structure IsForest (g : DG) : Prop where
  nodes_nodup : g.nodes.Nodup
  root_live : 0 ∈ g.nodes
  edges_live : ∀ e ∈ g.edges, e.1 ∈ g.nodes ∧ e.2 ∈ g.nodes
  root_indeg : g.targets.count 0 = 0
  indeg : ∀ v ∈ g.nodes, v ≠ 0 → g.targets.count v = 1
  reach : ∀ v ∈ g.nodes, Reach g 0 v

namespace Reach

theorem trans {g : DG} {a b c : Nat} (h1 : Reach g a b) (h2 : Reach g b c) : Reach g a c := by
  induction h2 with
  | refl => exact h1
  | step _ he ih => exact .step ih he

theorem single {g : DG} {a b : Nat} (h : (a, b) ∈ g.edges) : Reach g a b := .step (.refl a) h

theorem head {g : DG} {a b c : Nat} (h : (a, b) ∈ g.edges) (h2 : Reach g b c) : Reach g a c :=
  (single h).trans h2

theorem mono {g g' : DG} (hsub : ∀ e ∈ g.edges, e ∈ g'.edges) {a b : Nat} (h : Reach g a b) :
    Reach g' a b := by
  induction h with
  | refl => exact .refl _
  | step _ he ih => exact .step ih (hsub _ he)

/-- the last edge of a non-empty path -/
theorem tail_cases {g : DG} {a c : Nat} (h : Reach g a c) :
    a = c ∨ ∃ b, Reach g a b ∧ (b, c) ∈ g.edges := by
  cases h with
  | refl => exact .inl rfl
  | step h he => exact .inr ⟨_, h, he⟩

/-- the first edge of a non-empty path -/
theorem head_cases {g : DG} {a c : Nat} (h : Reach g a c) :
    a = c ∨ ∃ b, (a, b) ∈ g.edges ∧ Reach g b c := by
  induction h with
  | refl => exact .inl rfl
  | step h he ih =>
    rcases ih with rfl | ⟨b, hab, hbc⟩
    · exact .inr ⟨_, he, .refl _⟩
    · exact .inr ⟨b, hab, .step hbc he⟩

/-- a renaming of the indices carries paths over -/
theorem map {g g' : DG} (ρ : Nat → Nat) (hmap : ∀ e ∈ g.edges, (ρ e.1, ρ e.2) ∈ g'.edges) {a b : Nat}
    (h : Reach g a b) : Reach g' (ρ a) (ρ b) := by
  induction h with
  | refl => exact .refl _
  | step _ he ih => exact .step ih (hmap _ he)

end Reach

/-! ### in-degree as a statement about the edge list -/

theorem mem_targets {g : DG} {v : Nat} : v ∈ g.targets ↔ ∃ p, (p, v) ∈ g.edges :=
  List.mem_map.trans ⟨fun ⟨e, he, h⟩ => ⟨e.1, h ▸ he⟩, fun ⟨p, h⟩ => ⟨(p, v), h, rfl⟩⟩

/-- two edges into `v` in a list where `v` occurs once as a target are the same edge -/
theorem parent_unique_of_count {es : List (Nat × Nat)} {v p q : Nat}
    (hc : (es.map (·.2)).count v ≤ 1) (hp : (p, v) ∈ es) (hq : (q, v) ∈ es) : p = q := by
  obtain ⟨l1, l2, rfl⟩ := List.append_of_mem hp
  rw [List.map_append, List.map_cons, List.count_append, List.count_cons_self] at hc
  -- `v` is a target neither before nor after the edge `(p, v)`
  obtain ⟨h1, h2⟩ := Nat.eq_zero_of_add_eq_zero (Nat.le_zero.1 (Nat.le_of_succ_le_succ hc))
  have hm : ∀ l : List (Nat × Nat), (l.map (·.2)).count v = 0 → (q, v) ∉ l := fun l h hq =>
    List.count_eq_zero.1 h (List.mem_map.2 ⟨_, hq, rfl⟩)
  rcases List.mem_append.1 hq with h | h
  · exact absurd h (hm l1 h1)
  · rcases List.mem_cons.1 h with h | h
    · exact (Prod.mk.inj h).1.symm
    · exact absurd h (hm l2 h2)

namespace IsForest
variable {g : DG}

theorem target_ne_root (hf : IsForest g) {p v : Nat} (he : (p, v) ∈ g.edges) : v ≠ 0 := by
  rintro rfl
  have := List.count_pos_iff.2 (mem_targets.2 ⟨p, he⟩)
  rw [hf.root_indeg] at this
  exact Nat.lt_irrefl 0 this

theorem parent_unique (hf : IsForest g) {p q v : Nat} (hp : (p, v) ∈ g.edges) (hq : (q, v) ∈ g.edges) :
    p = q :=
  parent_unique_of_count (Nat.le_of_eq (hf.indeg v (hf.edges_live _ hp).2 (hf.target_ne_root hp))) hp hq

/-- every live clone has a parent -/
theorem exists_parent (hf : IsForest g) {v : Nat} (hv : v ∈ g.nodes) (h0 : v ≠ 0) :
    ∃ p, (p, v) ∈ g.edges :=
  mem_targets.1 (List.count_pos_iff.1 (by rw [hf.indeg v hv h0]; exact Nat.one_pos))

/-- the edge targets are exactly the live clones, each once -/
theorem targets_perm (hf : IsForest g) : g.targets.Perm (g.nodes.erase 0) := by
  rw [List.perm_iff_count]
  intro v
  by_cases h0 : v = 0
  · subst h0
    rw [hf.root_indeg, List.count_erase_self, List.count_eq_one_of_mem hf.nodes_nodup hf.root_live]
  · rw [List.count_erase_of_ne h0]
    by_cases hv : v ∈ g.nodes
    · rw [hf.indeg v hv h0, List.count_eq_one_of_mem hf.nodes_nodup hv]
    · rw [List.count_eq_zero_of_not_mem hv, List.count_eq_zero]
      intro hm
      obtain ⟨p, hp⟩ := mem_targets.1 hm
      exact hv (hf.edges_live _ hp).2

theorem targets_nodup (hf : IsForest g) : g.targets.Nodup :=
  (List.Perm.nodup_iff hf.targets_perm).2 (hf.nodes_nodup.erase 0)

/-- the same invariant from the permutation form of the in-degree clauses -/
theorem of_targets_perm (hn : g.nodes.Nodup) (h0 : 0 ∈ g.nodes) (hsrc : ∀ e ∈ g.edges, e.1 ∈ g.nodes)
    (ht : g.targets.Perm (g.nodes.erase 0)) (hr : ∀ v ∈ g.nodes, Reach g 0 v) : IsForest g where
  nodes_nodup := hn
  root_live := h0
  edges_live e he := ⟨hsrc e he, List.mem_of_mem_erase (ht.subset (List.mem_map.2 ⟨e, he, rfl⟩))⟩
  root_indeg := by rw [ht.count_eq, List.count_erase_self, List.count_eq_one_of_mem hn h0]
  indeg v hv hv0 := by rw [ht.count_eq, List.count_erase_of_ne hv0, List.count_eq_one_of_mem hn hv]
  reach := hr

/-- only the *sets* of live nodes and the multiset of edges matter -/
theorem of_perm {g' : DG} (hf : IsForest g) (hn : g.nodes.Perm g'.nodes) (he : g.edges.Perm g'.edges) :
    IsForest g' where
  nodes_nodup := (List.Perm.nodup_iff hn).1 hf.nodes_nodup
  root_live := hn.subset hf.root_live
  edges_live e h := by
    have := hf.edges_live e (he.symm.subset h)
    exact ⟨hn.subset this.1, hn.subset this.2⟩
  root_indeg := by rw [← (he.map (·.2)).count_eq]; exact hf.root_indeg
  indeg v hv h0 := by rw [← (he.map (·.2)).count_eq]; exact hf.indeg v (hn.symm.subset hv) h0
  reach v hv := (hf.reach v (hn.symm.subset hv)).mono fun e h => he.subset h

/-- a path that ends in a live node starts in one -/
theorem reach_live_left (hf : IsForest g) {a b : Nat} (h : Reach g a b) (hb : b ∈ g.nodes) : a ∈ g.nodes := by
  induction h with
  | refl => exact hb
  | step _ he ih => exact ih (hf.edges_live _ he).1

theorem reach_live_right (hf : IsForest g) {a b : Nat} (h : Reach g a b) (ha : a ∈ g.nodes) : b ∈ g.nodes := by
  induction h with
  | refl => exact ha
  | step _ he _ => exact (hf.edges_live _ he).2

/-- nothing leads back to the root -/
theorem reach_root (hf : IsForest g) {a : Nat} (h : Reach g a 0) : a = 0 := by
  rcases h.tail_cases with h | ⟨b, _, hb⟩
  · exact h
  · exact absurd rfl (hf.target_ne_root hb)

/-- a node on a cycle has its parent on the cycle -/
private theorem cycle_parent (hf : IsForest g) {b c : Nat} (he : (b, c) ∈ g.edges)
    (hc : ∃ x, (c, x) ∈ g.edges ∧ Reach g x c) : ∃ x, (b, x) ∈ g.edges ∧ Reach g x b := by
  obtain ⟨x, hcx, hxc⟩ := hc
  rcases hxc.tail_cases with rfl | ⟨u, hxu, huc⟩
  · have := hf.parent_unique he hcx
    subst this
    exact ⟨_, hcx, .refl _⟩
  · have := hf.parent_unique he huc
    subst this
    exact ⟨c, he, Reach.head hcx hxu⟩

/-- **a forest has no cycle**: no node reaches itself along a non-empty path -/
theorem acyclic (hf : IsForest g) {v x : Nat} (hv : v ∈ g.nodes) (he : (v, x) ∈ g.edges) : ¬ Reach g x v := by
  intro hxv
  have key : ∀ a c, Reach g a c → a = 0 → ¬ ∃ x, (c, x) ∈ g.edges ∧ Reach g x c := by
    intro a c h
    induction h with
    | refl =>
      rintro rfl ⟨x, h0x, hx⟩
      rcases hx.tail_cases with rfl | ⟨u, _, hu⟩
      · exact hf.target_ne_root h0x rfl
      · exact hf.target_ne_root hu rfl
    | step _ hbc ih =>
      intro ha hc
      exact ih ha (hf.cycle_parent hbc hc)
  exact key 0 v (hf.reach v hv) rfl ⟨x, he, hxv⟩

/-- in particular no node is its own descendant's child: a child never reaches its parent -/
theorem not_reach_parent (hf : IsForest g) {p c : Nat} (he : (p, c) ∈ g.edges) : ¬ Reach g c p :=
  hf.acyclic (hf.edges_live _ he).1 he

end IsForest

theorem isForest_init : IsForest gInit where
  nodes_nodup := List.nodup_singleton 0
  root_live := List.mem_singleton_self 0
  edges_live := fun _ h => nomatch h
  root_indeg := rfl
  indeg := fun _ hv h0 => absurd (List.mem_singleton.1 hv) h0
  reach := fun v hv => by rw [List.mem_singleton.1 hv]; exact .refl 0

end PhyModel.Graph
