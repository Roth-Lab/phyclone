import PhyModel.Proofs.TableRows
/-! # C12 — result tables list every mutation once per sample, consistent with the tree

Property theorems only (helper lemmas: `Proofs/TableBasic.lean`, `Proofs/TableRows.lean`).
`Table.table inp` is the model of `get_clone_table` (labels table with outlier fill-in, cluster
expansion, `explode` over the samples, CCF join); `Table.newick` of `Tree.to_newick_string`.
`WF inp` is what a recorded trace guarantees: the tree is well formed (C07), data indices refer to
the data list, mutation ids are distinct, and with a cluster file distinct data points carry distinct
cluster ids.  The per-clone CCF / prevalence dictionary is an input (`inp.ccf`, property C10).
Row order, the TSV/Newick byte format and pandas are tied by the correspondence check only. -/

namespace PhyModel.Props.C12
open PhyModel.Table List

/-- **every input mutation once per sample (1).**  The (mutation, sample) column pair of the table
is a permutation of input mutations × samples — unclustered (mutations = data points) and clustered
(mutations = rows of the cluster table), for every tree shape and every outlier set. -/
theorem rows_perm_product (inp : Input) (rows : List Row) (h : table inp = some rows) (wf : WF inp) :
    (rows.map key).Perm (inputMuts inp ×ˢ inp.samples) := by
  obtain ⟨_, rfl⟩ := table_eq_some.mp h
  rw [rows_keys]
  exact Perm.product_right _ (recs_mids inp wf)

/-- **every input mutation once per sample (2).**  With distinct sample names, each input mutation
has exactly one row per sample, and there are no other rows. -/
theorem each_mutation_once_per_sample (inp : Input) (rows : List Row) (h : table inp = some rows)
    (wf : WF inp) (hs : inp.samples.Nodup) :
    (∀ m ∈ inputMuts inp, ∀ s ∈ inp.samples, (rows.map key).count (m, s) = 1) ∧
    (∀ r ∈ rows, r.mid ∈ inputMuts inp ∧ r.sample ∈ inp.samples) := by
  have hp := rows_perm_product inp rows h wf
  have hnd : (inputMuts inp ×ˢ inp.samples).Nodup := wf.mutsNodup.product hs
  constructor
  · intro m hm s hs'
    rw [hp.count_eq]
    exact count_eq_one_of_mem hnd (mem_product.mpr ⟨hm, hs'⟩)
  · intro r hr
    have : key r ∈ rows.map key := mem_map_of_mem hr
    rw [hp.mem_iff] at this
    exact mem_product.mp this

/-- **clone ids.**  The clone id of every row is a node of the tree (the node set the Newick string
is printed from) or -1. -/
theorem clone_in_tree_or_minus1 (inp : Input) (rows : List Row) (h : table inp = some rows) :
    ∀ r ∈ rows, r.clone ∈ inp.forest.ids ∨ r.clone = -1 := by
  obtain ⟨_, rfl⟩ := table_eq_some.mp h
  intro r hr
  obtain ⟨rc, hrc, s, _, rfl⟩ := (mem_rowsOf inp r).mp hr
  rw [mkRow_clone]
  exact recs_clone inp rc hrc

/-- **consistent with the tree (unclustered).**  A mutation is listed in the clone that holds its
data point, and as -1 exactly when it is an outlier or not in the tree at all. -/
theorem clone_is_holder (inp : Input) (rows : List Row) (h : table inp = some rows) (wf : WF inp)
    (hc : inp.clusters = none) (r : Row) (hr : r ∈ rows) :
    (∀ i c, (i, c) ∈ labelsOf inp.forest inp.outs → nameOf inp.names i = r.mid → r.clone = c) ∧
    ((∀ p ∈ labelsOf inp.forest inp.outs, nameOf inp.names p.1 ≠ r.mid) → r.clone = -1) := by
  obtain ⟨_, rfl⟩ := table_eq_some.mp h
  obtain ⟨rc, hrc, s, _, rfl⟩ := (mem_rowsOf inp r).mp hr
  rw [mkRow_clone, mkRow_mid]
  unfold recsOf at hrc
  rw [hc] at hrc
  have hn : inp.names.Nodup := by
    have := wf.mutsNodup
    unfold inputMuts at this
    rw [hc] at this
    exact this
  rcases mem_plainRecs _ _ rc hrc with ⟨p, hp, rfl⟩ | ⟨h1, _, _, h4⟩
  · constructor
    · intro i c hic hname
      have hi := wf.inRange i (labelsOf_fst_mem _ _ _ hic)
      have hp1 := wf.inRange p.1 (labelsOf_fst_mem _ _ _ hp)
      have : i = p.1 := nameOf_inj _ hn i p.1 hi hp1 hname
      have := labelsOf_inj _ _ wf.dpsNodup (i, c) hic p hp this
      rw [← this]
    · intro hall
      exact absurd rfl (hall p hp)
  · constructor
    · intro i c hic hname
      exact absurd hname (h4 (i, c) hic)
    · intro _
      exact h1

/-- **clusters.**  All mutations of a cluster share one clone: two rows with the same cluster id have
the same clone id; and every row's cluster id is the one the cluster table gives its mutation. -/
theorem cluster_shares_clone (inp : Input) (rows : List Row) (h : table inp = some rows) (wf : WF inp)
    (cl : List (String × Int)) (hc : inp.clusters = some cl) :
    (∀ r ∈ rows, ∃ c, r.cluster = some c ∧ (r.mid, c) ∈ cl) ∧
    (∀ r₁ ∈ rows, ∀ r₂ ∈ rows, r₁.cluster = r₂.cluster → r₁.clone = r₂.clone) := by
  obtain ⟨_, rfl⟩ := table_eq_some.mp h
  have hrec : ∀ rc ∈ recsOf inp, rc ∈ clusRecs inp.names cl (labelsOf inp.forest inp.outs) := by
    intro rc hrc
    unfold recsOf at hrc
    rw [hc] at hrc
    exact hrc
  have hcn := wf.cidsNodup (by simp [hc])
  constructor
  · intro r hr
    obtain ⟨rc, hrc, s, _, rfl⟩ := (mem_rowsOf inp r).mp hr
    rw [mkRow_cluster, mkRow_mid]
    rcases mem_clusRecs _ _ _ rc (hrec rc hrc) with ⟨p, _, _, h2, h3⟩ | ⟨_, c, h2, h3, _⟩
    · exact ⟨_, h2, h3⟩
    · exact ⟨c, h2, h3⟩
  · intro r₁ hr₁ r₂ hr₂ heq
    obtain ⟨a, ha, s₁, _, rfl⟩ := (mem_rowsOf inp r₁).mp hr₁
    obtain ⟨b, hb, s₂, _, rfl⟩ := (mem_rowsOf inp r₂).mp hr₂
    rw [mkRow_cluster, mkRow_cluster] at heq
    rw [mkRow_clone, mkRow_clone]
    rcases mem_clusRecs _ _ _ a (hrec a ha) with ⟨p, hp, a1, a2, a3⟩ | ⟨a1, c, a2, a3, a4⟩ <;>
    rcases mem_clusRecs _ _ _ b (hrec b hb) with ⟨q, hq, b1, b2, b3⟩ | ⟨b1, d, b2, b3, b4⟩
    · -- both from data points of the tree: same cluster id, hence the same data point
      rw [a2, b2] at heq
      have hcid : cidOf inp.names p.1 = cidOf inp.names q.1 := Option.some.inj heq
      have hpq : p.1 = q.1 :=
        inj_on_of_nodup_map hcn (labelsOf_fst_mem _ _ _ hp) (labelsOf_fst_mem _ _ _ hq) hcid
      have := labelsOf_inj _ _ wf.dpsNodup p hp q hq hpq
      rw [a1, b1, this]
    · -- a mutation of a cluster that is a data point of the tree is never filled in as missing
      rw [a2, b2] at heq
      have : cidOf inp.names p.1 = d := Option.some.inj heq
      exact absurd (this ▸ b3) (b4 p hp)
    · rw [a2, b2] at heq
      have : c = cidOf inp.names q.1 := Option.some.inj heq
      exact absurd (this ▸ a3) (a4 q hq)
    · rw [a1, b1]

/-- **CCF and clonal prevalence.**  A row carries the CCF / prevalence dictionary's values for its
clone at the position of its sample in the sample list (in range, never a default), or -1 / -1 when
the clone has no entry; with non-negative node ids as dictionary keys the -1 rows are exactly the
outlier rows' values, and values stay in [0,1] when the dictionary's are. -/
theorem ccf_prev_of_clone (inp : Input) (rows : List Row) (h : table inp = some rows) (r : Row) (hr : r ∈ rows) :
    r.sample ∈ inp.samples ∧
    inp.samples[sampleIdx inp.samples r.sample]? = some r.sample ∧
    (∀ v w, lookupCcf inp.ccf r.clone = some (v, w) →
      v[sampleIdx inp.samples r.sample]? = some r.ccf ∧ w[sampleIdx inp.samples r.sample]? = some r.prev) ∧
    (lookupCcf inp.ccf r.clone = none → r.ccf = -1 ∧ r.prev = -1) := by
  obtain ⟨hv, rfl⟩ := table_eq_some.mp h
  obtain ⟨rc, hrc, s, hs, rfl⟩ := (mem_rowsOf inp r).mp hr
  simp only [valid, Bool.and_eq_true] at hv
  have hccf := hv.1.2
  unfold validCcf at hccf
  rw [all_eq_true] at hccf
  have hrc' := hccf rc hrc
  rw [mkRow_sample, mkRow_clone]
  refine ⟨hs, sampleIdx_spec _ _ hs, ?_, ?_⟩
  · intro v w hl
    rw [hl] at hrc'
    simp only [all_eq_true, Bool.and_eq_true, decide_eq_true_eq] at hrc'
    obtain ⟨h1, h2⟩ := hrc' s hs
    unfold mkRow
    rw [hl]
    simp only
    rw [getD_eq_getElem?_getD, getD_eq_getElem?_getD, getElem?_eq_getElem h1, getElem?_eq_getElem h2]
    simp
  · intro hl
    unfold mkRow
    rw [hl]
    exact ⟨rfl, rfl⟩

/-- **outliers.**  When the dictionary is keyed by (non-negative) node ids, every row listed with
clone -1 has CCF -1 and prevalence -1. -/
theorem outlier_rows_minus1 (inp : Input) (rows : List Row) (h : table inp = some rows)
    (hk : ∀ k ∈ inp.ccf.map Prod.fst, 0 ≤ k) (r : Row) (hr : r ∈ rows) (ho : r.clone = -1) :
    r.ccf = -1 ∧ r.prev = -1 := by
  apply (ccf_prev_of_clone inp rows h r hr).2.2.2
  apply lookupCcf_none_of_not_key
  intro hmem
  have := hk _ hmem
  rw [ho] at this
  omega

/-- **range.**  When the dictionary's values lie in [0,1] (C10), every row has CCF and prevalence in
[0,1], or both equal to -1. -/
theorem values_in_unit_interval (inp : Input) (rows : List Row) (h : table inp = some rows)
    (hu : ∀ c v w, lookupCcf inp.ccf c = some (v, w) →
      (∀ x ∈ v, 0 ≤ x ∧ x ≤ 1) ∧ (∀ x ∈ w, 0 ≤ x ∧ x ≤ 1))
    (r : Row) (hr : r ∈ rows) :
    (0 ≤ r.ccf ∧ r.ccf ≤ 1 ∧ 0 ≤ r.prev ∧ r.prev ≤ 1) ∨ (r.ccf = -1 ∧ r.prev = -1) := by
  obtain ⟨_, _, h3, h4⟩ := ccf_prev_of_clone inp rows h r hr
  cases hl : lookupCcf inp.ccf r.clone with
  | none => exact Or.inr (h4 hl)
  | some vw =>
    obtain ⟨v, w⟩ := vw
    obtain ⟨hv, hw⟩ := h3 v w hl
    obtain ⟨uv, uw⟩ := hu _ v w hl
    have a := uv _ (mem_of_getElem? hv)
    have b := uw _ (mem_of_getElem? hw)
    exact Or.inl ⟨a.1, a.2, b.1, b.2⟩

/-- **the commands complete.**  The table is defined (no error branch is taken) for every
well-formed tree that holds at least one data point — whatever its shape: no clone at all (all data
points outliers), a single clone, several top-level clones, clones without own data points — provided
(with a cluster file) every data point's name is an integer cluster id of the cluster table, the CCF
dictionary has one entry per sample, and there is at least one sample. -/
theorem table_total (inp : Input) (wf : WF inp)
    (hdata : inp.forest.dps ++ inp.outs ≠ [])
    (hs : inp.samples ≠ [])
    (hclus : ∀ cl, inp.clusters = some cl → ∀ i ∈ inp.forest.dps ++ inp.outs,
      ∃ c, parseInt (nameOf inp.names i) = some c ∧ ∃ m, (m, c) ∈ cl)
    (hccf : ∀ c v w, lookupCcf inp.ccf c = some (v, w) →
      inp.samples.length ≤ v.length ∧ inp.samples.length ≤ w.length) :
    ∃ rows, table inp = some rows := by
  have hvalid : valid inp = true := by
    simp only [valid, Bool.and_eq_true]
    refine ⟨⟨⟨?_, ?_⟩, ?_⟩, ?_⟩
    · -- data[idx]
      unfold validIdx
      rw [all_eq_true]
      intro p hp
      simpa using wf.inRange p.1 (labelsOf_fst_mem _ _ _ hp)
    · -- int(name), get_group
      unfold validClus
      cases hcl : inp.clusters with
      | none => rfl
      | some cl =>
        simp only
        rw [all_eq_true]
        intro p hp
        obtain ⟨c, h1, m, h2⟩ := hclus cl hcl p.1 (labelsOf_fst_mem _ _ _ hp)
        rw [h1]
        simp only [any_eq_true, beq_iff_eq]
        exact ⟨(m, c), h2, rfl⟩
    · -- ccfs[clone][sample index]
      unfold validCcf
      rw [all_eq_true]
      intro rc _
      cases hl : lookupCcf inp.ccf rc.clone with
      | none => rfl
      | some vw =>
        obtain ⟨v, w⟩ := vw
        simp only [all_eq_true, Bool.and_eq_true, decide_eq_true_eq]
        intro s hs'
        have hlt := sampleIdx_lt inp.samples s hs'
        have hlen := hccf _ v w hl
        exact ⟨Nat.lt_of_lt_of_le hlt hlen.1, Nat.lt_of_lt_of_le hlt hlen.2⟩
    · -- pd.concat needs a group: the records carry every input mutation, and there is one
      unfold validNonempty
      simp only [Bool.and_eq_true, Bool.not_eq_eq_eq_not, Bool.not_true, isEmpty_eq_false_iff]
      refine ⟨fun h0 => ?_, hs⟩
      have hmuts : inputMuts inp = [] := by
        have hp := recs_mids inp wf
        rw [h0] at hp
        exact hp.symm.eq_nil
      obtain ⟨i, hi⟩ := exists_mem_of_ne_nil _ hdata
      unfold inputMuts at hmuts
      cases hcl : inp.clusters with
      | none =>
        rw [hcl] at hmuts
        have hn : inp.names = [] := hmuts
        have := wf.inRange i hi
        rw [hn] at this
        exact Nat.not_lt_zero i this
      | some cl =>
        rw [hcl] at hmuts
        obtain ⟨c, _, m, h2⟩ := hclus cl hcl i hi
        have hn : cl = [] := map_eq_nil_iff.mp hmuts
        rw [hn] at h2
        cases h2
  exact ⟨rowsOf inp, table_eq_some.mpr ⟨hvalid, rfl⟩⟩

/-! ### non-vacuity: concrete inputs meeting the hypotheses -/

/-- clones 0 → {1, 2 → 3} where clone 2 has no own data point, data point 3 is an outlier -/
def exPlain : Input :=
  { forest := .cons 0 [0] (.cons 1 [1] .nil (.cons 2 [] (.cons 3 [2] .nil .nil) .nil)) .nil,
    outs := [3], names := ["a", "b", "c", "d"], samples := ["s1", "s2"], clusters := none,
    ccf := [(0, [1, 1], [0, 1]), (1, [1, 0], [1, 0]), (2, [0, 0], [0, 0]), (3, [0, 0], [0, 0])] }

/-- every data point an outlier: no clone at all -/
def exAllOut : Input :=
  { forest := .nil, outs := [0, 1], names := ["a", "b"], samples := ["s1"], clusters := none, ccf := [] }

/-- clustered: clusters 5 (two mutations) and 7 are data points, cluster 9 has no data point -/
def exClus : Input :=
  { forest := .cons 0 [0] .nil .nil, outs := [1], names := ["5", "7"], samples := ["s1", "s2"],
    clusters := some [("m1", 5), ("m2", 7), ("m3", 5), ("m4", 9)],
    ccf := [(0, [1, 1], [1, 1])] }

example : WF exPlain := ⟨by decide +kernel, by decide +kernel, by decide +kernel, by decide +kernel⟩
example : WF exAllOut := ⟨by decide +kernel, by decide +kernel, by decide +kernel, by decide +kernel⟩
example : WF exClus := ⟨by decide +kernel, by decide +kernel, by decide +kernel, by decide +kernel⟩
example : (table exPlain).isSome = true ∧ (table exAllOut).isSome = true ∧ (table exClus).isSome = true := by
  decide +kernel
example : ((table exPlain).getD []).length = 8 ∧ ((table exAllOut).getD []).length = 2 ∧
    ((table exClus).getD []).length = 8 := by decide +kernel
example : ((table exClus).getD []).map (fun r => (r.mid, r.clone, r.cluster)) =
    [("m1", 0, some 5), ("m1", 0, some 5), ("m3", 0, some 5), ("m3", 0, some 5),
     ("m2", -1, some 7), ("m2", -1, some 7), ("m4", -1, some 9), ("m4", -1, some 9)] := by decide +kernel
example : newick exPlain.forest = "((1,(3)2)0)root;" ∧ newick exAllOut.forest = "root;" := by decide +kernel

end PhyModel.Props.C12
