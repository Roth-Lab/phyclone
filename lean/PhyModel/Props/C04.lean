import PhyModel.Proofs.Gibbs
import PhyModel.Model.Moves
import PhyModel.Proofs.MovesDpBlocks
import PhyModel.Proofs.MovesPrBlocks
import PhyModel.Proofs.PGSubRegion
import PhyModel.Proofs.PGSubExample
import PhyModel.Proofs.PGExample
import PhyModel.Proofs.SweepInv
import PhyModel.Proofs.SweepExample
/-! # C04 — data-point, prune-regraft and subtree moves preserve the same posterior

`gibbs_block_invariant` is the argument behind the data-point move and the prune-regraft move: a
move that picks a choice `c` (which data point / which subtree) with a probability that is constant
on the blocks of an equivalence relation `rel c` (trees differing only in where that data point sits
/ where that subtree is attached) and redraws the state within the block proportionally to π leaves π
invariant.  `sweep_invariant`: the composition of two π-invariant kernels is π-invariant, so (by
induction; `move_sequence_invariant` for the executable moves) every interleaving of the moves in a
sweep has π as stationary distribution.

`dpStep_invariant`, `dataPointMove_invariant`, `pruneRegraft_invariant` prove the statement for the
executable models `Moves.dpStep`, `Moves.dataPointMove`, `Moves.pruneRegraft` themselves, on any
duplicate-free list of well-formed trees closed under the move, through a list-level Gibbs lemma
(`categorical_gibbs_reversible`) and the fact that `Forest.canon` is a canonical form for "same tree up
to sibling order" (`Proofs/CanonEqv.lean`); `move_sequence_invariant` composes them.

The executable models `Moves.dataPointMove`, `Moves.pruneRegraft`, `Moves.subtreeMove` are compared
transition row by transition row with the exact kernels of the real samplers.  For the random-subtree
particle-Gibbs move the unconditional statement is FALSE of model and code (known finding F7: the
region is selected with a state-dependent, uncorrected probability); the pinned counter-instances are
evaluated on every run.  What IS true of the move, and proved below for the executable model
(`subtreeMove_factors`, `subtree_conditional_invariant`): `Moves.subtreeMove` is "choose the region, then
`Moves.subtreeGiven`", and **given the region** (remaining forest `rem`, graft point `gk`, region data
`D` = the region's clone data and all outliers) `Moves.subtreeGiven` is a particle-Gibbs update whose
invariant distribution is the full-tree posterior restricted to the trees `graftBack rem gk y`:
`Σ_x pOne(full x) · P(subtreeGiven x = full y) = pOne(full y)` over the complete subtrees on `D`, for all
three proposals, every `N ≥ 1` and every threshold.  The abstract argument is conditional SMC whose
final selection uses the weights `w · h(x)` (`csmc_corrected_invariant`), also under the code's
schedule for a single data point, where the swarm is resampled on the uncorrected weights BEFORE the
correction (`csmc_corrected_invariant_final_resample`).

**The whole sweep** (last section): C01's `pg_invariant` and the two move theorems above are brought onto one
finite state space — `Sweep.space c D`, the complete well-formed canonical trees on the data points `D`
(`sweep_state_space`, `sweep_kernels_invariant`) — and composed: one iteration of `run.py:_run_main_sampler`
with `subtree_update_prob = 0` (`Sweep.sweepModel`: particle Gibbs, `k₁` data-point scans, `k₂`
prune-regraft moves) leaves `pOne` invariant (`full_sweep_invariant`), and so does any number of
iterations at a fixed concentration value (`chain_invariant`). -/

namespace PhyModel.Props.C04

theorem gibbs_block_invariant {X Cc : Type} [Fintype X] [Fintype Cc] [DecidableEq X]
    (π : X → ℚ) (hπ : ∀ x, 0 ≤ π x)
    (r : X → Cc → ℚ) (hr : ∀ x, π x ≠ 0 → ∑ c, r x c = 1)
    (rel : Cc → X → X → Prop) [∀ c x z, Decidable (rel c x z)]
    (hrefl : ∀ c x, rel c x x) (hsymm : ∀ c x z, rel c x z → rel c z x)
    (htrans : ∀ c x z w, rel c x z → rel c z w → rel c x w)
    (hconst : ∀ c x z, rel c x z → r x c = r z c) (y : X) :
    ∑ x, π x * (∑ c, r x c * (if rel c x y then π y / (∑ z, if rel c x z then π z else 0) else 0))
      = π y :=
  Moves.gibbs_block_invariant π hπ r hr rel hrefl hsymm htrans hconst y

/-- composition of two π-invariant kernels is π-invariant (hence any finite interleaving is) -/
theorem sweep_invariant {X : Type} [Fintype X] (π : X → ℚ) (P Q : X → X → ℚ)
    (hP : ∀ y, ∑ x, π x * P x y = π y) (hQ : ∀ y, ∑ x, π x * Q x y = π y) (z : X) :
    ∑ x, π x * (∑ y, P x y * Q y z) = π z :=
  (PG.sum_mul_eq_of_kernel π P _ (fun y => Q y z) (fun _ _ => rfl) hP).trans (hQ z)

/-! ## The model's moves

State space: any duplicate-free list `S` of well-formed trees (`Canon.WFT`: canonical
representation, data points pairwise distinct and below the sentinel `Forest.big`, no empty clone)
that is closed under the move.  Invariance is stated in expectation form,
`Σ_{x ∈ S} π x · E[h(move x)] = Σ_{x ∈ S} π x · h x` for every test function `h`, and in target
form `Σ_{x ∈ S} π x · P(x → y) = π y`, with `π = Moves.pOneOf c` (`log_p_one`, the density the
trace records).  `0 ≤ π` on `S` is a hypothesis (it holds for likelihood data and `α ≥ 0`). -/

open PhyModel.Moves PhyModel.Gibbs PhyModel.Canon

/-- Detailed balance of the list-level Gibbs kernel: if the candidate lists form blocks on `S`
(`x ∈ cands x`, no repeats, candidates stay in `S`, the candidates of a candidate are a permutation
of the original candidates) then `w x · P(x → y) = w y · P(y → x)`. -/
theorem categorical_gibbs_reversible {X : Type} [DecidableEq X] (S : List X) (cands : X → List X)
    (w : X → ℚ) (hB : Block S cands) (x y : X) (hx : x ∈ S) (hy : y ∈ S) :
    w x * Dist.E (Dist.categorical ((cands x).map fun t => (t, w t))) (fun t => if t = y then 1 else 0)
      = w y * Dist.E (Dist.categorical ((cands y).map fun t => (t, w t))) (fun t => if t = x then 1 else 0) := by
  change w x * Dist.E (gibbsK w (cands x)) _ = w y * Dist.E (gibbsK w (cands y)) _
  rw [E_gibbsK, E_gibbsK, lsum_mul_indicator (hB.nodup x hx), lsum_mul_indicator (hB.nodup y hy)]
  by_cases hxy : y ∈ cands x
  · rw [if_pos hxy, if_pos (hB.symm hx hxy), lsum_perm (hB.perm x hx y hxy)]; ring
  · rw [if_neg hxy, if_neg fun h => hxy (hB.symm hy h), zero_div, zero_div, mul_zero, mul_zero]

/-- One Gibbs reassignment of data point `i` (`DataPointSampler._sample_tree`; the identity when `i`
is the only member of its clone) leaves `π` invariant. -/
theorem dpStep_invariant (c : Moves.Cfg) (i : Nat) (S : List T) (hS : S.Nodup)
    (hwf : ∀ x ∈ S, WFT x) (hout : c.outliers = false → ∀ x ∈ S, x.out = [])
    (hcl : ∀ x ∈ S, ∀ yq ∈ dpStep c x i, yq.1 ∈ S)
    (hπ : ∀ x ∈ S, 0 ≤ pOneOf c x) (h : T → ℚ) :
    (S.map fun x => pOneOf c x * Dist.E (dpStep c x i) h).sum = (S.map fun x => pOneOf c x * h x).sum :=
  Canon.dpStep_invariant c i S hS hwf hout hcl hπ h

/-- The data-point move (`DataPointSampler.sample_tree`: one Gibbs scan over the data set `base` in a
uniformly random order) leaves `π` invariant, with and without the outlier option. -/
theorem dataPointMove_invariant (c : Moves.Cfg) (S : List T) (base : List Nat) (hS : S.Nodup)
    (hbase : base.Nodup) (hwf : ∀ x ∈ S, WFT x) (hdata : ∀ x ∈ S, (x.f.all ++ x.out).Perm base)
    (hout : c.outliers = false → ∀ x ∈ S, x.out = [])
    (hcl : ∀ i ∈ base, ∀ x ∈ S, ∀ yq ∈ dpStep c x i, yq.1 ∈ S)
    (hπ : ∀ x ∈ S, 0 ≤ pOneOf c x) (h : T → ℚ) :
    (S.map fun x => pOneOf c x * Dist.E (dataPointMove c x) h).sum
      = (S.map fun x => pOneOf c x * h x).sum :=
  dataPointMove_invariant_of_steps c S base hbase hdata
    (fun i hi => Canon.dpStep_invariant c i S hS hwf hout (hcl i hi) hπ) h

/-- The prune-regraft move (`PruneRegraphSampler.sample_tree`: uniform choice of the subtree root,
then a Gibbs draw among the re-attachments `Moves.prCands` of the pruned subtree) leaves `π`
invariant. -/
theorem pruneRegraft_invariant (c : Moves.Cfg) (S : List T) (hS : S.Nodup) (hwf : ∀ x ∈ S, WFT x)
    (hcl : ∀ x ∈ S, ∀ sub ∈ nodesOf x.f, ∀ y ∈ prCands x sub, y ∈ S)
    (hπ : ∀ x ∈ S, 0 ≤ pOneOf c x) (h : T → ℚ) :
    (S.map fun x => pOneOf c x * Dist.E (pruneRegraft c x) h).sum
      = (S.map fun x => pOneOf c x * h x).sum :=
  Canon.pruneRegraft_invariant c S hS hwf hcl hπ h

/-- Any finite interleaving of kernels that leave `π` invariant on `S` (in particular of the two moves
above) leaves `π` invariant, in expectation form and per target tree. -/
theorem move_sequence_invariant (π : T → ℚ) (S : List T) (Ks : List (T → Dist T))
    (hK : ∀ K ∈ Ks, ∀ h : T → ℚ,
      (S.map fun x => π x * Dist.E (K x) h).sum = (S.map fun x => π x * h x).sum) :
    (∀ h : T → ℚ, (S.map fun x => π x * Dist.E (seqK Ks x) h).sum = (S.map fun x => π x * h x).sum) ∧
    (S.Nodup → ∀ y ∈ S,
      (S.map fun x => π x * Dist.E (seqK Ks x) (fun t => if t = y then 1 else 0)).sum = π y) :=
  ⟨Inv.seq Ks hK, fun hS _ hy => Inv.target (Inv.seq Ks hK) hS hy⟩

/-! ### Non-vacuity: three data points, outlier option on -/

def exData : Data :=
  { G := 2, S := 1, vals := [[[1/2, 1/4]], [[1/4, 1]], [[1/3, 1/2]]], op := [1/5, 1/5, 1/5], sz := [1, 1, 1] }
def exCfg : Moves.Cfg := { dt := exData, α := 1, outliers := true }

/-- closure of a start list under a successor function (`n` rounds) -/
def closeUnder (step : T → List T) : Nat → List T → List T
  | 0, S => S
  | n+1, S => closeUnder step n (S ++ S.flatMap step).eraseDups

/-- the 19 trees reachable by data-point steps from the one-clone tree on `{0,1,2}` and from the
parent/child tree `{0,1} → {2}` -/
def exDp : List T :=
  closeUnder (fun x => [0, 1, 2].flatMap fun i => (dpStep exCfg x i).map (·.1)) 4
    [⟨.cons [0, 1] (.cons [2] .nil .nil) .nil, []⟩, ⟨.cons [0, 1, 2] .nil .nil, []⟩]

/-- the 16 trees on three single-point clones -/
def exPr : List T :=
  closeUnder (fun x => (nodesOf x.f).flatMap (prCands x)) 3
    [⟨.cons [0] .nil (.cons [1] .nil (.cons [2] .nil .nil)), []⟩]

/-- The well-formed trees on the data points `0, 1, 2` are the common state space of the last section
(`Sweep.space`); the density is positive there because the likelihoods are. -/
theorem ex_mem_space {x : T} (w : WFT x) (hp : (x.f.all ++ x.out).Perm [0, 1, 2]) :
    x ∈ Sweep.space (PG.exCfg .semi) [0, 1, 2] :=
  (Sweep.mem_space_iff_holds (Sweep.swHypD .semi)).mpr
    ⟨RunOK.ofCanon w fun h => absurd h (by norm_num [PG.exCfg]), hp⟩

theorem exDp_hyps : exDp.length = 19 ∧ exDp.Nodup ∧ (∀ x ∈ exDp, WFT x) ∧
    (∀ x ∈ exDp, (x.f.all ++ x.out).Perm [0, 1, 2]) ∧
    (∀ i ∈ [0, 1, 2], ∀ x ∈ exDp, ∀ yq ∈ dpStep exCfg x i, yq.1 ∈ exDp) := by decide +kernel

theorem exPr_hyps : exPr.length = 16 ∧ exPr.Nodup ∧ (∀ x ∈ exPr, WFT x) ∧
    (∀ x ∈ exPr, ∀ sub ∈ nodesOf x.f, ∀ y ∈ prCands x sub, y ∈ exPr) ∧
    (∀ x ∈ exPr, (x.f.all ++ x.out).Perm [0, 1, 2]) := by decide +kernel

/-- hypotheses of `dpStep_invariant` / `dataPointMove_invariant` -/
example : exDp.length = 19 ∧ exDp.Nodup ∧ (∀ x ∈ exDp, WFT x) ∧
    (∀ x ∈ exDp, (x.f.all ++ x.out).Perm [0, 1, 2]) ∧
    (∀ i ∈ [0, 1, 2], ∀ x ∈ exDp, ∀ yq ∈ dpStep exCfg x i, yq.1 ∈ exDp) ∧
    (∀ x ∈ exDp, 0 ≤ pOneOf exCfg x) := by
  obtain ⟨hlen, hnd, hwf, hperm, hcl⟩ := exDp_hyps
  exact ⟨hlen, hnd, hwf, hperm, hcl, fun x hx =>
    (Sweep.space_pOne_pos (Sweep.swHypD .semi) (ex_mem_space (hwf x hx) (hperm x hx))).le⟩

/-- hypotheses of `pruneRegraft_invariant` -/
example : exPr.length = 16 ∧ exPr.Nodup ∧ (∀ x ∈ exPr, WFT x) ∧
    (∀ x ∈ exPr, ∀ sub ∈ nodesOf x.f, ∀ y ∈ prCands x sub, y ∈ exPr) ∧
    (∀ x ∈ exPr, 0 ≤ pOneOf exCfg x) := by
  obtain ⟨hlen, hnd, hwf, hcl, hperm⟩ := exPr_hyps
  exact ⟨hlen, hnd, hwf, hcl, fun x hx =>
    (Sweep.space_pOne_pos (Sweep.swHypD .semi) (ex_mem_space (hwf x hx) (hperm x hx))).le⟩

/-- hypotheses of `categorical_gibbs_reversible`: the candidates of data point 0 on the movable trees;
they form blocks on any list of well-formed trees closed under the step -/
example : Block (exDp.filter fun x => dpMovable x 0) (fun x => dpCands true x 0) := by
  obtain ⟨_, _, hwf, _, hcl⟩ := exDp_hyps
  refine dpBlock_of_wf true exDp 0 hwf (fun h => nomatch h) fun x hx hm y hy => ?_
  obtain ⟨yq, hyq, rfl⟩ := mem_dpStep_of_mem_dpCands exCfg hm hy
  exact hcl 0 (by decide) x hx yq hyq

/-! ## The random-subtree move, given the region

`ParticleGibbsSubtreeSampler.sample_tree` picks a data point, takes the parent of its clone as the root
of the region, extracts that subtree with all outliers, runs `sample_swarm` (conditional SMC targeting
the **subtree's** density), multiplies every weight by `pOne(full tree) / pOne(subtree)`
(`_correct_weights`) and draws.  Abstractly that is conditional SMC with a corrected final selection. -/

/-- **Conditional SMC with corrected final weights.**  `ASMC.kernelH sp u h T`: the `T` steps of the
sweep of `sp` (retained path in slot 0, any number `m + 1` of particles, adaptive resampling by any
slot-symmetric rule), then every weight `w_k` is replaced by `w_k · h(x_k)` and the result is drawn in
proportion to those.  For `h` positive on the support of the last-level target, it leaves `g T · h`
invariant. -/
theorem csmc_corrected_invariant {X : Type} [Fintype X] [DecidableEq X] {m : ℕ}
    (sp : ASMC.Spec (m := m) X) (u : ℚ) (T : ℕ) (hv : ASMC.ValidTo sp T) (hu : 0 < u) (h : X → ℚ)
    (hh : ∀ x, 0 < sp.g T x → 0 < h x) (y : X) :
    ∑ x, (sp.g T x * h x) * ASMC.kernelH sp u h T x y = sp.g T y * h y :=
  ASMC.csmc_corrected_invariant hv hu hh y

/-- **… under the code's schedule for a single data point.**  `ASMC.kernelRH`: after the `T` steps the
swarm is resampled if the rule fires **on the uncorrected weights** (slot 0 kept, the other slots drawn
from the normalised uncorrected weights, all weights reset to `u`), only then corrected by `h`, then
drawn — `sample_swarm` (whose `sample()` resamples after `_init_swarm`), `_correct_weights`, the draw.
It leaves `g T · h` invariant too (every `T`); `ASMC.kernelXH` = `kernelRH` if `T = 1`, else `kernelH`,
is what `SMC.csmc` followed by the corrected draw computes. -/
theorem csmc_corrected_invariant_final_resample {X : Type} [Fintype X] [DecidableEq X] {m : ℕ}
    (sp : ASMC.Spec (m := m) X) (u : ℚ) (T : ℕ) (hv : ASMC.ValidTo sp T) (hu : 0 < u) (h : X → ℚ)
    (hh : ∀ x, 0 < sp.g T x → 0 < h x) (y : X) :
    (∑ x, (sp.g T x * h x) * ASMC.kernelRH sp u h T x y = sp.g T y * h y) ∧
    (∑ x, (sp.g T x * h x) * ASMC.kernelXH sp u h T x y = sp.g T y * h y) :=
  ⟨ASMC.csmc_corrected_invariant_final_resample hv hu hh y, ASMC.csmc_corrected_invariant_X hv hu hh y⟩

/-- **Correcting the final weights = targeting `g T · h` at the last step**: `kernelH` is the plain
conditional-SMC kernel of the specification whose last-level target is multiplied by `h`
(`ASMC.withH`); the adaptive resampling decisions of the earlier steps do not see `h` in either. -/
theorem corrected_kernel_is_modified_target {X : Type} [Fintype X] [DecidableEq X] {m : ℕ}
    (sp : ASMC.Spec (m := m) X) (u : ℚ) (h : X → ℚ) (T : ℕ) (x y : X) :
    ASMC.kernelH sp u h (T+1) x y = ASMC.kernel (ASMC.withH sp h (T+1)) u (T+1) x y :=
  ASMC.kernelH_eq_kernel_withH h T x y

/-- non-vacuity (all three): the branching three-state specification of C01 (a root with two children),
with the correction `h = (1, 2, 3)` -/
example : ASMC.ValidTo PG.exSpec 1 ∧ 0 < PG.exSpec.g 1 1 ∧ 0 < PG.exSpec.g 1 2 ∧
    (∀ x : Fin 3, 0 < PG.exSpec.g 1 x → 0 < (fun z : Fin 3 => (z.val : ℚ) + 1) x) := by
  refine ⟨PG.exSpec_valid, PG.exSpec_branches.1, PG.exSpec_branches.2, ?_⟩
  intro x _
  positivity

/-- **The model of the move factors through the region choice.**  `Moves.subtreeMove` — the definition
the correspondence check compares, transition row by transition row, with the exact kernel of the real
`ParticleGibbsSubtreeSampler.sample_tree` — is: whole-tree particle Gibbs when every data point is an
outlier; otherwise a uniform choice of a clone data point `i`, the region `Moves.regionOf x i` =
(region forest, remaining forest, graft point), and `Moves.subtreeGiven` on the subtree (region and all
outliers). -/
theorem subtreeMove_factors (r : SMC.Run) (x : T) :
    subtreeMove r x =
      if x.f.all.isEmpty then SMC.pgStep r x
      else Dist.norm (Dist.bind (Dist.uniform x.f.all) fun i =>
        subtreeGiven r (regionOf x i).2.1 (regionOf x i).2.2 (T.mk' (regionOf x i).1 x.out)) :=
  rfl

/-- non-vacuity: on the chain `0 → 1 → 2` with outlier 3, data point 2 selects the region rooted at the
clone of data point 1 (below the clone of data point 0), the extracted subtree is `1 → 2` with the
outlier, and grafting it back gives the tree we started from -/
example : regionOf PG.subFull 2 = (PG.subTree.f, PG.subRem, some 0) ∧
    T.mk' (regionOf PG.subFull 2).1 PG.subFull.out = PG.subTree ∧
    graftBack PG.subRem (some 0) PG.subTree = PG.subFull := by decide +kernel

/-- **The executable move given the region is the corrected particle-Gibbs kernel.**  For a complete
subtree `x` on the region's data `D` and every test function `φ` on full trees,
`E[φ(subtreeGiven x)] = Σ_y subKernel x y · φ(graftBack rem gk y)`, where
`PG.subKernel x y = Σ_σ uOrd x σ · ASMC.kernelXH (PG.spec σ (1/N)) (1/N) h |σ| x y` (order uniform on the
compatible orders of the subtree; `h y = pOne(graftBack rem gk y) / pOne y`, `PG.hC`; `PG.spec` is the
PhyClone instance of C01 for the region's data). -/
theorem subtree_given_exec (dt : Data) (c : Proposal.Cfg) (D : List ℕ) (h : PG.HypD dt c D) (rem : DF)
    (gk : Option ℕ) (θ : ℚ) (m : ℕ) (x : PG.St (PGSpec.allStates c D)) (hx : x.1 ∈ PGSpec.finals c D)
    (φ : T → ℚ) :
    Dist.E (subtreeGiven (PG.runOf dt c m θ) rem gk x.1) φ
      = ∑ y : PG.St (PGSpec.allStates c D),
          PG.subKernel dt c D rem gk (PG.uN m) θ m (PG.uN m) x y * φ (graftBack rem gk y.1) :=
  PG.subtreeGiven_E h rem gk θ m x hx φ

/-- **Given the region, the corrected kernel leaves the full-tree density invariant** (abstract mixture
kernel, any `κ, u > 0`): `PG.piR x = pOne (graftBack rem gk x)` on the complete subtrees of `D`
(`PGSpec.finals c D`), 0 on the partial trees of the common state space. -/
theorem subtree_conditional_invariant_abstract (dt : Data) (c : Proposal.Cfg) (D : List ℕ)
    (h : PG.HypD dt c D) (rem : DF) (gk : Option ℕ)
    (hpos : ∀ y ∈ PGSpec.finals c D, 0 < Proposal.pOneT dt c (graftBack rem gk y))
    (κ : ℚ) (hκ : 0 < κ) (θ : ℚ) (m : ℕ) (u : ℚ) (hu : 0 < u) (y : PG.St (PGSpec.allStates c D)) :
    ∑ x : PG.St (PGSpec.allStates c D), PG.piR dt c D rem gk x.1 * PG.subKernel dt c D rem gk κ θ m u x y
      = PG.piR dt c D rem gk y.1 :=
  PG.subtree_invariant_abstract h rem gk hpos κ hκ θ m u hu y

/-- **The conditional statement, expectation form** (no assumption on the remaining forest beyond a
positive full-tree density): for every data set of the region with distinct indices, positive
likelihoods, `α > 0`, outlier proposal probability in `[0,1)`, each of the three proposals
(`PG.HypD dt c D`), every remaining forest `rem` and graft point `gk`, every `N = m + 1 ≥ 1` and
threshold, and every test function `φ` on full trees:
`Σ_x pOne(full x) · E[φ(subtreeGiven x)] = Σ_y pOne(full y) · φ(full y)`,
i.e. if the subtree is distributed as the full-tree posterior restricted to the region, so is the
subtree after the move. -/
theorem subtree_conditional_invariant_E (dt : Data) (c : Proposal.Cfg) (D : List ℕ) (h : PG.HypD dt c D)
    (rem : DF) (gk : Option ℕ)
    (hpos : ∀ y ∈ PGSpec.finals c D, 0 < Proposal.pOneT dt c (graftBack rem gk y))
    (θ : ℚ) (m : ℕ) (φ : T → ℚ) :
    ∑ x : PG.St (PGSpec.allStates c D),
        PG.piR dt c D rem gk x.1 * Dist.E (subtreeGiven (PG.runOf dt c m θ) rem gk x.1) φ
      = ∑ y : PG.St (PGSpec.allStates c D), PG.piR dt c D rem gk y.1 * φ (graftBack rem gk y.1) :=
  PG.subtree_given_invariant_E h rem gk hpos θ m φ

/-- **Distinct subtrees give distinct full trees**: when the remaining forest holds no data of the
region, its data are pairwise distinct and the graft point (if any) is one of them (`PG.RegionOK`), the
forest induced by the full tree on the region's data is the subtree again. -/
theorem graftBack_restrict (c : Proposal.Cfg) (D : List ℕ) (rem : DF) (gk : Option ℕ)
    (ok : PG.RegionOK rem gk D) (x : T) (w : PG.WFT c x) (hperm : (x.f.all ++ x.out).Perm D) :
    SMC.restrict (graftBack rem gk x) D = x :=
  PG.restrict_graftBack ok w hperm

/-- **C04, random-subtree move, conditional statement.**  Given the region — remaining forest `rem` and
graft point `gk` with `PG.RegionOK rem gk D` (no data of the region in `rem`, distinct data, graft point
in `rem`), all data of `rem` and of the region `D` with positive likelihoods and outlier priors in
`[0,1)`, `α > 0`, outlier proposal probability in `[0,1)`, each of the three proposals, kernel with a
permutation distribution, every `N = m + 1 ≥ 1` and every threshold — the executable
`Moves.subtreeGiven` satisfies, for every complete subtree `y` on `D`,
`Σ_x pOne(full x) · P(subtreeGiven x = full y) = pOne(full y)`, the sum over the complete subtrees `x`
on `D`, `full = graftBack rem gk`. -/
theorem subtree_conditional_invariant (dt : Data) (c : Proposal.Cfg) (D : List ℕ) (h : PG.HypD dt c D)
    (rem : DF) (gk : Option ℕ) (ok : PG.RegionOK rem gk D) (hrem : ∀ i ∈ rem.all, C19P.GoodIdx dt i)
    (θ : ℚ) (m : ℕ) (y : PG.St (PGSpec.allStates c D)) (hy : y.1 ∈ PGSpec.finals c D) :
    ∑ x : PG.St (PGSpec.allStates c D), PG.piR dt c D rem gk x.1 *
        Dist.E (subtreeGiven (PG.runOf dt c m θ) rem gk x.1)
          (fun z => if z = graftBack rem gk y.1 then 1 else 0)
      = PG.piR dt c D rem gk y.1 :=
  PG.subtree_given_invariant h rem gk (PG.graftBack_pOne_pos h rem gk hrem) (PG.graftBack_inj h ok) θ m y hy

/-- non-vacuity (all of the above): four data points on a 2-point grid, outlier priors 1/5, every
proposal kind, outlier proposal probability 1/10; region data `[1, 2, 3]` (clones of 1 and 2, outlier
3) below the clone of data point 0 — the hypotheses hold, the extracted subtree is one of the complete
subtrees, there are 42 distinct complete subtrees (the sum is a genuine one), and the move is not
degenerate (by `#eval`, bootstrap proposal, two particles, threshold 1/2: `subtreeGiven` reaches 34
different full trees from `PG.subTree`) -/
example : (∀ k, PG.HypD PG.subData (PG.subCfg k) [1, 2, 3]) ∧ PG.RegionOK PG.subRem (some 0) [1, 2, 3] ∧
    (∀ i ∈ PG.subRem.all, C19P.GoodIdx PG.subData i) ∧
    PG.subTree ∈ PGSpec.finals (PG.subCfg .semi) [1, 2, 3] ∧
    (PGSpec.finals (PG.subCfg .semi) [1, 2, 3]).eraseDups.length = 42 := by
  exact ⟨PG.subHypD, PG.subRegionOK, PG.subRemGood, by decide +kernel⟩

/-- **Every region the move can choose is an instance of the conditional statement.**  For a well-formed
tree `x` (`PG.WFT`: canonical, no empty clone, distinct data below the sentinel, no outliers when outlier
modelling is off) with positive likelihoods and any clone data point `i`: with
`(region, rem, gk) = Moves.regionOf x i`, `xs = T.mk' region x.out` the subtree `subtreeMove` hands to
`subtreeGiven` and `D = region.all ++ x.out` its data — `D` satisfies `PG.HypD`, `PG.RegionOK rem gk D`
holds, the data of `rem` are good, `xs = ⟨region, x.out⟩` is one of the complete subtrees on `D`, and
`graftBack rem gk xs = x`: the current tree is the full tree of the subtree that is extracted. -/
theorem subtree_region_ok (dt : Data) (c : Proposal.Cfg) (x : T) (w : PG.WFT c x) (hG : 0 < dt.G)
    (hα : 0 < c.α) (op0 : 0 ≤ c.op) (op1 : c.op < 1) (hup : c.usePerm = true)
    (hgood : ∀ j ∈ x.f.all ++ x.out, C19P.GoodIdx dt j) (i : ℕ) (hi : i ∈ x.f.all) :
    PG.HypD dt c ((regionOf x i).1.all ++ x.out) ∧
    PG.RegionOK (regionOf x i).2.1 (regionOf x i).2.2 ((regionOf x i).1.all ++ x.out) ∧
    (∀ j ∈ (regionOf x i).2.1.all, C19P.GoodIdx dt j) ∧
    T.mk' (regionOf x i).1 x.out = ⟨(regionOf x i).1, x.out⟩ ∧
    T.mk' (regionOf x i).1 x.out ∈ PGSpec.finals c ((regionOf x i).1.all ++ x.out) ∧
    graftBack (regionOf x i).2.1 (regionOf x i).2.2 (T.mk' (regionOf x i).1 x.out) = x :=
  PG.regionOf_ok w hG hα op0 op1 hup hgood hi rfl

/-- **The conditional statement at every region of every well-formed tree**: for the region selected
through any clone data point `i` of any well-formed tree `x₀`, `Moves.subtreeGiven` leaves
`y ↦ pOne (graftBack rem gk y)` invariant on the complete subtrees of the region's data. -/
theorem subtree_conditional_invariant_at_region (dt : Data) (c : Proposal.Cfg) (x₀ : T) (w : PG.WFT c x₀)
    (hG : 0 < dt.G) (hα : 0 < c.α) (op0 : 0 ≤ c.op) (op1 : c.op < 1) (hup : c.usePerm = true)
    (hgood : ∀ j ∈ x₀.f.all ++ x₀.out, C19P.GoodIdx dt j) (i : ℕ) (hi : i ∈ x₀.f.all) (θ : ℚ) (m : ℕ)
    (y : PG.St (PGSpec.allStates c ((regionOf x₀ i).1.all ++ x₀.out)))
    (hy : y.1 ∈ PGSpec.finals c ((regionOf x₀ i).1.all ++ x₀.out)) :
    ∑ x : PG.St (PGSpec.allStates c ((regionOf x₀ i).1.all ++ x₀.out)),
        PG.piR dt c ((regionOf x₀ i).1.all ++ x₀.out) (regionOf x₀ i).2.1 (regionOf x₀ i).2.2 x.1 *
        Dist.E (subtreeGiven (PG.runOf dt c m θ) (regionOf x₀ i).2.1 (regionOf x₀ i).2.2 x.1)
          (fun z => if z = graftBack (regionOf x₀ i).2.1 (regionOf x₀ i).2.2 y.1 then 1 else 0)
      = PG.piR dt c ((regionOf x₀ i).1.all ++ x₀.out) (regionOf x₀ i).2.1 (regionOf x₀ i).2.2 y.1 := by
  obtain ⟨h1, h2, h3, _, _, _⟩ := PG.regionOf_ok (dt := dt) w hG hα op0 op1 hup hgood hi rfl
  exact subtree_conditional_invariant dt c _ h1 _ _ h2 h3 θ m y hy

/-- non-vacuity (both): the chain `0 → 1 → 2` with outlier 3 is well formed with good data for every
proposal kind, and data point 2 is a clone data point (its region is the one of the examples above) -/
example : (∀ k, PG.WFT (PG.subCfg k) PG.subFull) ∧ (∀ j ∈ PG.subFull.f.all ++ PG.subFull.out, C19P.GoodIdx PG.subData j) ∧
    2 ∈ PG.subFull.f.all ∧ (regionOf PG.subFull 2).1.all ++ PG.subFull.out = [2, 1, 3] := by
  exact ⟨PG.subFull_wft, PG.subFull_good, by decide +kernel⟩

/-! ## The whole sweep

One iteration of `run.py:_run_main_sampler` with `subtree_update_prob = 0` is
`tree_sampler.sample_tree` (whole-tree particle Gibbs, C01), `num_samples_data_point` data-point scans,
`num_samples_prune_regraph` prune-regraft moves, `relabel_nodes` (no effect on the canonical tree), with
the concentration value held fixed: `Sweep.sweepModel r mv k₁ k₂` (`Model/Sweep.lean`).  C01 is stated on
the subtype of the computed list `PGSpec.allStates c D` with the target `PG.piD`; the two move theorems
above on duplicate-free closed lists of well-formed trees with `Moves.pOneOf`.  The common state space is
`Sweep.space c D = (PGSpec.finals c D).eraseDups`. -/

/-- **The hypotheses of the whole-sweep theorems, bundled**: those of C01 `pg_invariant` on the data set
(`PG.HypD`: data indices `D` distinct, non-empty and below the sentinel, positive likelihoods, outlier
priors in `[0,1)`, `α > 0`, outlier proposal probability in `[0,1)`, any of the three proposals, kernel
with a permutation distribution), the tree sampler `r` built on that data and kernel with `N ≥ 1`
particles (any threshold), and the move configuration `mv` built by `run.py:setup_samplers` from the same
tree distribution (`Sweep.mvOf r`: same data, same concentration value, outlier set used iff outlier
modelling is on).  The hypotheses of `dataPointMove_invariant` / `pruneRegraft_invariant` about the state
list follow from these (`sweep_state_space`). -/
structure SweepHyp (dt : Data) (c : Proposal.Cfg) (D : List ℕ) (r : SMC.Run) (mv : Moves.Cfg) : Prop where
  data : PG.HypD dt c D
  r_dt : r.dt = dt
  r_c : r.c = c
  r_N : 1 ≤ r.N
  mv_eq : mv = Sweep.mvOf r

theorem SweepHyp.run_eq {dt : Data} {c : Proposal.Cfg} {D : List ℕ} {r : SMC.Run} {mv : Moves.Cfg}
    (h : SweepHyp dt c D r mv) : r = PG.runOf dt c (r.N - 1) r.θ ∧ mv = Sweep.mvCfg dt c := by
  obtain ⟨_, h1, h2, h3, h4⟩ := h
  obtain ⟨rdt, rc, rN, rθ⟩ := r
  simp only at h1 h2 h3
  subst h1 h2 h4
  refine ⟨?_, rfl⟩
  simp only [PG.runOf]
  congr
  omega

/-- **The common state space.**  Under `SweepHyp`, `Sweep.space c D` is duplicate free; its members are
exactly the members of `PGSpec.finals c D` (the support of C01's target `PG.piD`) and exactly the
well-formed trees holding the data points `D` (`RunOK.Holds`, C19); C01's target is `pOne` there and 0
elsewhere; the density of the moves is the density of the kernel and it is positive; and the list
satisfies every hypothesis of `dataPointMove_invariant` and `pruneRegraft_invariant`. -/
theorem sweep_state_space (dt : Data) (c : Proposal.Cfg) (D : List ℕ) (r : SMC.Run) (mv : Moves.Cfg)
    (h : SweepHyp dt c D r mv) :
    (Sweep.space c D).Nodup ∧ (∀ x, x ∈ Sweep.space c D ↔ x ∈ PGSpec.finals c D) ∧
    (∀ x, x ∈ Sweep.space c D ↔ RunOK.Holds c D x) ∧
    (∀ x, PG.piD dt c D x = if x ∈ Sweep.space c D then pOneOf mv x else 0) ∧
    (∀ x, pOneOf mv x = Proposal.pOneT dt c x) ∧ (∀ x ∈ Sweep.space c D, 0 < pOneOf mv x) ∧
    (∀ x ∈ Sweep.space c D, WFT x) ∧ (∀ x ∈ Sweep.space c D, (x.f.all ++ x.out).Perm D) ∧
    (mv.outliers = false → ∀ x ∈ Sweep.space c D, x.out = []) ∧
    (∀ i ∈ D, ∀ x ∈ Sweep.space c D, ∀ yq ∈ dpStep mv x i, yq.1 ∈ Sweep.space c D) ∧
    (∀ x ∈ Sweep.space c D, ∀ sub ∈ nodesOf x.f, ∀ y ∈ prCands x sub, y ∈ Sweep.space c D) := by
  obtain ⟨_, rfl⟩ := h.run_eq
  have hd := h.data
  exact ⟨Sweep.space_nodup c D, fun _ => Sweep.mem_space, fun _ => Sweep.mem_space_iff_holds hd,
    fun x => Sweep.piD_eq x, fun _ => rfl, fun _ hx => Sweep.space_pOne_pos hd hx, Sweep.space_wf hd,
    Sweep.space_data hd, Sweep.space_out hd, Sweep.space_dp_closed hd, Sweep.space_pr_closed hd⟩

/-- **Each kernel of the sweep leaves `pOne` invariant on the common state space** (expectation form):
C01's particle-Gibbs update, transported from the subtype of `PGSpec.allStates c D`, and the two moves of
this file with their hypotheses discharged. -/
theorem sweep_kernels_invariant (dt : Data) (c : Proposal.Cfg) (D : List ℕ) (r : SMC.Run) (mv : Moves.Cfg)
    (h : SweepHyp dt c D r mv) (g : T → ℚ) :
    ((Sweep.space c D).map fun x => pOneOf mv x * Dist.E (SMC.pgStep r x) g).sum
        = ((Sweep.space c D).map fun x => pOneOf mv x * g x).sum ∧
    ((Sweep.space c D).map fun x => pOneOf mv x * Dist.E (dataPointMove mv x) g).sum
        = ((Sweep.space c D).map fun x => pOneOf mv x * g x).sum ∧
    ((Sweep.space c D).map fun x => pOneOf mv x * Dist.E (pruneRegraft mv x) g).sum
        = ((Sweep.space c D).map fun x => pOneOf mv x * g x).sum := by
  obtain ⟨hr, rfl⟩ := h.run_eq
  rw [hr]
  exact ⟨Sweep.pgStep_inv h.data _ _ g, Sweep.dataPointMove_inv h.data g, Sweep.pruneRegraft_inv h.data g⟩

/-- **Capstone, expectation form.**  `Σ_{x} pOne x · E[g(sweep x)] = Σ_{x} pOne x · g x` over the complete
trees on `D`, for every test function `g`. -/
theorem full_sweep_invariant_E (dt : Data) (c : Proposal.Cfg) (D : List ℕ) (r : SMC.Run) (mv : Moves.Cfg)
    (h : SweepHyp dt c D r mv) (k₁ k₂ : ℕ) (g : T → ℚ) :
    ((Sweep.space c D).map fun x => pOneOf mv x * Dist.E (Sweep.sweepModel r mv k₁ k₂ x) g).sum
      = ((Sweep.space c D).map fun x => pOneOf mv x * g x).sum := by
  obtain ⟨hr, rfl⟩ := h.run_eq
  rw [hr]
  exact Sweep.sweep_inv h.data _ _ k₁ k₂ g

/-- **Capstone: one full sweep of the sampler (without the random-subtree move) leaves the `log_p_one`
posterior invariant.**  For every data set with data indices `D`, each of the three proposals, every
`N ≥ 1`, every resampling threshold, every `k₁ = num_samples_data_point`, `k₂ = num_samples_prune_regraph`
(`SweepHyp`), and every complete tree `y` on `D`:
`Σ_x pOne x · P(sweepModel x = y) = pOne y`, the sum over the finite type of the complete well-formed
canonical trees on `D`, `P(· = y)` the expectation of the indicator of `y` under the finite distribution
`Sweep.sweepModel r mv k₁ k₂ x`. -/
theorem full_sweep_invariant (dt : Data) (c : Proposal.Cfg) (D : List ℕ) (r : SMC.Run) (mv : Moves.Cfg)
    (h : SweepHyp dt c D r mv) (k₁ k₂ : ℕ) (y : PG.St (Sweep.space c D)) :
    ∑ x : PG.St (Sweep.space c D), pOneOf mv x.1 *
        Dist.E (Sweep.sweepModel r mv k₁ k₂ x.1) (fun z => if z = y.1 then 1 else 0)
      = pOneOf mv y.1 := by
  obtain ⟨hr, rfl⟩ := h.run_eq
  rw [hr]
  exact Sweep.target_form (Sweep.sweep_inv h.data _ _ k₁ k₂) y

/-- **… in the formalisation of C01** (`Props.C01.pg_invariant` with `SMC.pgStep` replaced by the whole
sweep): sum over the subtype of `PGSpec.allStates c D`, target `PG.piD`. -/
theorem full_sweep_invariant_c01 (dt : Data) (c : Proposal.Cfg) (D : List ℕ) (r : SMC.Run) (mv : Moves.Cfg)
    (h : SweepHyp dt c D r mv) (k₁ k₂ : ℕ) (y : PG.St (PGSpec.allStates c D)) :
    ∑ x : PG.St (PGSpec.allStates c D), PG.piD dt c D x.1 *
        Dist.E (Sweep.sweepModel r mv k₁ k₂ x.1) (fun z => if z = y.1 then 1 else 0)
      = PG.piD dt c D y.1 := by
  obtain ⟨hr, rfl⟩ := h.run_eq
  rw [hr]
  exact Sweep.subtype_form (Sweep.sweep_inv h.data _ _ k₁ k₂) y.1

/-- **Corollary: any number `n` of sweeps at a fixed concentration value leaves the posterior invariant**
(`Sweep.chainModel`), on the complete trees and in the formalisation of C01. -/
theorem chain_invariant (dt : Data) (c : Proposal.Cfg) (D : List ℕ) (r : SMC.Run) (mv : Moves.Cfg)
    (h : SweepHyp dt c D r mv) (k₁ k₂ n : ℕ) :
    (∀ y : PG.St (Sweep.space c D),
      ∑ x : PG.St (Sweep.space c D), pOneOf mv x.1 *
          Dist.E (Sweep.chainModel r mv k₁ k₂ n x.1) (fun z => if z = y.1 then 1 else 0)
        = pOneOf mv y.1) ∧
    (∀ y : PG.St (PGSpec.allStates c D),
      ∑ x : PG.St (PGSpec.allStates c D), PG.piD dt c D x.1 *
          Dist.E (Sweep.chainModel r mv k₁ k₂ n x.1) (fun z => if z = y.1 then 1 else 0)
        = PG.piD dt c D y.1) := by
  obtain ⟨hr, rfl⟩ := h.run_eq
  rw [hr]
  exact ⟨fun y => Sweep.target_form (Sweep.chain_inv h.data _ _ k₁ k₂ n) y,
    fun y => Sweep.subtype_form (Sweep.chain_inv h.data _ _ k₁ k₂ n) y.1⟩

/-- non-vacuity (all of the whole-sweep theorems): the three-point data set of the examples above, every
proposal kind (outlier proposal probability 1/10, `α = 1`), two particles, threshold 1/2 — `SweepHyp`
holds, the move configuration is the `exCfg` of the examples above, the common state space has 42 trees
and contains the 19 + 16 trees of `exDp` and `exPr`; the sweep is not degenerate (by `#eval`, bootstrap
proposal, `k₁ = k₂ = 1`: from the one-clone tree `sweepModel` lists all 42 trees) -/
example : Sweep.swData = exData ∧
    (∀ k, SweepHyp exData (PG.exCfg k) [0, 1, 2] (PG.runOf exData (PG.exCfg k) 1 (1/2)) exCfg) ∧
    (Sweep.space (PG.exCfg .semi) [0, 1, 2]).length = 42 ∧
    (∀ x ∈ exDp ++ exPr, x ∈ Sweep.space (PG.exCfg .semi) [0, 1, 2]) := by
  refine ⟨rfl, fun k => ⟨Sweep.swHypD k, rfl, rfl, by simp [PG.runOf], ?_⟩, by decide +kernel, ?_⟩
  · simp only [Sweep.mvOf, PG.runOf, PG.exCfg, exCfg, Moves.Cfg.mk.injEq, true_and]
    decide +kernel
  · intro x hx
    rcases List.mem_append.mp hx with h | h
    · exact ex_mem_space (exDp_hyps.2.2.1 x h) (exDp_hyps.2.2.2.1 x h)
    · exact ex_mem_space (exPr_hyps.2.2.1 x h) (exPr_hyps.2.2.2.2 x h)

-- OBLIGATION-OPEN subtree_invariant: only the UNCONDITIONAL statement `Σ_x pOne x · P(subtreeMove x = y) = pOne y` remains, and it is FALSE of model and code (known finding F7: the region is chosen with a state-dependent probability that is never corrected); the conditional statement given the region is proved (`subtree_conditional_invariant`)

end PhyModel.Props.C04
