import PhyModel.Proofs.ConsForest
/-! # C16 — the consensus tree contains exactly the clades with majority support

Property theorems about the executable model `PhyModel.Consensus` (`Model/Consensus.lean`), which
mirrors `process_trace/consensus.py` and `process_trace.py:get_tree_from_consensus_graph`.
Helper lemmas are in `Proofs/Consensus.lean` (Finset level) and `Proofs/ConsFamily.lean`,
`Proofs/ConsParents.lean`, `Proofs/ConsForest.lean` (lists ↔ Finsets).  `F m` is the family of
sets a list of clades stands for; `Domain` collects
the property's hypotheses (threshold ≥ 1/2, every tree uses a data point at most once and has no
clone without data, weights one per tree, non-negative, total ≤ 1; `weights = none` is counts
mode, where each tree weighs `1/len(trees)`). -/

namespace PhyModel.Props.C16
open PhyModel.Consensus PhyModel.ConsBridge

variable {trees : List DF} {weights : Option (List ℚ)} {θ : ℚ}

/-- The clades whose support (counts or weights) strictly exceeds a threshold ≥ 1/2 are pairwise
nested or disjoint. -/
theorem majority_family_laminar (h : Domain trees weights θ) :
    _root_.Consensus.Laminar (F (majority weights (trees.map cladeSet) θ)) :=
  (majority_good h).lam

/-- **"It never fails with inconsistent clades."**  Whatever order the majority clades are iterated
in (`m'` any permutation, outer loop of `consensus`) and whatever order the candidate supersets
are scanned in (`cs` any permutation, loop of `find_smallest_superset`), the scan never reaches
the `raise Exception("Inconsistent set of clades")` branch: it returns a value. -/
theorem no_inconsistent_error (h : Domain trees weights θ) (m' : List Clade)
    (hp : m'.Perm (majority weights (trees.map cladeSet) θ)) :
    (∃ tbl, parentTable m' = .ok tbl) ∧
    ∀ c ∈ m', ∀ cs : List Clade, cs.Perm (discard c m') → ∃ r, findSmallestGo c cs none = .ok r := by
  have hg : GoodFamily m' := (majority_good h).perm hp
  refine ⟨parentTable_ok hg, fun c hc cs hcs => go_ok_good hg (hg.ne c hc) (fun d hd => ?_) ?_⟩
  · exact (mem_discard.mp (hcs.mem_iff.mp hd)).1
  · exact (hcs.pairwise_iff (fun hxy => Ne.symm hxy)).mpr (hg.pw.filter _)

/-- The digraph built by `consensus` is the nesting of the family: an edge `p → c` is recorded only
when `p` is a member strictly containing `c` with no member strictly in between, and a clade is
left without parent only when no member strictly contains it. -/
theorem parent_is_child (m : List Clade) (hnd : ∀ c ∈ m, c.Nodup)
    (tbl : List (Clade × Option Clade)) (h : parentTable m = .ok tbl) :
    ∀ e ∈ tbl, e.1 ∈ m ∧
      (∀ p, e.2 = some p → _root_.Consensus.isChild (F m) p.toFinset e.1.toFinset) ∧
      (e.2 = none → ∀ d ∈ m, ¬ e.1.toFinset ⊂ d.toFinset) := by
  obtain ⟨hkeys, hval⟩ := mapM_pair_spec h
  intro e he
  have hm : e.1 ∈ m := hkeys ▸ List.mem_map_of_mem he
  exact ⟨hm, fun p hp => parent_isChild hnd (hp ▸ hval e he) hm, fun hn => root_maximal (hn ▸ hval e he)⟩

/-- **"relabel never raises KeyError"** (bridge (a)).  For every iteration order `m'` of the majority
set and the parent table built from it, `_relabel` at each node succeeds — no element is removed
twice and every removed element is present, because the children of a node are pairwise disjoint
subsets of it — and the data it leaves at the node is the clade minus the union of all majority
clades strictly inside it. -/
theorem own_is_clade_minus_subclades (h : Domain trees weights θ) (m' : List Clade)
    (hp : m'.Perm (majority weights (trees.map cladeSet) θ))
    (tbl : List (Clade × Option Clade)) (ht : parentTable m' = .ok tbl) :
    ∀ c ∈ m', ∃ o, ownOf tbl c = .ok o ∧ o.Nodup ∧
      o.toFinset = c.toFinset \
        ((F (majority weights (trees.map cladeSet) θ)).filter (fun e => e ⊂ c.toFinset)).biUnion id := by
  intro c hc
  have hg : GoodFamily m' := (majority_good h).perm hp
  obtain ⟨o, h1, h2, h3⟩ := ownOf_spec hg ht hc
  exact ⟨o, h1, h2, by rw [h3, strictU, F_perm hp]⟩

/-- **The consensus tree contains exactly the clades with majority support.**  Whenever the
consensus command returns a tree for an in-domain trace, the set of clades of that tree (one
clade per clone: its data and everything below it) is the set of clades whose support strictly
exceeds the threshold. -/
theorem consensus_clades_exact (h : Domain trees weights θ) (n : ℕ) (r : Result)
    (hr : run n trees weights θ = .ok r) :
    F (cladesOf r.forest) = F (majority weights (trees.map cladeSet) θ) :=
  nest_clades_exact (majority_good h) (run_spec hr).1

/-- **Every data point not covered by a retained clade is reported as outlier (clone id -1), and
nothing else is.** -/
theorem uncovered_are_minus1 (h : Domain trees weights θ) (n : ℕ) (r : Result)
    (hr : run n trees weights θ = .ok r) (i : ℕ) :
    i ∈ r.outs ↔ i < n ∧ ∀ c ∈ majority weights (trees.map cladeSet) θ, i ∉ c :=
  nest_outs_exact (majority_good h) (run_spec hr).1 i

/-- Both clauses for every iteration order `m'` of the majority set (Python iterates over a `set`
of frozensets): the forest built from `m'` has exactly the majority clades and its outliers are
exactly the uncovered data indices. -/
theorem consensus_any_order (h : Domain trees weights θ) (n : ℕ) (m' : List Clade)
    (hp : m'.Perm (majority weights (trees.map cladeSet) θ)) (f : DF) (outs : List ℕ)
    (owns : List (Clade × List ℕ)) (tbl : List (Clade × Option Clade))
    (hr : nest n m' = .ok (f, outs, owns, tbl)) :
    F (cladesOf f) = F (majority weights (trees.map cladeSet) θ) ∧
    ∀ i, i ∈ outs ↔ i < n ∧ ∀ c ∈ majority weights (trees.map cladeSet) θ, i ∉ c := by
  have hg : GoodFamily m' := (majority_good h).perm hp
  refine ⟨by rw [nest_clades_exact hg hr, F_perm hp], fun i => ?_⟩
  rw [nest_outs_exact hg hr i]
  exact and_congr_right fun _ => ⟨fun hh c hc => hh c (hp.mem_iff.mpr hc), fun hh c hc => hh c (hp.mem_iff.mp hc)⟩

/-- The hypothesis `run … = .ok r` of the two theorems above is met by every in-domain trace over
data points `0 … n-1`: the command raises none of its errors ("Inconsistent set of clades",
KeyError in `relabel`, index outside the data set, too few weights). -/
theorem run_succeeds (h : Domain trees weights θ) (n : ℕ) (hn : ∀ t ∈ trees, ∀ i ∈ t.all, i < n) :
    ∃ r, run n trees weights θ = .ok r :=
  run_ok h hn

/-! ### non-vacuity -/

/-- the F9 regression instance: 1→0,3→2 / 0→1,2→3 / four separate roots -/
def tA : DF := .cons [0] (.cons [1] .nil .nil) (.cons [2] (.cons [3] .nil .nil) .nil)
def tB : DF := .cons [1] (.cons [0] .nil .nil) (.cons [3] (.cons [2] .nil .nil) .nil)
def tC : DF := .cons [0] .nil (.cons [1] .nil (.cons [2] .nil (.cons [3] .nil .nil)))

theorem trees_nodup : ∀ t ∈ [tA, tB, tC], t.all.Nodup := by decide +kernel

theorem trees_nonempty : ∀ t ∈ [tA, tB, tC], NonemptyClones t := by
  simp [tA, tB, tC, NonemptyClones]

/-- counts mode: the regression instance is in the domain -/
theorem dom_counts : Domain [tA, tB, tC] none (1 / 2) where
  theta := le_refl _
  nodup := trees_nodup
  nonempty := trees_nonempty
  weights := ⟨fun _ h => (nomatch h), fun _ h => (nomatch h), fun _ h => (nomatch h)⟩

/-- weighted mode, threshold 3/5: in the domain -/
theorem dom_weighted : Domain [tA, tB, tC] (some [1 / 2, 1 / 4, 1 / 4]) (3 / 5) where
  theta := by decide +kernel
  nodup := trees_nodup
  nonempty := trees_nonempty
  weights := by
    refine ⟨fun ws h => ?_, fun ws h => ?_, fun ws h => ?_⟩
    · cases h
      rfl
    · cases h
      decide +kernel
    · cases h
      decide +kernel

theorem data_lt_five : ∀ t ∈ [tA, tB, tC], ∀ i ∈ t.all, i < 5 := by decide +kernel

/-- `consensus_clades_exact` / `uncovered_are_minus1` / `run_succeeds` are not vacuous: on the
regression instance over five data points the command returns a result (both modes), so its
clades are the majority clades and its outliers the uncovered indices (data point 4) -/
example : ∃ r, run 5 [tA, tB, tC] none (1 / 2) = .ok r ∧
    F (cladesOf r.forest) = F (majority none ([tA, tB, tC].map cladeSet) (1 / 2)) ∧
    (4 ∈ r.outs ↔ 4 < 5 ∧ ∀ c ∈ majority none ([tA, tB, tC].map cladeSet) (1 / 2), 4 ∉ c) := by
  obtain ⟨r, hr⟩ := run_succeeds dom_counts 5 data_lt_five
  exact ⟨r, hr, consensus_clades_exact dom_counts 5 r hr, uncovered_are_minus1 dom_counts 5 r hr 4⟩

example : ∃ r, run 5 [tA, tB, tC] (some [1 / 2, 1 / 4, 1 / 4]) (3 / 5) = .ok r :=
  run_succeeds dom_weighted 5 data_lt_five

/-- `parent_is_child` / `own_is_clade_minus_subclades` / `consensus_any_order`: nesting the family
{0,1},{0},{1},{2,3} on five data points succeeds, {0,1} keeps no data of its own, data point 4
becomes an outlier and the clades of the built forest are the family -/
example : (nest 5 [[0, 1], [0], [1], [2, 3]]).toOption.map (fun r => (cladesOf r.1, r.2.1, r.2.2.1)) =
    some ([[0, 1], [0], [1], [2, 3]], [4], [([0, 1], []), ([0], [0]), ([1], [1]), ([2, 3], [2, 3])]) := by
  decide +kernel

/-- out of the domain (threshold below 1/2 admits the non-laminar family {0,1},{1,2}) the
conclusion of `own_is_clade_minus_subclades` / `run_succeeds` fails: the model raises, as the
code does -/
example : (nest 3 [[0, 1], [1, 2], [1], [0, 1, 2]]).toOption = none := by decide +kernel

end PhyModel.Props.C16
