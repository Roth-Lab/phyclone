import PhyModel.Proofs.EmissionProofs
/-! # C05 — emission likelihood grids implement the PyClone mutation model

Property theorems only; helper lemmas live in `Proofs/EmissionProofs.lean`.  The model
(`Model/Emission.lean`) works in the probability domain with exact rationals: a log-likelihood of
the code is the log of the model's rational, a sum of log grids is a product.  `lgamma`, `log`,
`log1p`, `exp` and IEEE rounding are outside the model and are covered by the numerical
correspondence check only. -/

open Finset

namespace PhyModel.Props.C05
open PhyModel.Emission

/-- **Genotype enumeration.**  For `major ≥ 1` the list built by the code's loop and membership
test is exactly the PyClone "major copy number" prior: the genotypes with `x = 1..major` variant
copies and the reference population at the normal copy number, followed by the genotype with one
variant copy and the reference population at the tumour copy number iff `normal ≠ major + minor`. -/
theorem genotypes_spec (major minor normal : ℕ) (eps : ℚ) (h : 1 ≤ major) :
    genotypes major minor normal eps =
      (List.range major).map (beforeG major minor normal eps) ++
        (if normal = major + minor then [] else [afterG major minor normal eps]) :=
  genotypes_eq major minor normal eps h

example : (genotypes 2 1 2 (1 / 8)).length = 3 := by
  rw [genotypes_spec 2 1 2 (1 / 8) (by decide)]; simp
example : (genotypes 1 1 2 (1 / 8)).length = 1 := by
  rw [genotypes_spec 1 1 2 (1 / 8) (by decide)]; simp

/-- the uniform genotype prior (`log_normalize` of zeros) is normalised -/
theorem prior_sum_one (major minor normal : ℕ) (eps : ℚ) (h : 1 ≤ major) :
    ((genotypes major minor normal eps).map fun _ =>
      1 / ((genotypes major minor normal eps).length : ℚ)).sum = 1 :=
  (lsum_const _ _).trans (mul_one_div_cancel
    (Nat.cast_pos.mpr (genotypes_length_pos major minor normal eps h)).ne')

example : (1 : ℕ) ≤ 3 := by decide

/-- **Expected allele fraction.**  For every enumerated genotype, tumour content in (0,1], cellular
prevalence in [0,1], error rate in (0,½), normal copy number ≥ 1: the normalising constant is
positive (no division by zero), the expected VAF lies in `[min(ε, μ_variant), 1-ε] ⊂ (0,1)` —
so the `p = 0` / `p = 1` branches of the binomial likelihood and the non-positive-parameter branch of
`log_beta` are unreachable from the loader — and at prevalence 0 it equals the error rate. -/
theorem vaf_in_unit (major minor normal : ℕ) (eps t f : ℚ) (hmaj : 1 ≤ major) (hnorm : 1 ≤ normal)
    (he0 : 0 < eps) (he1 : eps < 1 / 2) (ht0 : 0 < t) (ht1 : t ≤ 1) (hf0 : 0 ≤ f) (hf1 : f ≤ 1)
    (g : Genotype) (hg : g ∈ genotypes major minor normal eps) :
    0 < vafDen g t f ∧ 0 < expVaf g t f ∧ expVaf g t f ≤ 1 - eps ∧ expVaf g t f < 1
      ∧ expVaf g t 0 = eps := by
  obtain ⟨hN, hR, hV0, hV1, cR, cV⟩ := genotype_props hmaj hnorm (he1.trans (by norm_num)) hg
  have hb := expVaf_bounds hN hR hV1 he1 cR cV ht0 ht1 hf0 hf1
  refine ⟨vafDen_pos cR cV ht0 ht1 hf0 hf1, ?_, hb.2, hb.2.trans_lt (sub_lt_self 1 he0),
    expVaf_zero hN hR cR cV ht0 ht1⟩
  exact lt_of_lt_of_le (lt_min he0 hV0) hb.1

example : ∃ g, g ∈ genotypes 2 1 2 (1 / 8) := by
  rw [genotypes_spec 2 1 2 (1 / 8) (by decide)]
  exact ⟨_, List.mem_append_left _ (List.mem_map.mpr ⟨0, by simp, rfl⟩)⟩

/-- **Binomial pmf sums to one** over all alternate counts at fixed depth, for every `p`
(binomial theorem; includes the code's `p = 0` and `p = 1` branches). -/
theorem binom_pmf_sum_one (n : ℕ) (p : ℚ) : ∑ x ∈ range (n + 1), binomPmf n x p = 1 :=
  binomPmf_sum n p

/-- **Beta-binomial pmf sums to one** (Chu–Vandermonde in rising-factorial form), for all
parameters with `a + b > 0`; in particular for `a = vaf·s`, `b = s - a` with precision `s > 0`. -/
theorem betabinom_sum_one (n : ℕ) (a b : ℚ) (hab : 0 < a + b) :
    ∑ x ∈ range (n + 1), betaBinomPmf n x a b = 1 :=
  betaBinomPmf_sum n hab

example : (0 : ℚ) < 3 / 8 * 400 + (400 - 3 / 8 * 400) := by norm_num

/-- **The mixture sums to one.**  For every copy-number state with `major ≥ 1`, tumour content,
error rate, prevalence, both densities (precision `s > 0`), and every depth `n`: the likelihood of
the model summed over all alternate counts `0..n` at fixed total depth `n` is one. -/
theorem mixture_sum_one (d : Density) (hd : ∀ s, d = .betaBinomial s → 0 < s)
    (major minor normal : ℕ) (eps t f : ℚ) (hmaj : 1 ≤ major) (n : ℕ) :
    ∑ alt ∈ range (n + 1),
      sampleLik d { ref := n - alt, alt := alt, major := major, minor := minor, normal := normal,
                    eps := eps, t := t } f = 1 := by
  have hlen : ((genotypes major minor normal eps).length : ℚ) ≠ 0 :=
    (Nat.cast_pos.mpr (genotypes_length_pos major minor normal eps hmaj)).ne'
  -- sum over the counts first: every genotype's pmf sums to one, leaving the prior weights
  simp only [sampleLik_eq_lsum]
  rw [← lsum_finset_comm]
  refine (lsum_congr _ fun g _ => ?_).trans ((lsum_const _ _).trans (mul_one_div_cancel hlen))
  rw [← Finset.mul_sum, genoLik_sum_depth d hd n, mul_one]

example : ∀ s, Density.betaBinomial 400 = .betaBinomial s → 0 < s := by
  intro s h; cases h; norm_num

/-- **The likelihood is strictly positive** (its log is finite) for every valid input: copy numbers
with `major ≥ 1`, `normal ≥ 1`, tumour content in (0,1], error rate in (0,½), prevalence in [0,1],
any counts, both densities (precision `s > 0`). -/
theorem lik_pos (d : Density) (hd : ∀ s, d = .betaBinomial s → 0 < s) (o : Obs) (f : ℚ)
    (hmaj : 1 ≤ o.major) (hnorm : 1 ≤ o.normal) (he0 : 0 < o.eps) (he1 : o.eps < 1 / 2)
    (ht0 : 0 < o.t) (ht1 : o.t ≤ 1) (hf0 : 0 ≤ f) (hf1 : f ≤ 1) :
    0 < sampleLik d o f := by
  have hlen := genotypes_length_pos o.major o.minor o.normal o.eps hmaj
  rw [sampleLik_eq_lsum]
  apply lsum_pos _ (List.length_pos_iff.mp hlen)
  intro g hg
  obtain ⟨_, h0, _, h1, _⟩ :=
    vaf_in_unit o.major o.minor o.normal o.eps o.t f hmaj hnorm he0 he1 ht0 ht1 hf0 hf1 g hg
  exact qmul_pos (qone_div_pos (Nat.cast_pos.mpr hlen))
    (genoLik_pos d hd (Nat.le_add_left _ _) h0 h1)

example : (1 : ℕ) ≤ (⟨3, 2, 2, 1, 2, 1 / 8, 3 / 4⟩ : Obs).major ∧ (0 : ℚ) < 3 / 4 ∧ (3 / 4 : ℚ) ≤ 1 := by
  refine ⟨by decide, by norm_num, by norm_num⟩

/-- **Grid.**  Entry `(s, k)` of a mutation's grid is the mixture likelihood of its sample-`s`
observation at cellular prevalence `k / (G - 1)` (index 0 is prevalence 0, index `G-1` is 1). -/
theorem grid_point (d : Density) (G : ℕ) (rows : List Obs) (s k : ℕ) (hs : s < rows.length)
    (hk : k < G) :
    entry (mutGrid d G rows) s k = sampleLik d rows[s] ((k : ℚ) / ((G : ℚ) - 1)) := by
  rw [entry, mutGrid, List.getD_eq_getElem?_getD, List.getElem?_map, List.getElem?_eq_getElem hs,
    Option.map_some, Option.getD_some, obsGrid, getQ_map_range G _ k hk, ccf,
    Nat.cast_pred (Nat.zero_lt_of_lt hk)]

example : (1 : ℕ) < ([⟨3, 2, 2, 1, 2, 1 / 8, 3 / 4⟩, ⟨0, 0, 1, 1, 2, 1 / 8, 1⟩] : List Obs).length
    ∧ 100 < 101 := by decide

/-- **A pre-clustered data point is the (log-domain) sum of its members' grids**: every entry of
the cluster grid is the product of the members' entries. -/
theorem cluster_is_product (S G : ℕ) (members : List (List Vec))
    (hshape : ∀ m ∈ members, m.length = S ∧ ∀ r ∈ m, r.length = G)
    (s k : ℕ) (hs : s < S) (hk : k < G) :
    entry (clusterGrid S G members) s k = (members.map fun m => entry m s k).prod := by
  unfold clusterGrid
  rw [entry_foldl, entry_ones S G s k hs hk, one_mul]

example : ∀ m ∈ ([[[1 / 2, 1 / 3]], [[1 / 5, 1 / 7]]] : List (List Vec)),
    m.length = 1 ∧ ∀ r ∈ m, r.length = 2 := by
  decide

/-- **Outlier prior terms.**  With prior outlier probability `p ≠ 0` a data point of `size`
mutations carries `p^size` and `(1-p)^size` (`size · log p`, `size · log(1-p)` in the code); in all
cases (including the sentinel for `p = 0`) the terms are the per-mutation terms to the power `size`. -/
theorem outlier_terms (p : ℚ) (size : ℕ) :
    (p ≠ 0 → outlierTerms p size = (p ^ size, (1 - p) ^ size)) ∧
    outlierTerms p size = ((outlierTerms p 1).1 ^ size, (outlierTerms p 1).2 ^ size) := by
  unfold outlierTerms
  by_cases hp : p = 0
  · simp [hp]
  · simp [hp, qpow_eq]

example : outlierTerms (1 / 4) 3 = (1 / 64, 27 / 64) := by
  rw [(outlier_terms (1 / 4) 3).1 (by norm_num)]; norm_num

end PhyModel.Props.C05
