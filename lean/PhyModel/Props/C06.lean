import PhyModel.Proofs.StoreCache_Legal
/-! # C06 — incrementally maintained likelihoods equal a from-scratch rebuild

Property theorems on the store model of `phyclone.tree.Tree` (`Model/Store.lean`); helper lemmas
live in `Proofs/StoreCache_*.lean`.  `CacheOK dt s` (`Proofs/StoreInv.lean`): every clone's cached
`p` is the prior times its data and every cached `r` is `p ⊙ S(children's r)`, and the virtual root's
vector is the recomputed one.  The theorems: the empty tree satisfies it, every edit operation
preserves it, hence every store reached by any edit history over several live handles satisfies it
(`cacheOK_reachable`), and under it every cached vector and both joint densities are those of a tree
freshly built with the same shape and assignment (`rebuild_eq`).

Hypotheses beyond `CacheOK`: `WF` (C07) of the edited store where the recomputation path is located
through the name → index map (only its part `WFc`, `Proofs/StoreCache_Path.lean`); `DataNZ` and
`dp < dt.n` where a data point's grid is divided out.  `cacheOK_reachable_legal` joins this with C07's
`inv0_step`: for every history of `Legal` edits nothing about well-formedness is assumed.  The
floating-point clause of the property (rounding drift of repeated add/remove) is decided by the
correspondence check, not here. -/

namespace PhyModel.Props.C06
open PhyModel.Store PhyModel.Store.C06

/-- **C06, start.**  `Tree(grid_size)`.  No hypothesis. -/
theorem cacheOK_init (dt : Data) : CacheOK dt (Store.init dt) := Store.C06.cacheOK_init dt

/-! ### one theorem per operation -/

/-- `create_root_node(children, data)`, any children, any data.  Hypothesis: `CacheOK s` only (the
new clone is located by its fresh graph index at the head of the forest; the adopted top-level trees
keep their caches). -/
theorem cacheOK_createRootNode (dt : Data) (s s' : Store) (ch : List Int) (d : List ℕ) (nm : Int)
    (hc : CacheOK dt s) (h : s.createRootNode dt ch d = some (s', nm)) : CacheOK dt s' :=
  cacheOK_create dt s s' ch d nm hc h

/-- `create_root_node(children)` then `add_data_point_to_node(dp, new clone)`.  Hypothesis:
`CacheOK s` only (freshness of the index `1 + max index` is proved, not assumed; no `Dense`). -/
theorem cacheOK_createAdd (dt : Data) (s s1 s' : Store) (ch : List Int) (dp : ℕ) (nm : Int)
    (hc : CacheOK dt s) (h : s.createRootNode dt ch [] = some (s1, nm))
    (h2 : s1.addDataPointToNode dt dp nm = some s') : CacheOK dt s' :=
  Store.C06.cacheOK_createAdd dt s s1 s' ch dp nm hc h h2

/-- `add_data_point_to_node` (a clone or the outliers): own `r` multiplied in place, ancestors
recomputed from the parent up.  Hypotheses: `CacheOK s`, and of `WF s` the part `WFc` (unique graph
indices; the name → index map sends the parent's name to the parent's index). -/
theorem cacheOK_addDataPointToNode (dt : Data) (s s' : Store) (dp : ℕ) (node : Int) (hw : WF s)
    (hc : CacheOK dt s) (h : s.addDataPointToNode dt dp node = some s') : CacheOK dt s' :=
  cacheOK_addDp dt s s' dp node hw.toWFc hc h

/-- `remove_data_point_from_node`: `p` divided, `r` recomputed from the clone up.  Hypotheses:
`CacheOK s`; `DataNZ dt` and `dp < dt.n` (the divided values are non-zero); of `WF s` only that graph
indices are unique. -/
theorem cacheOK_removeDataPointFromNode (dt : Data) (hNZ : DataNZ dt) (s s' : Store) (dp : ℕ)
    (node : Int) (hdp : dp < dt.n) (hw : WF s) (hc : CacheOK dt s)
    (h : s.removeDataPointFromNode dt dp node = some s') : CacheOK dt s' :=
  cacheOK_rmDp dt hNZ s s' dp node hdp hw.idxs_nodup hc h

/-- `remove_data_point_from_outliers`: no cached vector depends on the outliers.  Hypothesis:
`CacheOK s`. -/
theorem cacheOK_removeDataPointFromOutliers (dt : Data) (s s' : Store) (dp : ℕ) (hc : CacheOK dt s)
    (h : s.removeDataPointFromOutliers dp = some s') : CacheOK dt s' :=
  cacheOK_rmOut dt s s' dp hc h

/-- `get_subtree`: the extracted tree (the source is unchanged up to `_data` keys).  Hypothesis:
`CacheOK s` (only its `p`-part is used for a proper subtree: every `r` is recomputed). -/
theorem cacheOK_getSubtree (dt : Data) (s s' : Store) (root : Option Int) (hc : CacheOK dt s)
    (h : s.getSubtree dt root = some s') : CacheOK dt s' :=
  cacheOK_getSub dt s s' root hc h

/-- `remove_subtree`, any argument `sub` (no `Legal` side condition): path from the former parent
recomputed.  Hypotheses: `CacheOK s`, and of `WF s` the part `WFc`. -/
theorem cacheOK_removeSubtree (dt : Data) (s sub s' : Store) (hw : WF s) (hc : CacheOK dt s)
    (h : s.removeSubtree dt sub = some s') : CacheOK dt s' :=
  cacheOK_rmSub dt s sub s' hw.toWFc hc h

/-- `add_subtree`: the grafted subtree's caches are in order, path from the graft point recomputed
(`_update_path_to_root` is given the graft point's name; after the relabelling that name resolves to
the graft point or to a grafted clone below it, and the recomputed path covers the graft point in
both cases).  Hypotheses: `CacheOK s`, `CacheOK sub`, and of `WF s` the part `WFc`; no `Full`, no
`Legal` side condition, nothing about the result. -/
theorem cacheOK_addSubtree (dt : Data) (s sub s' : Store) (parent : Option Int) (hw : WF s)
    (hc : CacheOK dt s) (hcs : CacheOK dt sub) (h : s.addSubtree dt sub parent = some s') :
    CacheOK dt s' :=
  cacheOK_addSub_in dt s sub s' parent hw.toWFc hc hcs h

/-- `relabel_nodes`: names only.  Hypothesis: `CacheOK s`. -/
theorem cacheOK_relabelNodes (dt : Data) (s : Store) (hc : CacheOK dt s) :
    CacheOK dt s.relabelNodes := cacheOK_relabel dt s hc

/-- `update`: every `r` recomputed.  Hypothesis: `CacheOK s` (its `p`-part). -/
theorem cacheOK_update (dt : Data) (s : Store) (hc : CacheOK dt s) : CacheOK dt (s.update dt) :=
  Store.C06.cacheOK_update dt s hc

/-- `from_dict(to_dict(t))` — in fact `from_dict` of any dictionary: every payload is rebuilt from its
`_data` list and every `r` recomputed.  No hypothesis on `s` at all. -/
theorem cacheOK_dictRoundTrip (dt : Data) (s s' : Store)
    (h : Store.fromDict dt s.toDict = some s') : CacheOK dt s' :=
  cacheOK_fromDict dt _ s' h

/-! ### histories -/

/-- **C06, one edit of a history** over several live handles (`copy`, `get_subtree`, dict round trip
create aliases that are then edited alternately): every handle's cache stays in order.  Hypotheses:
`CacheOK` and `WF` (only `WFc`) of every handle before the edit, `DataNZ dt`, `InRange dt op` (the
data indices the edit mentions lie in the data set; used by `rmDp`).  No `Legal`, `Full`, `Dense`. -/
theorem cacheOK_step (dt : Data) (hNZ : DataNZ dt) (sys sys' : Sys) (op : Op)
    (hwf : ∀ s ∈ sys, WF s) (hin : InRange dt op)
    (hc : ∀ s ∈ sys, CacheOK dt s) (h : step dt sys op = some sys') : ∀ s ∈ sys', CacheOK dt s :=
  cacheOK_step' dt hNZ sys sys' op (fun s hs => (hwf s hs).toWFc) hin hc h

/-- **C06, every history (the form the proof uses).**  From the empty tree, after any list of edits
of any length: every live handle's cache is in order, provided the part `WFc` of well-formedness
(unique graph indices, name → index exact on the clones) holds in every state an edit is applied to,
and removed data points lie inside the data set, whose likelihood values are non-zero. -/
theorem cacheOK_reachable_wfc (dt : Data) (hNZ : DataNZ dt) (ops : List Op) (sys : Sys)
    (hwf : Along dt (fun sy => ∀ s ∈ sy, WFc s) [Store.init dt] ops)
    (hin : ∀ op ∈ ops, InRange dt op) (h : run dt [Store.init dt] ops = some sys) :
    ∀ s ∈ sys, CacheOK dt s :=
  cacheOK_run dt hNZ ops _ sys hwf hin (List.forall_mem_singleton.2 (Store.C06.cacheOK_init dt)) h

/-- **C06, every history**, with C07's `WF` along the run as the imported hypothesis (discharged by
`wf_reachable` for the histories whose operations are `Legal`). -/
theorem cacheOK_reachable (dt : Data) (hNZ : DataNZ dt) (ops : List Op) (sys : Sys)
    (hwf : Along dt (fun sy => ∀ s ∈ sy, WF s) [Store.init dt] ops)
    (hin : ∀ op ∈ ops, InRange dt op) (h : run dt [Store.init dt] ops = some sys) :
    ∀ s ∈ sys, CacheOK dt s :=
  cacheOK_reachable_wfc dt hNZ ops sys
    (Along.mono (fun _ hsy s hs => (hsy s hs).toWFc) hwf) hin h

/-- the same with "along the run" spelt as "after every prefix of the history" (proper or not) -/
theorem cacheOK_reachable_of_prefixes (dt : Data) (hNZ : DataNZ dt) (ops : List Op) (sys : Sys)
    (hwf : ∀ pre post sys1, ops = pre ++ post → run dt [Store.init dt] pre = some sys1 →
      ∀ s ∈ sys1, WF s)
    (hin : ∀ op ∈ ops, InRange dt op) (h : run dt [Store.init dt] ops = some sys) :
    ∀ s ∈ sys, CacheOK dt s :=
  cacheOK_reachable dt hNZ ops sys (along_of_prefixes dt _ ops _ hwf) hin h

/-- **C06 joined with C07: every legal history.**  From the empty tree, after any list of edits of
any length in which every edit is `Legal` in the state it is applied to (`LegalRun`: a clone is
created only in a tree with dense names and with new data; `remove_subtree` is given a subtree
extracted from the same tree; a subtree is grafted only where its data are absent): every live
handle's cache is in order.  Well-formedness along the run is not a hypothesis: it follows from C07's
`inv0_step`.  The other hypotheses: `DataNZ dt` and `InRange` (data indices inside the data set). -/
theorem cacheOK_reachable_legal (dt : Data) (hNZ : DataNZ dt) (ops : List Op) (sys : Sys)
    (hleg : LegalRun dt [Store.init dt] ops) (hin : ∀ op ∈ ops, InRange dt op)
    (h : run dt [Store.init dt] ops = some sys) : ∀ s ∈ sys, CacheOK dt s :=
  cacheOK_run_legal dt hNZ ops _ sys (List.forall_mem_singleton.2 (inv_init dt)) hleg hin
    (List.forall_mem_singleton.2 (Store.C06.cacheOK_init dt)) h

/-! ### the cache against a rebuild -/

/-- **C06, rebuild.**  Under the cache invariant every clone's cached `p` / `r` is the from-scratch
`nodeP` / `nodeR` of `Model/Tree.lean` on the forest with the same shape and assignment, the virtual
root's vector is `rootR` of that forest, and both joint densities read from the cache
(`log_p_one`, `log_p`) equal `Density.pOne` / `Density.pMarg` of the freshly built tree. -/
theorem rebuild_eq (dt : Data) (α : ℚ) (s : Store) (h : CacheOK dt s) :
    (∀ x ∈ s.forest.nodesK,
      x.1.p = (List.range dt.S).map (fun sm => nodeP dt sm x.1.dps) ∧
      x.1.r = (List.range dt.S).map (fun sm => nodeR dt sm x.1.dps x.2.toDF)) ∧
    (s.forest.isNil = false → s.rootR = (List.range dt.S).map fun sm => rootR dt sm s.forest.toDF) ∧
    s.pOneC dt α = Density.pOne dt α s.forest.toDF s.outliers ∧
    s.pMargC dt α = Density.pMarg dt α s.forest.toDF s.outliers :=
  ⟨node_rebuild dt s.forest h.1, root_rebuild dt s h, pOneC_eq dt α s h, pMargC_eq dt α s h⟩

/-- **C06.**  After any edit history both joint densities equal those of a freshly built tree. -/
theorem reachable_rebuild (dt : Data) (hNZ : DataNZ dt) (α : ℚ) (ops : List Op) (sys : Sys)
    (hwf : Along dt (fun sy => ∀ s ∈ sy, WF s) [Store.init dt] ops)
    (hin : ∀ op ∈ ops, InRange dt op) (h : run dt [Store.init dt] ops = some sys) :
    ∀ s ∈ sys, s.pOneC dt α = Density.pOne dt α s.forest.toDF s.outliers ∧
      s.pMargC dt α = Density.pMarg dt α s.forest.toDF s.outliers := fun s hs =>
  have hc := cacheOK_reachable dt hNZ ops sys hwf hin h s hs
  ⟨pOneC_eq dt α s hc, pMargC_eq dt α s hc⟩

/-- the same for every legal history: nothing imported -/
theorem reachable_rebuild_legal (dt : Data) (hNZ : DataNZ dt) (α : ℚ) (ops : List Op) (sys : Sys)
    (hleg : LegalRun dt [Store.init dt] ops) (hin : ∀ op ∈ ops, InRange dt op)
    (h : run dt [Store.init dt] ops = some sys) :
    ∀ s ∈ sys, s.pOneC dt α = Density.pOne dt α s.forest.toDF s.outliers ∧
      s.pMargC dt α = Density.pMarg dt α s.forest.toDF s.outliers := fun s hs =>
  have hc := cacheOK_reachable_legal dt hNZ ops sys hleg hin h s hs
  ⟨pOneC_eq dt α s hc, pMargC_eq dt α s hc⟩

/-! ### non-vacuity

A two-sample, three-point data set and a history over four handles that uses every operation: a clone
is created above another, a data point is added below (path update from the parent), the subtree is
extracted, removed and grafted back (`add_subtree` below a clone), the data point is removed again,
the tree is copied, a clone is created above the copy's root by the compound op, relabelled, sent
through the dictionary form, recomputed; an outlier is added and removed on a fresh handle. -/

def exData : Data :=
  { G := 2, S := 2, op := [], sz := [],
    vals := [[[1/2, 1/3], [1, 1/2]], [[1/4, 1], [2/3, 1/5]], [[1, 1/5], [1/7, 1/2]]] }

def exOps : List Op :=
  [.create 0 [] [0], .create 0 [0] [1], .addDp 0 2 0, .getSub 0 (some 0), .rmSub 0 1,
   .addSub 0 1 (some 1), .rmDp 0 2 0, .copy 0, .createAdd 2 [1] 2, .relabel 0, .dictRT 0, .update 2,
   .fresh, .addDp 3 1 (-1), .rmOut 3 1]

/-- `CacheOK`, `WF` and `DataNZ` are decided through their Boolean forms, so that a conjunction of
hypotheses about one state is checked by a single evaluation of the history that leads to it -/
instance (dt : Data) (s : Store) : Decidable (CacheOK dt s) := decidable_of_iff _ (cacheOKB_iff dt s)
instance (s : Store) : Decidable (WF s) := decidable_of_iff _ (wfB_iff s)
instance (dt : Data) : Decidable (DataNZ dt) := decidable_of_iff _ (dataNZB_iff dt)

/-- the hypotheses of `cacheOK_reachable` (and so of `cacheOK_reachable_wfc`, `reachable_rebuild`)
hold on this history, which does not fail: `WF` in every state an edit is applied to -/
example : DataNZ exData ∧ Along exData (fun sy => ∀ s ∈ sy, WF s) [Store.init exData] exOps ∧
    (∀ op ∈ exOps, InRange exData op) ∧ (run exData [Store.init exData] exOps).isSome = true :=
  ⟨by decide +kernel, along_wf_of_bool _ _ _ (by decide +kernel), by decide +kernel,
    by decide +kernel⟩

/-- `cacheOK_reachable_legal`, `reachable_rebuild_legal`: every edit of the history is `Legal` where
it is applied -/
example : LegalRun exData [Store.init exData] exOps := legalRunB_sound _ _ _ (by decide +kernel)

/-- `cacheOK_reachable_wfc`: the weaker hypothesis, checked by its own Boolean -/
example : Along exData (fun sy => ∀ s ∈ sy, WFc s) [Store.init exData] exOps :=
  along_wfc_of_bool _ _ _ (by decide +kernel)

/-- the handles at the end of the history -/
def exSys : Sys := (run exData [Store.init exData] exOps).getD []

/-- ... and the conclusion, checked directly: four handles, three of them non-empty, all in order -/
example : exSys.length = 4 ∧ (exSys.map fun s => s.forest.numNodes) = [2, 1, 3, 0] ∧
    ∀ s ∈ exSys, CacheOK exData s := by
  decide +kernel

/-- `rebuild_eq` on these handles (its hypothesis holds by the example above): the density read from
the cache and the density of the freshly built tree are the same genuine numbers -/
example : (exSys.map fun s => s.pOneC exData 1) = [667/92160, 187/13440, 57/716800, 1] ∧
    (exSys.map fun s => Density.pOne exData 1 s.forest.toDF s.outliers)
      = [667/92160, 187/13440, 57/716800, 1] ∧
    (exSys.map fun s => s.pMargC exData 1) = [637/69120, 1/28, 14999/206438400, 1] ∧
    (exSys.map fun s => Density.pMarg exData 1 s.forest.toDF s.outliers)
      = [637/69120, 1/28, 14999/206438400, 1] := by
  decide +kernel

/-! #### one example per operation theorem: the state of the history just before the operation is
applied satisfies the theorem's hypotheses and the operation succeeds on it -/

/-- the handles after the first `k` edits -/
def exAt (k : ℕ) : Sys := (run exData [Store.init exData] (exOps.take k)).getD []
/-- handle `i` after the first `k` edits -/
def exSt (k i : ℕ) : Store := ((exAt k)[i]?).getD (Store.init exData)

private theorem wf_ex (s : Store) (h : s.wfB = true) : WF s := (wfB_iff s).1 h
private theorem ok_ex (s : Store) (h : s.cacheOKB exData = true) : CacheOK exData s :=
  (cacheOKB_iff exData s).1 h

/-- `cacheOK_createRootNode`: a clone above the single top-level clone -/
example : CacheOK exData (exSt 1 0) ∧ ((exSt 1 0).createRootNode exData [0] [1]).isSome = true := by
  decide +kernel
/-- `cacheOK_createAdd` -/
example : CacheOK exData (exSt 8 2) ∧ (((exSt 8 2).createRootNode exData [1] []).bind fun r =>
    r.1.addDataPointToNode exData 2 r.2).isSome = true := by
  decide +kernel
/-- `cacheOK_addDataPointToNode`: to a clone that has a parent (path update from the parent) -/
example : WF (exSt 2 0) ∧ CacheOK exData (exSt 2 0) ∧
    ((exSt 2 0).addDataPointToNode exData 2 0).isSome = true := by
  decide +kernel
/-- `cacheOK_removeDataPointFromNode`: from a grafted clone below another -/
example : DataNZ exData ∧ 2 < exData.n ∧ WF (exSt 6 0) ∧ CacheOK exData (exSt 6 0) ∧
    ((exSt 6 0).removeDataPointFromNode exData 2 0).isSome = true := by
  decide +kernel
/-- `cacheOK_removeDataPointFromOutliers` -/
example : CacheOK exData (exSt 14 3) ∧ ((exSt 14 3).removeDataPointFromOutliers 1).isSome = true := by
  decide +kernel
/-- `cacheOK_getSubtree` -/
example : CacheOK exData (exSt 3 0) ∧ ((exSt 3 0).getSubtree exData (some 0)).isSome = true := by
  decide +kernel
/-- `cacheOK_removeSubtree`: a proper subtree (the parent's path is recomputed) -/
example : WF (exSt 4 0) ∧ CacheOK exData (exSt 4 0) ∧ Store.keyEq (exSt 4 1) (exSt 4 0) = false ∧
    ((exSt 4 0).removeSubtree exData (exSt 4 1)).isSome = true := by
  decide +kernel
/-- `cacheOK_addSubtree`: below a clone -/
example : WF (exSt 5 0) ∧ CacheOK exData (exSt 5 0) ∧ CacheOK exData (exSt 5 1) ∧
    ((exSt 5 0).addSubtree exData (exSt 5 1) (some 1)).isSome = true := by
  decide +kernel
/-- `cacheOK_relabelNodes`, `cacheOK_update`: a two-level tree -/
example : CacheOK exData (exSt 9 0) ∧ (exSt 9 0).forest.numNodes = 2 := by
  decide +kernel
/-- `cacheOK_dictRoundTrip` -/
example : (Store.fromDict exData (exSt 10 0).toDict).isSome = true := by decide +kernel
/-- `cacheOK_step`: the data-point removal, two live handles -/
example : DataNZ exData ∧ (∀ s ∈ exAt 6, WF s) ∧ InRange exData (.rmDp 0 2 0) ∧
    (∀ s ∈ exAt 6, CacheOK exData s) ∧ (exAt 6).length = 2 ∧
    (step exData (exAt 6) (.rmDp 0 2 0)).isSome = true := by
  decide +kernel

end PhyModel.Props.C06
