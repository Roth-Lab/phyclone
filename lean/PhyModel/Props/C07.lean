import PhyModel.Proofs.StoreWF_Step
import PhyModel.Proofs.StoreWF_Labels
import PhyModel.Proofs.C07Example
import PhyModel.Proofs.StoreDataMove
import PhyModel.Proofs.GraphExample
import PhyModel.Proofs.GraphSim
/-! # C07 — every tree is a well-formed forest and no edit loses or duplicates data (store model)

Property theorems; the proofs are in `Proofs/StoreWF_*.lean` (one module per `Tree` method — the data-point
edits together in `StoreWF_Upd` — on top of the shared `StoreWF_AL`, `StoreWF_SF`, `StoreWF_SF2`, `StoreWF_Base`,
`StoreWF_Facts`; histories in `StoreWF_Step`).

`Store` (`Model/Store.lean`) mirrors `phyclone.tree.Tree` field by field; an operation returns `none`
where the Python raises.  The invariant is `Inv s := WF s ∧ Full s ∧ Aligned s` (`Proofs/StoreWF_Step.lean`; its parts in `Proofs/StoreInv.lean`):
`WF` — payload names and graph indices are unique, the maps name → index and index → name are exactly
the payload pairs, `_data` is keyed by clone names or the outlier key, lists each clone's payload set,
and no data point is listed twice; `Full` — every clone has its `_data` key; `Aligned` — payload list
and `_data` list agree including order.  `Legal sys op` holds the side conditions under which the
samplers call an edit (`Dense` names and fresh data for `create_root_node`, a subtree of the same
tree for `remove_subtree`, disjoint data for `add_subtree`).  Graph *shape* (one parent per clone,
reachability) is structural in the store model; it is proved for the primitive-level digraph model
`Model/Graph.lean` in the last section of this file ("graph shape").

The composed move theorems (`subtree_move_conserves`, `dp_move_conserves`) are proved in
`Proofs/StoreDataMove.lean`; `wfB ↔ WF` is in `Proofs/StoreWFB.lean`. -/

namespace PhyModel.Props.C07
open PhyModel.Store
-- in this file `Inv` is the store invariant, never Mathlib's class of that name
export PhyModel.Store (Inv)

/-- the data points a store holds (all values of `_data`, outliers included) -/
abbrev dataPts (s : Store) : List Nat := s.data.flatMap (·.2)

/-! ## 1. the empty tree -/

theorem wf_init (dt : Data) : Inv (Store.init dt) := inv_init' dt

/-! ## 2. one lemma per operation -/

/-- `create_root_node(children, data)` in a tree with dense names, non-empty fresh `data` -/
theorem wf_createRootNode {dt : Data} {s : Store} {ch : List Int} {data : List Nat} {r : Store × Int}
    (hs : Inv s) (hd : Dense s) (hne : data ≠ []) (hfresh : ∀ x ∈ data, x ∉ dataPts s)
    (h : s.createRootNode dt ch data = some r) : Inv r.1 ∧ Dense r.1 :=
  have h0 := create_inv h hs.inv0 hd hne hfresh
  ⟨⟨h0.1.1, h0.1.2, create_aligned h hs.1 hd hfresh hs.2.2⟩, h0.2⟩

/-- `create_root_node(children)` then `add_data_point_to_node(dp, new clone)` -/
theorem wf_createAdd {dt : Data} {s s' : Store} {ch : List Int} {dp : Nat} {r : Store × Int}
    (hs : Inv s) (hd : Dense s) (h1 : s.createRootNode dt ch [] = some r)
    (h2 : r.1.addDataPointToNode dt dp r.2 = some s') : Inv s' ∧ Dense s' :=
  have h0 := createAdd_inv h1 h2 hs.inv0 hd
  ⟨⟨h0.1.1, h0.1.2, createAdd_aligned h1 h2 hs.inv0 hd hs.2.2⟩, h0.2.1⟩

theorem wf_addDataPointToNode {dt : Data} {s s' : Store} {dp : Nat} {node : Int} (hs : Inv s)
    (h : s.addDataPointToNode dt dp node = some s') : Inv s' ∧ (Dense s → Dense s') :=
  have h0 := addDp_inv h hs.inv0
  ⟨⟨h0.1, h0.2, addDp_aligned h hs.1 hs.2.2⟩, addDp_dense h hs.1⟩

theorem wf_removeDataPointFromNode {dt : Data} {s s' : Store} {dp : Nat} {node : Int} (hs : Inv s)
    (h : s.removeDataPointFromNode dt dp node = some s') : Inv s' ∧ (Dense s → Dense s') :=
  have h0 := rmDp_inv h hs.inv0
  ⟨⟨h0.1, h0.2, rmDp_aligned h hs.1 hs.2.2⟩, rmDp_dense h hs.1⟩

theorem wf_removeDataPointFromOutliers {s s' : Store} {dp : Nat} (hs : Inv s)
    (h : s.removeDataPointFromOutliers dp = some s') : Inv s' ∧ (Dense s → Dense s') :=
  have h0 := rmOut_inv h hs.inv0
  ⟨⟨h0.1, h0.2, rmOut_aligned h hs.1 hs.2.2⟩, rmOut_dense h⟩

/-- `get_subtree`: the extracted tree is well formed, and the key-creating reads of the source tree
(`Store.touch`) leave the source as it was -/
theorem wf_getSubtree {dt : Data} {s r : Store} {root : Option Int} (hs : Inv s)
    (h : s.getSubtree dt root = some r) :
    Inv r ∧ (if root.isSome then s.touch r.nodes else s) = s := by
  have h0 := getSubtree_inv h hs.inv0
  refine ⟨⟨h0.1, h0.2, getSubtree_aligned h hs.1 hs.2.2⟩, ?_⟩
  cases root with
  | none => rfl
  | some name =>
    obtain ⟨_, _, _, _, _, _, _, hsub, _⟩ := getSubtree_shape h hs.1
    exact touch_names_of_full hs.2.1 hsub

/-- `remove_subtree(subtree)` for a subtree carrying the names of a subtree of the same tree -/
theorem wf_removeSubtree {dt : Data} {s sub s' : Store} (hs : Inv s) (hleg : RmLegal s sub)
    (h : s.removeSubtree dt sub = some s') : Inv s' :=
  have h0 := removeSubtree_inv h hs.inv0 hleg
  ⟨h0.1, h0.2, removeSubtree_aligned h hs.inv0 hleg hs.2.2⟩

/-- `add_subtree(subtree, parent)` where the tree does not hold the subtree's data points -/
theorem wf_addSubtree {dt : Data} {s sub s' : Store} {parent : Option Int} (hs : Inv s) (hsub : Inv sub)
    (hleg : ∀ d ∈ sub.forest.recs.flatMap (fun n => sub.dataOf n.name), d ∉ dataPts s)
    (h : s.addSubtree dt sub parent = some s') : Inv s' :=
  have h0 := addSubtree_inv h hs.inv0 hsub.1 hleg
  ⟨h0.1, h0.2, addSubtree_aligned h hs.inv0 hsub.1 hs.2.2 hsub.2.2⟩

/-- `relabel_nodes()` also makes the names dense -/
theorem wf_relabelNodes {s : Store} (hs : Inv s) : Inv s.relabelNodes ∧ Dense s.relabelNodes :=
  have h0 := relabelNodes_inv hs.1
  ⟨⟨h0.1.1, h0.1.2, relabelNodes_aligned hs.1 hs.2.2⟩, h0.2⟩

theorem wf_update (dt : Data) {s : Store} (hs : Inv s) :
    Inv (s.update dt) ∧ (Dense s → Dense (s.update dt)) :=
  ⟨⟨(update_inv dt s).1 hs.1, (update_inv dt s).2.1 hs.2.1, update_aligned dt hs.2.2⟩, (update_inv dt s).2.2⟩

/-- `Tree.from_dict(tree.to_dict())` -/
theorem wf_fromDict_toDict {dt : Data} {s s' : Store} (hs : Inv s)
    (h : Store.fromDict dt s.toDict = some s') : Inv s' ∧ (Dense s → Dense s') :=
  have h0 := fromDict_toDict_inv h hs.inv0
  ⟨⟨h0.1.1, h0.1.2, fromDict_toDict_aligned h hs.inv0⟩, h0.2.1⟩

/-- the `defaultdict` reads of `__eq__` / `get_subtree` create no key in a tree satisfying `Inv` -/
theorem wf_touch {s : Store} (hs : Inv s) : s.touch s.nodes = s := touch_nodes_of_full hs.2.1

/-! ## 3. every step, every history -/

/-- **C07 (step).**  A legal edit that does not raise leaves every live tree well formed. -/
theorem wf_step {dt : Data} {sys sys' : Sys} {op : Op} (hall : ∀ s ∈ sys, Inv s) (hleg : Legal sys op)
    (hstep : step dt sys op = some sys') : ∀ s ∈ sys', Inv s := inv_step hall hleg hstep

/-- **C07 (all histories).**  Every tree reachable from the empty tree by edits that are each legal in
the state where they are applied is well formed. -/
theorem wf_reachable {dt : Data} {ops : List Op} {sys : Sys} (hleg : LegalRun dt [Store.init dt] ops)
    (hrun : run dt [Store.init dt] ops = some sys) : ∀ s ∈ sys, Inv s :=
  inv_run (fun s hs => by simp at hs; exact hs ▸ inv_init' dt) hleg hrun

/-- density (the precondition of `create_root_node`) survives every step that neither extracts,
removes nor grafts clones -/
theorem dense_step {dt : Data} {sys sys' : Sys} {op : Op} (hall : ∀ s ∈ sys, Inv s)
    (hden : ∀ s ∈ sys, Dense s) (hleg : Legal sys op) (hk : op.keepsDense = true)
    (hstep : step dt sys op = some sys') : ∀ s ∈ sys', Dense s :=
  Store.dense_step hall hden hleg hk hstep

/-! ## 4. no edit loses or duplicates data -/

/-- **C07 (data conservation, per edit).**  What each edit does to the multiset of data points held in
`_data`: nothing (relabel, update, dictionary round trip; `copy` shares the store), `+ dp`
(add / create), `− dp` (remove), the clade of the extracted root (`get_subtree`), the `_data` entries of
the removed clones (`remove_subtree`), the clone-side data of the grafted tree (`add_subtree`: its
outliers are dropped, as in the code). -/
theorem data_conserved (dt : Data) {s : Store} (hs : Inv s) :
    (dataPts s.relabelNodes).Perm (dataPts s) ∧ dataPts (s.update dt) = dataPts s ∧
    (∀ s', Store.fromDict dt s.toDict = some s' → dataPts s' = dataPts s) ∧
    (∀ dp node s', s.addDataPointToNode dt dp node = some s' → (dataPts s').Perm (dp :: dataPts s)) ∧
    (∀ ch dp r s', Dense s → s.createRootNode dt ch [] = some r →
      r.1.addDataPointToNode dt dp r.2 = some s' → (dataPts s').Perm (dp :: dataPts s)) ∧
    (∀ ch d r, Dense s → (∀ x ∈ d, x ∉ dataPts s) → s.createRootNode dt ch d = some r →
      (dataPts r.1).Perm (d ++ dataPts s)) ∧
    (∀ dp node s', s.removeDataPointFromNode dt dp node = some s' → (dataPts s).Perm (dp :: dataPts s')) ∧
    (∀ dp s', s.removeDataPointFromOutliers dp = some s' → (dataPts s).Perm (dp :: dataPts s')) ∧
    (∀ name r, s.getSubtree dt (some name) = some r → dataPts r = r.nodes.flatMap s.dataOf) ∧
    (∀ sub s', RmLegal s sub → Store.keyEq sub s = false → s.removeSubtree dt sub = some s' →
      (dataPts s).Perm (sub.nodes.flatMap s.dataOf ++ dataPts s')) ∧
    (∀ sub parent s', WF sub → s.addSubtree dt sub parent = some s' →
      dataPts s' = dataPts s ++ sub.forest.recs.flatMap (fun n => sub.dataOf n.name)) :=
  ⟨relabelNodes_data hs.1, rfl, fun _ h => congrArg (fun d => d.flatMap (·.2)) (fromDict_toDict_inv h hs.inv0).2.2.1,
    fun _ _ _ h => addDp_data h hs.1, fun _ _ _ _ hd h1 h2 => (createAdd_inv h1 h2 hs.inv0 hd).2.2,
    fun _ _ _ hd hf h => create_data h hs.1 hd hf, fun _ _ _ h => rmDp_data h hs.1,
    fun _ _ h => rmOut_data h hs.1, fun _ _ h => getSubtree_data h hs.1,
    fun _ _ hl hne h => removeSubtree_data h hs.inv0 hl hne,
    fun _ _ _ hw h => addSubtree_data_eq h hs.inv0 hw⟩

/-- the tree returned by `get_subtree(name)` consists of the clade of `name`: its clones are the clone
registered under `name` and its descendants, with their `_data` lists, and it has no outliers -/
theorem subtree_is_clade {dt : Data} {s r : Store} {name : Int} (hs : Inv s)
    (h : s.getSubtree dt (some name) = some r) :
    ∃ i x, s.nodeIdx.lookup name = some i ∧ s.forest.findSub i = some x ∧ x.1.name = name ∧
      r.nodes = (SF.cons x.1 x.2 .nil).names ∧ r.roots = [name] ∧ (∀ nm ∈ r.nodes, nm ∈ s.nodes) ∧
      (∀ nm, r.dataOf nm = if nm ∈ r.nodes then s.dataOf nm else []) ∧ r.outliers = [] :=
  getSubtree_shape h hs.1

/-! ## 5. each data point sits in exactly one clone or in the outlier set -/

/-- **C07 (partition).**  Under `WF`, `Tree.labels` is a function on the data points of the store (no
data point is listed twice, hence it has exactly one name), and the clone-side view — payload
data-point sets plus the outlier list — is duplicate free as well. -/
theorem labels_partition {s : Store} (hw : WF s) :
    (s.labels.map (·.1)).Nodup ∧ (∀ d nm nm', (d, nm) ∈ s.labels → (d, nm') ∈ s.labels → nm = nm') ∧
    (s.outliers ++ s.forest.recs.flatMap (·.dps)).Nodup :=
  ⟨hw.labels_nodup, fun _ _ _ h1 h2 => hw.labels_unique h1 h2, hw.clone_view_nodup⟩

/-- **C07 (the views agree).**  The `_data` view and the clone-side view give the same assignment, and
the abstraction `abs` (tree up to names, indices and caches) holds exactly the labelled data points. -/
theorem abs_eq_labels {s : Store} (hw : WF s) :
    (∀ d nm, (d, nm) ∈ s.labels ↔
      (nm = outKey ∧ d ∈ s.outliers) ∨ ∃ n ∈ s.forest.recs, n.name = nm ∧ d ∈ n.dps) ∧
    (s.abs.2 ++ s.abs.1.all).Perm (s.labels.map (·.1)) :=
  ⟨fun _ _ => hw.mem_labels_iff, hw.abs_perm_labels⟩

/-! ## 6. non-vacuity: the hypotheses of each theorem hold on concrete non-trivial stores
(`Proofs/C07Example.lean`: `t1` one clone; `t2` clone 1 above clone 0 plus an outlier; `sub` the leaf
extracted from `t2`; `t3 = t2` without it; `ops` a 14-step history using every kind of edit) -/
section NonVacuity
open PhyModel.Store.C07Ex

example : Inv (Store.init dt) := wf_init dt
-- wf_createRootNode, dense_step
example : Inv t1 ∧ Dense t1 ∧ [1] ≠ [] ∧ (∀ x ∈ [1], x ∉ dataPts t1) ∧
    (t1.createRootNode dt [0] [1]).isSome = true := by decide +kernel
example : (∀ s ∈ [t1], Inv s ∧ Dense s) ∧ (Op.create 0 [0] [1]).keepsDense = true ∧
    (step dt [t1] (.create 0 [0] [1])).isSome = true := by decide +kernel
example : Legal [t1] (.create 0 [0] [1]) := legal_of_dec (by decide +kernel)
-- wf_createAdd
example : Inv t1 ∧ Dense t1 ∧
    ((t1.createRootNode dt [0] []).bind fun r => r.1.addDataPointToNode dt 1 r.2).isSome = true := by
  decide +kernel
-- wf_addDataPointToNode, wf_removeDataPointFromNode, wf_removeDataPointFromOutliers
example : Inv t2 ∧ (t2.addDataPointToNode dt 3 0).isSome = true ∧
    (t2.removeDataPointFromNode dt 0 0).isSome = true ∧ (t2.removeDataPointFromOutliers 2).isSome = true := by
  decide +kernel
-- wf_getSubtree, subtree_is_clade, wf_touch
example : Inv t2 ∧ (t2.getSubtree dt (some 0)).isSome = true ∧ t2.numNodes = 2 := by decide +kernel
-- wf_removeSubtree (the non-degenerate branch)
example : Inv t2 ∧ Store.keyEq sub t2 = false ∧ (t2.removeSubtree dt sub).isSome = true := by decide +kernel
example : RmLegal t2 sub := fun hne => rmLegal_of_dec (by decide +kernel) hne
-- wf_addSubtree
example : Inv t3 ∧ Inv sub ∧ (∀ d ∈ sub.forest.recs.flatMap (fun n => sub.dataOf n.name), d ∉ dataPts t3) ∧
    (t3.addSubtree dt sub (some 1)).isSome = true := by decide +kernel
-- wf_relabelNodes (on a tree whose names are not dense), wf_update, wf_fromDict_toDict
example : Inv t3 ∧ ¬ Dense t3 := by decide +kernel
example : Inv t2 ∧ (Store.fromDict dt t2.toDict).isSome = true := by decide +kernel
-- wf_step
example : (∀ s ∈ [t2, sub], Inv s) ∧ (step dt [t2, sub] (.rmSub 0 1)).isSome = true := by decide +kernel
example : Legal [t2, sub] (.rmSub 0 1) := legal_of_dec (by decide +kernel)
-- wf_reachable: a legal history through every kind of edit, ending with four live trees
example : LegalRun dt [Store.init dt] ops := legalRun_of_B (by decide +kernel)
example : ((run dt [Store.init dt] ops).map (·.length)) = some 4 := by decide +kernel
-- data_conserved (the edits succeed on `t2`, see above), labels_partition, abs_eq_labels
example : WF t2 ∧ t2.labels = [(0, 0), (1, 1), (2, -1)] := by decide +kernel

end NonVacuity

/-! ## composed moves conserve the data (section proved on top of the per-operation accounting) -/

/-- **C07, subtree move** (`get_subtree`, `remove_subtree`, `add_subtree` anywhere): the multiset of
data points held by the tree, outliers included, is unchanged.  Hypotheses: `WF s` and `Full s` of the
tree before the move only; the branch of `remove_subtree` that re-initialises the tree (the extracted
subtree is the whole tree) is included. -/
theorem subtree_move_conserves (dt : Data) (s sub s1 s2 : Store) (name : Int) (parent : Option Int)
    (hs : WF s ∧ Full s) (hg : s.getSubtree dt (some name) = some sub)
    (hr : s.removeSubtree dt sub = some s1) (ha : s1.addSubtree dt sub parent = some s2) :
    (s2.data.flatMap (·.2)).Perm (s.data.flatMap (·.2)) :=
  Store.subtree_move_conserves hs hg hr ha

/-- **C07, data-point move** (`remove_data_point_from_node` then `add_data_point_to_node`, clone or
outliers on either side): the multiset of data points is unchanged.  Hypotheses: `WF s`, `Full s`. -/
theorem dp_move_conserves (dt : Data) (s s1 s2 : Store) (dp : ℕ) (a b : Int) (hs : WF s ∧ Full s)
    (hr : s.removeDataPointFromNode dt dp a = some s1)
    (ha : s1.addDataPointToNode dt dp b = some s2) :
    (s2.data.flatMap (·.2)).Perm (s.data.flatMap (·.2)) :=
  Store.dp_move_conserves hs hr ha

/-! ### non-vacuity -/

private theorem some_getD {α} (o : Option α) (d : α) (h : o.isSome = true) : o = some (o.getD d) := by
  cases o with
  | none => cases h
  | some a => rfl

/-- In the examples below the results of the calls are named by `getD`, so a conjunct
`o = some (o.getD d)` only asks for `o.isSome`; with the conjuncts brought to that form the whole
conjunction is evaluated in one go, and each store is computed once. -/
private theorem and_some_getD {α} {o : Option α} {d : α} {T : Prop} (h : o.isSome = true ∧ T) :
    o = some (o.getD d) ∧ T := ⟨some_getD o d h.1, h.2⟩

def exData : Data :=
  { G := 2, S := 1, op := [], sz := [], vals := [[[1/2, 1/3]], [[1/4, 1]], [[1, 1/5]], [[1/3, 1/7]]] }

/-- clone 1 above clone 0, a second top-level clone 2, one outlier -/
def exS : Store :=
  ((run exData [Store.init exData]
    [.create 0 [] [0], .create 0 [0] [1], .addDp 0 2 0, .create 0 [] [3], .addDp 0 4 (-1)]).getD
      []).headD (Store.init exData)

def exSub : Store := (exS.getSubtree exData (some 0)).getD (Store.init exData)
def exS1 : Store := (exS.removeSubtree exData exSub).getD (Store.init exData)
def exS2 : Store := (exS1.addSubtree exData exSub (some 2)).getD (Store.init exData)

/-- the subtree below clone 0 is moved from below clone 1 to below clone 2 -/
example : (WF exS ∧ Full exS) ∧ exS.getSubtree exData (some 0) = some exSub ∧
    exS.removeSubtree exData exSub = some exS1 ∧ exS1.addSubtree exData exSub (some 2) = some exS2 ∧
    Store.keyEq exSub exS = false ∧
    exS.data = [(0, [0, 2]), (1, [1]), (2, [3]), (-1, [4])] ∧
    exS2.data = [(1, [1]), (2, [3]), (-1, [4]), (0, [0, 2])] :=
  .imp_right (fun h => and_some_getD (.imp_right (fun h => and_some_getD (.imp_right and_some_getD h)) h))
    (by decide +kernel)

/-- the whole tree is extracted: `remove_subtree` re-initialises, the graft restores the data -/
def exT : Store :=
  ((run exData [Store.init exData]
    [.create 0 [] [0], .create 0 [0] [1], .addDp 0 2 0]).getD []).headD (Store.init exData)
def exTSub : Store := (exT.getSubtree exData (some 1)).getD (Store.init exData)
def exT1 : Store := (exT.removeSubtree exData exTSub).getD (Store.init exData)
def exT2 : Store := (exT1.addSubtree exData exTSub none).getD (Store.init exData)

example : (WF exT ∧ Full exT) ∧ exT.getSubtree exData (some 1) = some exTSub ∧
    exT.removeSubtree exData exTSub = some exT1 ∧ exT1.addSubtree exData exTSub none = some exT2 ∧
    Store.keyEq exTSub exT = true ∧ exT1.data = [] ∧
    exT.data = [(0, [0, 2]), (1, [1])] ∧ exT2.data = [(1, [1]), (0, [0, 2])] :=
  .imp_right (fun h => and_some_getD (.imp_right (fun h => and_some_getD (.imp_right and_some_getD h)) h))
    (by decide +kernel)

def exM1 : Store := (exS.removeDataPointFromNode exData 2 0).getD (Store.init exData)
def exM2 : Store := (exM1.addDataPointToNode exData 2 (-1)).getD (Store.init exData)

/-- data point 2 is moved from clone 0 to the outliers -/
example : (WF exS ∧ Full exS) ∧ exS.removeDataPointFromNode exData 2 0 = some exM1 ∧
    exM1.addDataPointToNode exData 2 (-1) = some exM2 ∧
    exM2.data = [(0, [0]), (1, [1]), (2, [3]), (-1, [4, 2])] :=
  .imp_right (fun h => and_some_getD (.imp_right and_some_getD h)) (by decide +kernel)

/-! ## graph shape: each clone has exactly one parent and is reachable from the virtual root

`Model/Graph.lean` models the rustworkx graph inside `Tree` as live indices + edge list (shape is *not*
structural there) and every shape-changing `Tree` method as the sequence of `PyDiGraph` calls `tree.py`
makes, with the indices rustworkx hands out as parameters.  `IsForest g` (`Proofs/GraphInv.lean`): 0 is
live and is no edge's target, edges join live nodes, every other live node occurs exactly once as a
target in the edge list, every live node is reachable from 0. -/
section GraphShape
open PhyModel.Graph (DG IsForest Reach GOp GSys GLegal gInit gStep gRun gCreateRootNode gGetSubtree
  gRemoveSubtree gAddSubtree gFromDict gCopy isForestB)

/-- `Tree(grid_size)` -/
theorem forest_init : IsForest gInit := Graph.isForest_init

/-- `create_root_node`: `add_node`, `add_edge(root, new)`, per child `remove_edge(root, child)`;
`add_edge(new, child)`.  Success of the primitives implies that `new` was not in use and that the children
are distinct top-level clones; that none of them is the node being created is the call sites' -/
theorem forest_createRootNode {g g' : DG} {new : ℕ} {kids : List ℕ} (hf : IsForest g)
    (hk : ∀ c ∈ kids, c ≠ new) (h : gCreateRootNode g new kids = some g') : IsForest g' :=
  Graph.forest_createRootNode hf hk h

/-- `get_subtree`: `subgraph([r] + descendants(r))` composed under a fresh root, for any numbering
(`ρ₁` of the subgraph, `ρ₂` of the composition) that the model accepts (no collisions) -/
theorem forest_getSubtree {g g' : DG} {r : ℕ} {ρ₁ ρ₂ : ℕ → ℕ} (hf : IsForest g)
    (h : gGetSubtree g r ρ₁ ρ₂ = some g') : IsForest g' := Graph.forest_getSubtree hf h

/-- `remove_subtree`: `remove_nodes_from(descendants(r) + [r])` for a clone `r` -/
theorem forest_removeSubtree {g g' : DG} {r : ℕ} (hf : IsForest g) (hr : r ≠ 0)
    (h : gRemoveSubtree g r = some g') : IsForest g' := Graph.forest_removeSubtree hf hr h

/-- `add_subtree`: `compose` with an edge parent → copy of the grafted root, then
`remove_node_retain_edges` of that copy -/
theorem forest_addSubtree {g sub g' : DG} {p : ℕ} {ρ : ℕ → ℕ} (hf : IsForest g) (hs : IsForest sub)
    (h : gAddSubtree g sub p ρ = some g') : IsForest g' := Graph.forest_addSubtree hf hs h

/-- `from_dict`: `extend_from_edge_list`, then removal of the indices `node_idx_rev` does not list,
rebuilds the forest the dictionary describes (same live set, same edge list) -/
theorem forest_fromDict {edges : List (ℕ × ℕ)} {live : List ℕ} (hf : IsForest { nodes := live, edges := edges }) :
    IsForest (gFromDict edges live) ∧ (gFromDict edges live).nodes.Perm live ∧
      (gFromDict edges live).edges = edges :=
  ⟨Graph.forest_fromDict hf, Graph.gFromDict_spec hf⟩

/-- **C07 (graph shape, step).**  A graph-level edit that does not raise leaves every live graph a rooted
forest. -/
theorem forest_step {sys sys' : GSys} {op : GOp} (hall : ∀ g ∈ sys, IsForest g) (hleg : GLegal op)
    (hstep : gStep sys op = some sys') : ∀ g ∈ sys', IsForest g := Graph.forest_step hall hleg hstep

/-- **C07 (graph shape, all histories).** -/
theorem forest_reachable {ops : List GOp} {sys : GSys} (hleg : ∀ op ∈ ops, GLegal op)
    (h : gRun [gInit] ops = some sys) : ∀ g ∈ sys, IsForest g := Graph.forest_reachable hleg h

/-- **the operations do not raise at the call sites' preconditions** (total correctness of `forest_*`): the
index handed out is free and the children are distinct top-level clones (`create_root_node`); the subtree
root is live and the numberings do not collide (`get_subtree`, `remove_subtree`); the parent is live and
the copies' indices are free and distinct (`add_subtree`) -/
theorem forest_ops_total {g : DG} (hf : IsForest g) :
    (∀ new kids, new ∉ g.nodes → kids.Nodup → (∀ c ∈ kids, (0, c) ∈ g.edges) →
      ∃ g', gCreateRootNode g new kids = some g' ∧ IsForest g') ∧
    (∀ r, r ∈ g.nodes → r ≠ 0 → ∃ g', gRemoveSubtree g r = some g' ∧ IsForest g') ∧
    (∀ r (ρ₁ ρ₂ : ℕ → ℕ), r ∈ g.nodes → (∀ a ∈ g.nodes, ∀ b ∈ g.nodes, ρ₂ (ρ₁ a) = ρ₂ (ρ₁ b) → a = b) →
      (∀ a ∈ g.nodes, ρ₂ (ρ₁ a) ≠ 0) → ∃ g', gGetSubtree g r ρ₁ ρ₂ = some g' ∧ IsForest g') ∧
    (∀ sub p (ρ : ℕ → ℕ), IsForest sub → p ∈ g.nodes → (sub.nodes.map ρ).Nodup → (∀ v ∈ sub.nodes, ρ v ∉ g.nodes) →
      ∃ g', gAddSubtree g sub p ρ = some g' ∧ IsForest g') := by
  refine ⟨fun new kids hnew hnd hk => ?_, fun r hr hr0 => ?_, fun r ρ₁ ρ₂ hr hinj hne => ?_,
    fun sub p ρ hs hp hn hfresh => ?_⟩
  · have hk' : ∀ c ∈ kids, c ∈ g.nodes ∧ (0, c) ∈ g.edges := fun c hc => ⟨(hf.edges_live _ (hk c hc)).2, hk c hc⟩
    obtain ⟨g', hg'⟩ := Option.isSome_iff_exists.1 (Graph.gCreateRootNode_isSome hnew hf.root_live hnd hk')
    exact ⟨g', hg', Graph.forest_createRootNode hf (fun c hc e => hnew (by rw [← e]; exact (hk' c hc).1)) hg'⟩
  · obtain ⟨g', hg'⟩ := Option.isSome_iff_exists.1 (Graph.gRemoveSubtree_isSome hr)
    exact ⟨g', hg', Graph.forest_removeSubtree hf hr0 hg'⟩
  · obtain ⟨g', hg'⟩ := Option.isSome_iff_exists.1 (Graph.gGetSubtree_isSome (ρ₁ := ρ₁) (ρ₂ := ρ₂) hr
      (fun a ha b hb _ _ h => hinj a ha b hb h) (fun a ha _ => hne a ha) hf.nodes_nodup)
    exact ⟨g', hg', Graph.forest_getSubtree hf hg'⟩
  · obtain ⟨g', hg'⟩ := Option.isSome_iff_exists.1 (Graph.gAddSubtree_isSome hp hs.root_live hn hfresh)
    exact ⟨g', hg', Graph.forest_addSubtree hf hs hg'⟩

/-- what the invariant buys: the parent is unique, and there is no cycle (no node reaches itself along a
non-empty path) -/
theorem forest_parent_unique_acyclic {g : DG} (hf : IsForest g) :
    (∀ p q v, (p, v) ∈ g.edges → (q, v) ∈ g.edges → p = q) ∧
    (∀ v x, v ∈ g.nodes → (v, x) ∈ g.edges → ¬ Reach g x v) :=
  ⟨fun _ _ _ hp hq => hf.parent_unique hp hq, fun _ _ hv he => hf.acyclic hv he⟩

/-- the Boolean the driver evaluates on the model graph is the invariant -/
theorem isForestB_iff {g : DG} : isForestB g = true ↔ IsForest g := Graph.isForestB_iff

/-! ### non-vacuity (`Proofs/GraphExample.lean`) -/
section
open PhyModel.Graph.Ex

example : IsForest g4 ∧ (∀ c ∈ [3, 1], c ≠ 5) ∧ gCreateRootNode g4 5 [3, 1] = none ∧
    gCreateRootNode g4 5 [4] = some { nodes := [0, 1, 2, 3, 4, 5], edges := [(2, 1), (4, 3), (4, 2), (0, 5), (5, 4)] } := by
  decide +kernel
-- a child that is the node being created gives a self loop: the hypothesis of `forest_createRootNode` is needed
example : ((gCreateRootNode g4 5 [5]).map isForestB) = some false := by decide +kernel
example : IsForest g4 ∧ gGetSubtree g4 2 (· - 1) (· + 1) = some { nodes := [0, 1, 2], edges := [(2, 1), (0, 2)] } := by
  decide +kernel
example : IsForest g4 ∧ (2 : ℕ) ≠ 0 ∧ gRemoveSubtree g4 2 = some { nodes := [0, 3, 4], edges := [(0, 4), (4, 3)] } := by
  decide +kernel
example : IsForest g4 ∧ IsForest g2 ∧ gAddSubtree g4 g2 3 (· + 10) =
    some { nodes := [0, 1, 2, 3, 4, 11, 12], edges := [(2, 1), (0, 4), (4, 3), (4, 2), (12, 11), (3, 12)] } := by
  decide +kernel
example : IsForest g5 ∧ gFromDict g5.edges g5.nodes = { nodes := [0, 2, 4, 7], edges := [(0, 4), (4, 7), (4, 2)] } := by
  decide +kernel
-- forest_step, forest_reachable: a history through every kind of graph-level edit
example : (∀ op ∈ ops, GLegal op) ∧ gRun [gInit] ops =
    some [{ nodes := [0, 3, 4, 2, 1], edges := [(0, 4), (4, 3), (1, 2), (3, 1)] }, gInit, g4, gInit] := by
  decide +kernel

end

/-! ### the structural store model is a correct abstraction of the primitive-level manipulations

`graphOf f` (`Proofs/GraphOf.lean`): live set `0 :: f.idxs`, edge list `Store.edgesOf 0 f` (what `to_dict`
stores).  For each shape-changing structural operation of `Model/Store.lean`, the graph-level operation
applied to `graphOf f` with the indices the structural operation chose succeeds and yields the live set and
the edge multiset of `graphOf` of the structural result. -/
section Link
open PhyModel.Graph (graphOf mapIdx reindexMap graphsOf GEquiv)

/-- the shape facts that hold by construction in `SF` are theorems about its graph -/
theorem graph_of_forest {f : SF} (hn : f.idxs.Nodup) (h0 : 0 ∉ f.idxs) : IsForest (graphOf f) :=
  Graph.isForest_graphOf hn h0

/-- `createRootNode`: `takeRoots` / `cons` -/
theorem graph_createRootNode {f : SF} {n1 : NodeRec} {cis : List ℕ} (hn : f.idxs.Nodup) (h0 : 0 ∉ f.idxs)
    (hnew : n1.idx ∉ f.idxs) (hnew0 : n1.idx ≠ 0) (hlen : (f.takeRoots cis).1.rootRecs.length = cis.length) :
    ∃ g', gCreateRootNode (graphOf f) n1.idx cis = some g' ∧
      g'.nodes.Perm (graphOf (.cons n1 (f.takeRoots cis).1 (f.takeRoots cis).2)).nodes ∧
      g'.edges.Perm (graphOf (.cons n1 (f.takeRoots cis).1 (f.takeRoots cis).2)).edges :=
  Graph.graph_createRootNode hn h0 hnew hnew0 hlen

/-- the same for the whole `Store.createRootNode` (fresh index, children looked up in `_node_indices`,
`_update_path_to_root` leaves the graph alone) -/
theorem graph_store_createRootNode {dt : Data} {s : Store} {ch : List Int} {data : List ℕ} {r : Store × Int}
    (hwf : WF s) (h : s.createRootNode dt ch data = some r) :
    ∃ cis g', ch.mapM (fun c => (alSet s.nodeIdx (s.numNodes : Int) s.fresh).lookup c) = some cis ∧
      gCreateRootNode (graphOf s.forest) s.fresh cis = some g' ∧
      g'.nodes.Perm (graphOf r.1.forest).nodes ∧ g'.edges.Perm (graphOf r.1.forest).edges :=
  Graph.graph_store_createRootNode hwf h

/-- `removeSub` (and: what is reachable from a clone in the graph is its structural subtree) -/
theorem graph_removeSub {f : SF} {i : ℕ} (hn : f.idxs.Nodup) (h0 : 0 ∉ f.idxs) (hi : i ∈ f.idxs) :
    (∀ x, f.findSub i = some x → ∀ v, Reach (graphOf f) i v ↔ v = i ∨ v ∈ x.2.idxs) ∧
    ∃ g', gRemoveSubtree (graphOf f) i = some g' ∧
      g'.nodes.Perm (graphOf (f.removeSub i)).nodes ∧ g'.edges.Perm (graphOf (f.removeSub i)).edges :=
  ⟨fun _ hx v => Graph.reach_graphOf_iff hn h0 hx v, Graph.graph_removeSub hn h0 hi⟩

/-- `getSubtree`: `findSub`, for any numbering of `subgraph` / `compose` that is injective on the subtree and
avoids 0 — in particular (second part) the one `reindex … 1` chooses -/
theorem graph_getSubtree {f : SF} {i : ℕ} {x : NodeRec × SF} (hn : f.idxs.Nodup) (h0 : 0 ∉ f.idxs)
    (hx : f.findSub i = some x) :
    (∀ ρ₁ ρ₂ : ℕ → ℕ, (∀ a ∈ i :: x.2.idxs, ∀ b ∈ i :: x.2.idxs, ρ₂ (ρ₁ a) = ρ₂ (ρ₁ b) → a = b) →
      (∀ a ∈ i :: x.2.idxs, ρ₂ (ρ₁ a) ≠ 0) →
      ∃ g', gGetSubtree (graphOf f) i ρ₁ ρ₂ = some g' ∧
        g'.nodes.Perm (graphOf (mapIdx (fun a => ρ₂ (ρ₁ a)) (.cons x.1 x.2 .nil))).nodes ∧
        g'.edges.Perm (graphOf (mapIdx (fun a => ρ₂ (ρ₁ a)) (.cons x.1 x.2 .nil))).edges) ∧
    ∃ g', gGetSubtree (graphOf f) i id (reindexMap (.cons x.1 x.2 .nil) 1) = some g' ∧
      g'.nodes.Perm (graphOf (Store.reindex (.cons x.1 x.2 .nil) 1).1).nodes ∧
      g'.edges.Perm (graphOf (Store.reindex (.cons x.1 x.2 .nil) 1).1).edges :=
  ⟨fun _ _ hinj hne0 => Graph.graph_getSubtree hn h0 hx hinj hne0, Graph.graph_getSubtree_struct hn h0 hx⟩

/-- `addSubtree`: `append` (parent = virtual root) / `graftAt` of the re-indexed subtree, with the renaming
`reindex … c` applies (`reindexMap`; the copy of the grafted tree's root gets one more unused index) -/
theorem graph_addSubtree {f sf : SF} {p c : ℕ} (hn : f.idxs.Nodup) (h0 : 0 ∉ f.idxs) (hsn : sf.idxs.Nodup)
    (hs0 : 0 ∉ sf.idxs) (hp : p = 0 ∨ p ∈ f.idxs) (hc : ∀ a ∈ f.idxs, a < c) (hc0 : 0 < c) :
    ∃ g', gAddSubtree (graphOf f) (graphOf sf) p (reindexMap sf c) = some g' ∧
      g'.nodes.Perm (graphOf (if p = 0 then (Store.reindex sf c).1.append f
        else SF.graftAt p (Store.reindex sf c).1 f)).nodes ∧
      g'.edges.Perm (graphOf (if p = 0 then (Store.reindex sf c).1.append f
        else SF.graftAt p (Store.reindex sf c).1 f)).edges :=
  Graph.graph_addSubtree_struct hn h0 hsn hs0 hp hc hc0

/-- `fromDict`: `buildSF` on the dictionary form of a well-formed store -/
theorem graph_fromDict {dt : Data} {s s' : Store} (hs : WF s ∧ Full s) (h : Store.fromDict dt s.toDict = some s') :
    (gFromDict s.toDict.edges (0 :: s.toDict.nodeIdxRev.map (·.1))).nodes.Perm (graphOf s'.forest).nodes ∧
      (gFromDict s.toDict.edges (0 :: s.toDict.nodeIdxRev.map (·.1))).edges.Perm (graphOf s'.forest).edges :=
  Graph.graph_fromDict hs h

/-- **every step of the store model is simulated by graph-level operations.**  `graphsOf sys` = the graphs of
the live stores; `GEquiv` = same live set, same edge multiset.  Whatever edit `Store.step` performs on well-formed
stores, there are legal graph-level operations (none for the data-point edits, `relabel`, `update`; one otherwise,
with the indices the structural operation chose) that do not raise on `graphsOf sys` and end in the graphs of
the new stores — so along every store history the structural forest is a correct abstraction of the
primitive-level graph, and (`forest_step`) the graphs stay rooted forests. -/
theorem graph_step {dt : Data} {sys sys' : Sys} {op : Op} (hall : ∀ s ∈ sys, WF s ∧ Full s)
    (hstep : step dt sys op = some sys') :
    (∃ gops : List GOp, (∀ o ∈ gops, GLegal o) ∧ ∃ gs', gRun (graphsOf sys) gops = some gs' ∧
      List.Forall₂ GEquiv gs' (graphsOf sys')) ∧
    ((∀ g ∈ graphsOf sys, IsForest g) → ∀ g ∈ graphsOf sys', IsForest g) :=
  ⟨Graph.graph_step hall hstep, Graph.graph_step_forest hall hstep⟩

/-! non-vacuity: on the store `t2` of section 6 (clone 1 above clone 0); further concrete instances with the
graphs written out are at the end of `Proofs/GraphOfCreate`, `GraphOfRemove`, `GraphOfGetSub`, `GraphOfGraft` -/
section
open PhyModel.Store.C07Ex

example : t2.forest.idxs.Nodup ∧ 0 ∉ t2.forest.idxs ∧ graphOf t2.forest = { nodes := [0, 2, 1], edges := [(0, 2), (2, 1)] } ∧
    (t2.forest.findSub 2).isSome = true ∧ 1 ∈ t2.forest.idxs ∧
    gRemoveSubtree (graphOf t2.forest) 1 = some { nodes := [0, 2], edges := [(0, 2)] } ∧
    graphOf (t2.forest.removeSub 1) = { nodes := [0, 2], edges := [(0, 2)] } := by decide +kernel
example : WF t2 ∧ Full t2 ∧ (t2.createRootNode dt [1] [3]).isSome = true ∧ (Store.fromDict dt t2.toDict).isSome = true ∧
    (∀ a ∈ t2.forest.idxs, a < t2.fresh) ∧ 0 < t2.fresh ∧ sub.forest.idxs.Nodup ∧ 0 ∉ sub.forest.idxs ∧
    sub.forest.idxs = [1] := by decide +kernel
-- graph_step: the hypotheses hold on `[t2, sub]` (`Inv` ⊇ `WF ∧ Full`, section 6) and `.rmSub 0 1` does not raise
example : (step dt [t2, sub] (.rmSub 0 1)).isSome = true ∧ graphsOf [t2, sub] =
    [{ nodes := [0, 2, 1], edges := [(0, 2), (2, 1)] }, { nodes := [0, 1], edges := [(0, 1)] }] := by decide +kernel

end
end Link
end GraphShape

end PhyModel.Props.C07
