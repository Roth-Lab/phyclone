import PhyModel.Proofs.MapProofs
/-! # C10 — reported CCFs are feasible on the tree and jointly maximise the likelihood

Property theorems only; helper lemmas live in `Proofs/MapProofs.lean` (`root_max`, `map_optimal`) and
`Proofs/MapSpecProofs.lean`.  The model (`Model/MapDP.lean`) follows `process_trace/map.py` line by
line for one sample; samples are independent in the code (every array operation is per dimension),
so the theorems are per sample and hold for every sample.  The specification (`Feasible`,
`topTotal`, `objective` in `Model/MapSpec.lean`) is structural and does not mention the dynamic
programme.  A forest is any shape (any number of top-level clones, children, depth), the grid any
size `G ≥ 1`, the per-clone log-likelihood vectors arbitrary rationals.

The floating-point clause (clonal prevalence ≥ -1e-12 in IEEE arithmetic) is decided by the
correspondence check (DESIGN.md 3.1); `clonalPrev_nonneg` is its exact-arithmetic core. -/

namespace PhyModel.Props.C10
open PhyModel.MapDP

/-- **Feasibility.**  The index list read off by the traceback names one grid index per clone, every
index lies on the grid, every clone's index is at least the sum of its children's, and the top-level
clones sum to at most `G-1` (CCF one). -/
theorem traceback_feasible (G : ℕ) (hG : 0 < G) (f : Forest) :
    (mapAssign G f).length = f.size ∧ (∀ x ∈ mapAssign G f, x < G) ∧
    Feasible f (mapAssign G f) ∧ topTotal f (mapAssign G f) ≤ G - 1 :=
  (root_max hG f).1

/-- **The reported value is the maximum.**  The number the dynamic programme holds for the virtual
root at CCF one is attained by a feasible assignment (the traceback) and bounds every feasible
assignment: it is the greatest element of the set of feasible objective values. -/
theorem value_eq_max (G : ℕ) (hG : 0 < G) (f : Forest) :
    (∃ a : List ℕ, a.length = f.size ∧ (∀ x ∈ a, x < G) ∧ Feasible f a ∧ topTotal f a ≤ G - 1 ∧
        objective f a = rootValue G f) ∧
    ∀ a : List ℕ, a.length = f.size → Feasible f a → topTotal f a ≤ G - 1 →
        objective f a ≤ rootValue G f := by
  obtain ⟨⟨hlen, hbd, hF, ht⟩, hv, hub⟩ := root_max hG f
  exact ⟨⟨mapAssign G f, hlen, hbd, hF, ht, hv⟩, fun a _ => hub a⟩

/-- **Optimality.**  Every feasible assignment (one index per clone, child-sum constraint at every
clone, top-level total at most `G-1`) has summed log-likelihood at most that of the traceback. -/
theorem traceback_optimal (G : ℕ) (hG : 0 < G) (f : Forest) (a : List ℕ)
    (hlen : a.length = f.size) (hF : Feasible f a) (htop : topTotal f a ≤ G - 1) :
    objective f a ≤ objective f (mapAssign G f) :=
  (root_max hG f).2.1 ▸ (value_eq_max G hG f).2 a hlen hF htop

/-- clonal prevalences of any feasible assignment are non-negative in exact arithmetic -/
theorem clonalPrev_nonneg_of_feasible (G : ℕ) (hG : 2 ≤ G) :
    ∀ (f : Forest) (a : List ℕ), Feasible f a → ∀ x ∈ clonalPrev G f a, 0 ≤ x := by
  intro f
  induction f with
  | nil => exact fun a _ x hx => (List.not_mem_nil hx).elim
  | cons p k s ihk ihs =>
    intro a hF x hx
    cases a with
    | nil => exact (List.not_mem_nil hx).elim
    | cons i rest =>
      obtain ⟨hle, hFk, hFs⟩ := hF
      simp only [clonalPrev, List.mem_cons, List.mem_append] at hx
      rcases hx with hx | hx | hx
      · rw [hx, foldl_sub_ccf, sum_topIdx]
        exact sub_nonneg.mpr (ccf_mono G (Nat.le_of_succ_le hG) hle)
      · exact ihk _ hFk x hx
      · exact ihs _ hFs x hx

/-- **Clonal prevalence.**  For the reported assignment, each clone's CCF minus its children's CCFs
(computed as `map.py` does, subtracting child by child) is non-negative in exact arithmetic. -/
theorem clonalPrev_nonneg (G : ℕ) (hG : 2 ≤ G) (f : Forest) :
    ∀ x ∈ clonalPrev G f (mapAssign G f), 0 ≤ x :=
  clonalPrev_nonneg_of_feasible G hG f _ (traceback_feasible G (Nat.zero_lt_two.trans_le hG) f).2.2.1

/-! ### Non-vacuity

A concrete forest on a 4-point grid: top-level clone A with two children B and C (C has a child D),
and a second top-level clone E; preorder A, B, C, D, E.  The unconstrained per-clone arg-max
(3, 1, 1, 3, 1; value 22) is infeasible, so the constraints bind. -/

def exF : Forest :=
  .cons [0, 1, 2, 5] (.cons [0, 3, 1, 0] .nil (.cons [1, 2, 0, 0] (.cons [0, 2, 3, 9] .nil .nil) .nil))
    (.cons [2, 3, 0, 1] .nil .nil)

/-- the dynamic programme and its traceback are run once, here; the examples below that mention
`mapAssign 4 exF` rewrite with this -/
theorem exF_map : mapAssign 4 exF = [3, 0, 3, 3, 0] := by decide +kernel

/-- `traceback_feasible`: hypotheses hold (`0 < 4`) and the conclusion is about a non-trivial list -/
example : (0 < 4) ∧ exF.size = 5 ∧ mapAssign 4 exF = [3, 0, 3, 3, 0] :=
  ⟨Nat.zero_lt_succ 3, rfl, exF_map⟩

/-- `traceback_optimal`: a competitor satisfying all three hypotheses exists and is strictly worse,
and the unconstrained arg-max violates `Feasible` (so the hypothesis excludes something) -/
example : ([2, 1, 1, 0, 1] : List ℕ).length = exF.size ∧ Feasible exF [2, 1, 1, 0, 1] ∧
    topTotal exF [2, 1, 1, 0, 1] ≤ 4 - 1 ∧
    objective exF [2, 1, 1, 0, 1] < objective exF (mapAssign 4 exF) ∧
    ¬ Feasible exF [3, 1, 1, 3, 1] ∧
    (Feasible exF [3, 0, 3, 3, 1] ∧ ¬ topTotal exF [3, 0, 3, 3, 1] ≤ 4 - 1) := by
  rw [exF_map]
  decide +kernel

/-- `value_eq_max`: the root value on the example is 16, below the unconstrained 22 -/
example : rootValue 4 exF = 16 ∧ objective exF [3, 1, 1, 3, 1] = 22 := by decide +kernel

/-- `clonalPrev_nonneg`: `2 ≤ 4`, and the prevalences are not all zero -/
example : (2 ≤ 4) ∧ clonalPrev 4 exF (mapAssign 4 exF) = [0, 0, 0, 1, 0] ∧
    clonalPrev 4 exF [3, 1, 1, 0, 0] = [1/3, 1/3, 1/3, 0, 0] := by
  rw [exF_map]
  decide +kernel

/-- `clonalPrev_nonneg_of_feasible`: the hypothesis matters — an infeasible list gives a negative
prevalence -/
example : ¬ Feasible exF [1, 1, 1, 0, 0] ∧ clonalPrev 4 exF [1, 1, 1, 0, 0] = [-1/3, 1/3, 1/3, 0, 0] := by
  decide +kernel

end PhyModel.Props.C10
