import PhyModel.Proofs.ConcDensity
import PhyModel.Proofs.ConcModel
import PhyModel.Proofs.ConcGibbs
/-! # C13 — the concentration update is an exact Gibbs step for the CRP concentration

Helper lemmas live in `Proofs/ConcDensity.lean` (real analysis with real `K`, `n`: the joint, the
weight and the mixture density; Mathlib's `gammaPDFReal`, `betaPDFReal`, `beta`),
`Proofs/GibbsTwoStage.lean` (abstract measure theory: two-stage Gibbs invariance for densities on a
product of s-finite measure spaces), `Proofs/ConcGibbs.lean` (measurability; integration against
`betaMeasure`, `gammaMeasure` and Gamma mixtures; the two sections of the joint as multiples of
probability densities; finite total mass of the joint) and `Proofs/ConcModel.lean` (the import-free
model `Model/Conc.lean`).

What is proved here, for all `a, b > 0`, `α > 0`, `1 ≤ K ≤ n` (only `1 ≤ K`, `1 ≤ n` are needed),
every value `η ∈ (0,1)` of the auxiliary variable:

* `conc_params` — the parameters the model (= the code, by the correspondence check) hands to the
  three draws are those of the property text;
* `mixture_density_identity` — the two-component Gamma mixture has density
  `C · x^(a+K-2) (x+n) e^{-x (b - log η)}`, `C` free of `x`;
* `eta_conditional`, `alpha_conditional` — the joint density
  `joint(x, η) = Gamma(a,b)(x) · x^(K-1) (x+n) η^x (1-η)^(n-1)` is, in `η`, a multiple of the
  Beta(x+1, n) density and, in `x`, a multiple of that mixture density: the two draws of the update
  are the two exact conditionals of `joint`;
* `eta_marginal` — `∫₀¹ joint(x, η) dη = Γ(n) · Gamma(a,b)(x) x^K Γ(x)/Γ(x+n)`, the (unnormalised)
  conditional posterior of the concentration given `K` clones and `n` data points;
* `eta_marginal_lintegral`, `eta_conditional_density`, `alpha_conditional_density` — the same three
  facts in `ℝ≥0∞` / `∫⁻` form, as the objects of `GibbsTwoStage.gibbs_two_stage`: the marginal
  `mX(x) = ∫⁻ joint(x, ·) = Γ(n) target(x)`, the quotient `c1 = joint / mX` is `betaPDF (x+1) n`, the
  quotient `c2 = joint / mY` is the mixture density;
* `conc_gibbs` — **the update is an exact Gibbs step**: the kernel
  `x ↦ (η ~ Beta(x+1, n); x' ~ π(η) Gamma(a+K, b - log η) + (1-π(η)) Gamma(a+K-1, b - log η))`
  leaves the measure with density `target a b K n` on `(0, ∞)` invariant, in the form
  `∫ target(x) ∫ Beta(x+1,n)(η) ∫ mixture(η)(x') f(x') dx' dη dx = ∫ target(x') f(x') dx'` for every
  measurable `f : ℝ → [0, ∞]`.  It is the instance of `GibbsTwoStage.gibbs_two_stage_factorised` (Tonelli
  twice) at the two sections of the joint (`eta_section`, `alpha_section`) and
  `eta_marginal_lintegral`;
* `conc_gibbs_measure`, `conc_gibbs_set` — the same with Mathlib's `betaMeasure`, `gammaMeasure`:
  `∫ P(x' ∈ A | x) dposterior(x) = posterior(A)` for every measurable `A`, where
  `posterior = posteriorMeasure a b K n` has density `target`; `posterior_finite_pos` — that measure
  has finite non-zero total mass, so the normalised posterior exists and is invariant too
  (the identity is homogeneous in `target`);
* `kn_from_tree` — `K` = number of clones, `n` = number of data points not in the outlier set;
* `value_in_force` — in the run loop, every trace entry records the value returned by that
  iteration's update and its density was evaluated with the same value.

Remark (packaging, not an open obligation): the transition kernel is written as the iterated integral
`x ↦ ∫ mixtureMeasure η dBeta(x+1, n)(η)`, not as a Mathlib `ProbabilityTheory.Kernel` composed with
`Measure.bind` — that needs measurability of `x ↦ betaMeasure (x+1) n`, hence of `Real.Gamma`, which
Mathlib does not provide yet.

-- OBLIGATION-OPEN conc_floor: the code floors the Gamma draw at 1e-10 (`Conc.finish`, both branches); all statements here are about the uncensored draw — known finding F12 for 1 <= K

The floating-point evaluation, `np.log`, and scipy's samplers are outside the model. -/

open Real ProbabilityTheory MeasureTheory Set

namespace PhyModel.Props.C13
open PhyModel.Conc PhyModel.ConcDensity

/-- Escobar–West joint density of (concentration `x`, auxiliary `η`) given `K` clones and `n` data
points under a Gamma(`a`, rate `b`) prior: `prior(x) x^(K-1) (x+n) η^x (1-η)^(n-1)` -/
noncomputable def joint (a b : ℝ) (K n : ℕ) (x η : ℝ) : ℝ :=
  gammaPDFReal a b x * x ^ ((K : ℝ) - 1) * (x + n) * η ^ x * (1 - η) ^ ((n : ℝ) - 1)

/-- unnormalised conditional posterior of the concentration given `K`, `n` (Antoniak):
`prior(x) x^K Γ(x)/Γ(x+n)` -/
noncomputable def target (a b : ℝ) (K n : ℕ) (x : ℝ) : ℝ :=
  gammaPDFReal a b x * (x ^ (K : ℝ) * Gamma x / Gamma (x + n))

/-- the Escobar–West mixture weight from its odds `(a+K-1)/(n (b - log η))` -/
noncomputable def weight (a b : ℝ) (K n : ℕ) (η : ℝ) : ℝ :=
  ((a + K - 1) / (n * (b - log η))) / (1 + (a + K - 1) / (n * (b - log η)))

theorem plan_mix (a b α L : ℚ) (K n : ℕ) (bern : Bool) (ha : 0 < a) (hb : 0 < b) (hL : 0 ≤ L)
    (hK : 1 ≤ K) (hn : 1 ≤ n) :
    plan a b α K n L bern = some (.mix ⟨α + 1, n, rate b L, odds a b L K n,
      piOf (odds a b L K n), shapeOf a K bern, 1 / rate b L⟩) := by
  have ho := odds_pos (K := K) (n := n) ha hb hL hK hn
  have hr : 0 < rate b L := add_pos_of_pos_of_nonneg hb hL
  rw [plan, if_neg (Nat.pos_iff_ne_zero.mp hK), if_neg (not_or.mpr
    ⟨Nat.pos_iff_ne_zero.mp hn, not_or.mpr ⟨hr.ne', (add_pos one_pos ho).ne'⟩⟩)]

/-- **Parameters of the draws.**  For a sampler built with `(a, b)`, current value `α`, `K ≥ 1`
clones holding `n ≥ 1` points, Beta draw `η` (`L = -log η ≥ 0`) and Bernoulli outcome `bern`, the
model produces the mixture branch with: Beta(α+1, n); weight `π ∈ (0,1)` with odds
`π/(1-π) = (a+K-1)/(n(b - log η))`; Gamma shape `a+K` or `a+K-1`; scale `1/(b - log η)`. -/
theorem conc_params (a b α L : ℚ) (K n : ℕ) (bern : Bool) (ha : 0 < a) (hb : 0 < b) (hL : 0 ≤ L)
    (hK : 1 ≤ K) (hn : 1 ≤ n) :
    ∃ m : Mix, plan a b α K n L bern = some (.mix m) ∧
      m.betaA = α + 1 ∧ m.betaB = n ∧ m.rate = b + L ∧
      0 < m.pi ∧ m.pi < 1 ∧ m.pi / (1 - m.pi) = (a + K - 1) / (n * (b + L)) ∧
      m.shape = (if bern then a + K else a + K - 1) ∧ m.scale = 1 / (b + L) := by
  obtain ⟨hp0, hp1, hpo⟩ := piOf_spec (odds_pos (K := K) (n := n) ha hb hL hK hn)
  refine ⟨_, plan_mix a b α L K n bern ha hb hL hK hn, rfl, rfl, rfl, hp0, hp1, hpo, ?_, rfl⟩
  cases bern
  exacts [add_zero _, sub_add_cancel _ _]

/-- `K = 0` (every data point an outlier; outside the property's quantifier, recorded for
completeness): one draw from the prior. -/
theorem conc_params_zero (a b α L : ℚ) (n : ℕ) (bern : Bool) :
    plan a b α 0 n L bern = some (.prior a (1 / b)) :=
  if_pos rfl

/-- **Mixture density identity.**  For `x > 0` the mixture
`π Gamma(a+K, r) + (1-π) Gamma(a+K-1, r)`, `r = b - log η`, `π/(1-π) = (a+K-1)/(n r)`, has density
`C · x^(a+K-2) (x+n) e^{-x r}` with `C > 0` independent of `x`. -/
theorem mixture_density_identity (a b η : ℝ) (K n : ℕ) (ha : 0 < a) (hb : 0 < b) (hK : 1 ≤ K)
    (hn : 1 ≤ n) (h0 : 0 < η) (h1 : η < 1) :
    ∃ C : ℝ, 0 < C ∧ ∀ x : ℝ, 0 < x →
      weight a b K n η * gammaPDFReal (a + K) (b - log η) x
        + (1 - weight a b K n η) * gammaPDFReal (a + K - 1) (b - log η) x
      = C * x ^ (a + K - 2) * (x + n) * exp (-(x * (b - log η))) := by
  have hr := rate_pos hb h0 h1.le
  have hn' : (0 : ℝ) < n := Nat.cast_pos.mpr hn
  have hs : 0 < a + K - 1 := shape_pos ha (Nat.one_le_cast.mpr hK)
  exact ⟨_, mixConst_pos hs hr hn', fun x hx => mix_identity hs hr hn' hx⟩

/-- **The Beta draw is the exact conditional of `η`.**  As a function of `η ∈ (0,1)` the joint is
`Z ·` the Beta(x+1, n) density, `Z` independent of `η`. -/
theorem eta_conditional (a b x : ℝ) (K n : ℕ) (hx : 0 < x) (hn : 1 ≤ n) :
    ∃ Z : ℝ, ∀ η : ℝ, 0 < η → η < 1 → joint a b K n x η = Z * betaPDFReal (x + 1) n η :=
  ⟨_, fun _ h0 h1 => joint_eta hx (Nat.cast_pos.mpr hn) h0 h1⟩

/-- **The mixture draw is the exact conditional of the concentration.**  As a function of `x > 0`
the joint is `D ·` the mixture density with the Escobar–West weight, shapes `a+K`, `a+K-1` and rate
`b - log η`; `D` independent of `x`. -/
theorem alpha_conditional (a b η : ℝ) (K n : ℕ) (ha : 0 < a) (hb : 0 < b) (hK : 1 ≤ K)
    (hn : 1 ≤ n) (h0 : 0 < η) (h1 : η < 1) :
    ∃ D : ℝ, ∀ x : ℝ, 0 < x → joint a b K n x η =
      D * (weight a b K n η * gammaPDFReal (a + K) (b - log η) x
        + (1 - weight a b K n η) * gammaPDFReal (a + K - 1) (b - log η) x) :=
  ⟨_, fun _ hx => joint_alpha ha hb (Nat.one_le_cast.mpr hK) (Nat.cast_pos.mpr hn) h0 h1 hx⟩

/-- **Marginal.**  Integrating the auxiliary variable out of the joint gives `Γ(n)` times the
conditional posterior kernel of the concentration given `K` and `n`. -/
theorem eta_marginal (a b x : ℝ) (K n : ℕ) (hx : 0 < x) (hn : 1 ≤ n) :
    ∫ η in Ioo (0 : ℝ) 1, joint a b K n x η = Gamma n * target a b K n x := by
  have hn' : (0 : ℝ) < n := Nat.cast_pos.mpr hn
  unfold joint target
  rw [joint_eta_integral hx hn', eta_const hx hn']

/-- **K and n from the tree.**  For a tree `(f, outs)` on the data points `0 … N-1`, whatever the
presence of the outlier key in `node_data`, `update_concentration_value` passes `K` = the number of
clones and `n` = the number of data points that are not in the outlier set. -/
theorem kn_from_tree (f : DF) (outs : List ℕ) (hasOutKey : Bool) (N : ℕ)
    (h : (f.all ++ outs).Perm (List.range N)) :
    kn f outs hasOutKey
      = (Orders.Forest.nodes f, ((List.range N).filter fun i => i ∉ outs).length) := by
  rw [kn_eq, all_length_eq_filter f outs N h]

/-- **The new value is the one in force.**  With the update on, the trace consists of the set-up
entry (initial value) followed by one entry per iteration `i` with `i % thin = 0`; each loop entry
records the value returned by *that* iteration's `sample()` call, and its density (`used`) was
evaluated with the same value. -/
theorem value_in_force (thin : ℕ) (init : ℚ) (draws : List ℚ) :
    (runTrace true thin init draws).map Entry.iter
        = 0 :: (List.range draws.length).filter (fun i => i % thin = 0)
    ∧ (runTrace true thin init draws).head? = some ⟨0, init, init⟩
    ∧ ∀ e ∈ (runTrace true thin init draws).tail,
        e.used = e.alpha ∧ draws[e.iter]? = some e.alpha := by
  refine ⟨?_, rfl, fun e he => ?_⟩
  · rw [runTrace, List.map_cons, loop_iters, List.range_eq_range']
    rfl
  · have := loop_true_spec thin draws 0 _ e he
    exact ⟨this.1, this.2.2.2⟩

/-- with the update off the value never changes -/
theorem value_in_force_off (thin : ℕ) (init : ℚ) (draws : List ℚ) :
    ∀ e ∈ runTrace false thin init draws, e.alpha = init ∧ e.used = init := by
  intro e he
  rcases List.mem_cons.mp he with rfl | he
  · exact ⟨rfl, rfl⟩
  · have := loop_false_spec thin draws 0 _ e he
    exact ⟨this.2, this.1⟩

/-- **C13, the ingredients at the model's parameters.**  For the model's inputs (`a, b, α` rational, `L = -log η > 0`
rational, i.e. `η = e^{-L}`), `1 ≤ K`, `1 ≤ n`: the model takes the mixture branch with parameters
`m`, and, over the reals,
 (i)   the Beta draw with the model's parameters is the exact `η`-conditional of `joint` at `α`;
 (ii)  the Gamma mixture with the model's weight `m.pi`, shapes `a+K` / `a+K-1` (of which
       `m.shape` is the one selected by the Bernoulli outcome) and rate `m.rate = 1/m.scale` is the
       exact conditional of the concentration given `η`, with density `∝ x^(a+K-2)(x+n)e^{-x m.rate}`;
 (iii) the `η`-marginal of `joint` is `Γ(n) ·` the conditional posterior kernel `target`.
The invariance statement built from these ingredients is `conc_gibbs` below. -/
theorem conc_gibbs_partial (a b α L : ℚ) (K n : ℕ) (bern : Bool) (ha : 0 < a) (hb : 0 < b)
    (hα : 0 < α) (hL : 0 < L) (hK : 1 ≤ K) (hn : 1 ≤ n) :
    ∃ m : Mix, plan a b α K n L bern = some (.mix m) ∧
      (∃ Z : ℝ, ∀ η : ℝ, 0 < η → η < 1 →
        joint a b K n α η = Z * betaPDFReal m.betaA m.betaB η) ∧
      (∃ D C : ℝ, 0 < C ∧ ∀ x : ℝ, 0 < x →
        joint a b K n x (exp (-(L : ℝ)))
          = D * ((m.pi : ℝ) * gammaPDFReal (a + K) m.rate x
              + (1 - (m.pi : ℝ)) * gammaPDFReal (a + K - 1) m.rate x) ∧
        (m.pi : ℝ) * gammaPDFReal (a + K) m.rate x
              + (1 - (m.pi : ℝ)) * gammaPDFReal (a + K - 1) m.rate x
          = C * x ^ ((a : ℝ) + K - 2) * (x + n) * exp (-(x * m.rate))) ∧
      ((m.shape : ℝ) = if bern then (a : ℝ) + K else (a : ℝ) + K - 1) ∧
      (m.scale : ℝ) = 1 / (m.rate : ℝ) ∧
      (∫ η in Ioo (0 : ℝ) 1, joint a b K n α η) = Gamma n * target a b K n α := by
  have ha' : (0 : ℝ) < a := Rat.cast_pos.mpr ha
  have hb' : (0 : ℝ) < b := Rat.cast_pos.mpr hb
  have hα' : (0 : ℝ) < α := Rat.cast_pos.mpr hα
  have h0 : 0 < exp (-(L : ℝ)) := exp_pos _
  have h1 : exp (-(L : ℝ)) < 1 := exp_lt_one_iff.mpr (neg_lt_zero.mpr (Rat.cast_pos.mpr hL))
  -- the model's rate and weight are the real ones at η = e^{-L}
  have hrate : ((rate b L : ℚ) : ℝ) = b - log (exp (-(L : ℝ))) := by
    rw [log_exp, sub_neg_eq_add, rate, Rat.cast_add]
  have hpi : ((piOf (odds a b L K n) : ℚ) : ℝ) = weight a b K n (exp (-(L : ℝ))) := by
    rw [weight, ← hrate, piOf, odds, shape0]
    simp only [Rat.cast_div, Rat.cast_add, Rat.cast_one, Rat.cast_mul, Rat.cast_natCast,
      Rat.cast_sub]
  refine ⟨_, plan_mix a b α L K n bern ha hb hL.le hK hn, ?_, ?_, ?_, ?_,
    eta_marginal a b α K n hα' hn⟩
  · obtain ⟨Z, hZ⟩ := eta_conditional a b α K n hα' hn
    exact ⟨Z, fun η e0 e1 => by
      simp only [hZ η e0 e1, Rat.cast_add, Rat.cast_one, Rat.cast_natCast]⟩
  · obtain ⟨D, hD⟩ := alpha_conditional a b (exp (-(L : ℝ))) K n ha' hb' hK hn h0 h1
    obtain ⟨C, hC, hCx⟩ := mixture_density_identity a b (exp (-(L : ℝ))) K n ha' hb' hK hn h0 h1
    refine ⟨D, C, hC, fun x hx => ?_⟩
    dsimp only
    rw [hpi, hrate]
    exact ⟨hD x hx, hCx x hx⟩
  · cases bern <;> simp [shapeOf, shape0]
  · simp only [Rat.cast_div, Rat.cast_one]

/-- **The marginal as a Lebesgue integral** (`mX` of `GibbsTwoStage`): for `x > 0`,
`∫⁻_{(0,1)} joint(x, η) dη = Γ(n) · target(x)` in `ℝ≥0∞`. -/
theorem eta_marginal_lintegral (a b x : ℝ) (K n : ℕ) (hx : 0 < x) (hn : 1 ≤ n) :
    ∫⁻ η in Ioo (0 : ℝ) 1, ENNReal.ofReal (joint a b K n x η)
      = ENNReal.ofReal (Gamma n * target a b K n x) := by
  exact GibbsTwoStage.lintegral_of_factor measurableSet_Ioo ENNReal.ofReal_ne_top
    (eta_section a b K hx (Nat.cast_pos.mpr hn))

/-- **The first conditional density is the Beta density** (`c1` of `GibbsTwoStage.gibbs_two_stage`):
for `x > 0`, `η ∈ (0,1)`, `joint(x, η) / ∫⁻_{(0,1)} joint(x, ·) = betaPDF (x+1) n η`. -/
theorem eta_conditional_density (a b x η : ℝ) (K n : ℕ) (ha : 0 < a) (hb : 0 < b) (hx : 0 < x)
    (hn : 1 ≤ n) (h0 : 0 < η) (h1 : η < 1) :
    ENNReal.ofReal (joint a b K n x η) / ∫⁻ η in Ioo (0 : ℝ) 1, ENNReal.ofReal (joint a b K n x η)
      = betaPDF (x + 1) n η := by
  have hn' : (0 : ℝ) < n := Nat.cast_pos.mpr hn
  exact GibbsTwoStage.quotient_of_factor measurableSet_Ioo ENNReal.ofReal_ne_top
    (eta_section a b K hx hn') ⟨h0, h1⟩ (ENNReal.ofReal_pos.mpr (jointR_pos ha hb hn' hx h0 h1)).ne'

/-- **The second conditional density is the mixture density** (`c2` of
`GibbsTwoStage.gibbs_two_stage`): for `η ∈ (0,1)`, `x > 0`,
`joint(x, η) / ∫⁻_{(0,∞)} joint(·, η)` is the Escobar–West mixture density at `x`. -/
theorem alpha_conditional_density (a b x η : ℝ) (K n : ℕ) (ha : 0 < a) (hb : 0 < b) (hK : 1 ≤ K)
    (hn : 1 ≤ n) (h0 : 0 < η) (h1 : η < 1) (hx : 0 < x) :
    ENNReal.ofReal (joint a b K n x η) / ∫⁻ x in Ioi (0 : ℝ), ENNReal.ofReal (joint a b K n x η)
      = ENNReal.ofReal (weight a b K n η * gammaPDFReal (a + K) (b - log η) x
          + (1 - weight a b K n η) * gammaPDFReal (a + K - 1) (b - log η) x) := by
  have hn' : (0 : ℝ) < n := Nat.cast_pos.mpr hn
  exact GibbsTwoStage.quotient_of_factor measurableSet_Ioi ENNReal.ofReal_ne_top
    (alpha_section ha hb (Nat.one_le_cast.mpr hK) hn' h0 h1) hx
    (ENNReal.ofReal_pos.mpr (jointR_pos ha hb hn' hx h0 h1)).ne'

/-- **C13: the update is an exact Gibbs step.**  For `a, b > 0`, `1 ≤ K`, `1 ≤ n`: if the
concentration `x` is distributed with density `target a b K n` w.r.t. Lebesgue measure on `(0, ∞)`,
`η` is drawn from Beta(`x+1`, `n`) and then `x'` from the mixture
`π Gamma(a+K, b - log η) + (1-π) Gamma(a+K-1, b - log η)` with the Escobar–West weight, then `x'` is
again distributed with density `target a b K n`.  Stated for every measurable test function
`f : ℝ → [0, ∞]` (`f` = indicator of a measurable set gives the statement about measures; `target`
is not normalised, the identity is homogeneous in it). -/
theorem conc_gibbs (a b : ℝ) (K n : ℕ) (ha : 0 < a) (hb : 0 < b) (hK : 1 ≤ K) (hn : 1 ≤ n)
    (f : ℝ → ENNReal) (hf : Measurable f) :
    ∫⁻ x in Ioi (0 : ℝ), ENNReal.ofReal (target a b K n x) *
        ∫⁻ η in Ioo (0 : ℝ) 1, betaPDF (x + 1) n η *
          ∫⁻ x' in Ioi (0 : ℝ),
            ENNReal.ofReal (weight a b K n η * gammaPDFReal (a + K) (b - log η) x'
              + (1 - weight a b K n η) * gammaPDFReal (a + K - 1) (b - log η) x') * f x'
      = ∫⁻ x in Ioi (0 : ℝ), ENNReal.ofReal (target a b K n x) * f x := by
  have hK' : (1 : ℝ) ≤ K := Nat.one_le_cast.mpr hK
  have hn' : (0 : ℝ) < n := Nat.cast_pos.mpr hn
  have hG : 0 < Gamma n := Gamma_pos_of_pos hn'
  -- the two sections of the joint are multiples of the two densities; its η-marginal is Γ(n)·target
  have key := GibbsTwoStage.gibbs_two_stage_factorised (volume.restrict (Ioi (0 : ℝ)))
    (volume.restrict (Ioo (0 : ℝ) 1)) (fun x η => ENNReal.ofReal (joint a b K n x η))
    (measurable_jointR a b K n).ennreal_ofReal
    (fun x => ENNReal.ofReal (Gamma n) * ENNReal.ofReal (target a b K n x))
    (fun x η => betaPDF (x + 1) n η) (fun η x => ENNReal.ofReal (mixR a b K n η x))
    (fun x => (measurable_betaPDFReal _ _).ennreal_ofReal) (measurable_mixR a b K n).ennreal_ofReal
    (ae_restrict_of_forall_mem measurableSet_Ioi fun x hx =>
      ((eta_marginal_lintegral a b x K n hx hn).trans (ENNReal.ofReal_mul hG.le)).symm)
    (ae_restrict_of_forall_mem measurableSet_Ioi fun x hx =>
      GibbsTwoStage.eq_lintegral_mul_of_factor measurableSet_Ioo ENNReal.ofReal_ne_top
        (eta_section a b K hx hn'))
    (ae_restrict_of_forall_mem measurableSet_Ioo fun η hη =>
      GibbsTwoStage.eq_lintegral_mul_of_factor measurableSet_Ioi ENNReal.ofReal_ne_top
        (alpha_section ha hb hK' hn' hη.1 hη.2)) f hf
  simp only [mul_assoc] at key
  rw [lintegral_const_mul' _ _ ENNReal.ofReal_ne_top,
    lintegral_const_mul' _ _ ENNReal.ofReal_ne_top] at key
  exact (ENNReal.mul_right_inj (ENNReal.ofReal_pos.mpr hG).ne' ENNReal.ofReal_ne_top).mp key

/-- the measure on `ℝ` with density `target a b K n` w.r.t. Lebesgue measure on `(0, ∞)`: the
(unnormalised) conditional posterior of the concentration given `K` clones and `n` data points -/
noncomputable def posteriorMeasure (a b : ℝ) (K n : ℕ) : Measure ℝ :=
  (volume.restrict (Ioi (0 : ℝ))).withDensity fun x => ENNReal.ofReal (target a b K n x)

/-- the law of the second draw given `η`:
`w(η) Gamma(a+K, b - log η) + (1 - w(η)) Gamma(a+K-1, b - log η)` (Mathlib's `gammaMeasure`) -/
noncomputable def mixtureMeasure (a b : ℝ) (K n : ℕ) (η : ℝ) : Measure ℝ :=
  ENNReal.ofReal (weight a b K n η) • gammaMeasure (a + K) (b - log η)
    + ENNReal.ofReal (1 - weight a b K n η) • gammaMeasure (a + K - 1) (b - log η)

/-- `target` is a.e.-measurable on `(0, ∞)`: there it is `Γ(n)⁻¹` times the `η`-integral of the
jointly measurable joint (`eta_marginal_lintegral`); no measurability of `Real.Gamma` is needed. -/
theorem target_aemeasurable (a b : ℝ) (K n : ℕ) (hn : 1 ≤ n) :
    AEMeasurable (fun x => ENNReal.ofReal (target a b K n x)) (volume.restrict (Ioi (0 : ℝ))) := by
  have hG : 0 < Gamma n := Gamma_pos_of_pos (Nat.cast_pos.mpr hn)
  refine ⟨fun x => (ENNReal.ofReal (Gamma n))⁻¹
      * ∫⁻ η in Ioo (0 : ℝ) 1, ENNReal.ofReal (joint a b K n x η),
    (measurable_jointR a b K n).ennreal_ofReal.lintegral_prod_right'.const_mul _,
    ae_restrict_of_forall_mem measurableSet_Ioi fun x hx => ?_⟩
  show _ = _ * ∫⁻ η in Ioo (0 : ℝ) 1, ENNReal.ofReal (joint a b K n x η)
  rw [eta_marginal_lintegral a b x K n hx hn, ENNReal.ofReal_mul hG.le,
    ENNReal.inv_mul_cancel_left (ENNReal.ofReal_pos.mpr hG).ne' ENNReal.ofReal_ne_top]

/-- **C13, measure form.**  With Mathlib's `betaMeasure`, `gammaMeasure`: starting from
`x ~ posteriorMeasure`, drawing `η ~ Beta(x+1, n)` and then `x' ~ mixtureMeasure η` gives
`x' ~ posteriorMeasure`: the expectation of every measurable `f ≥ 0` of `x'` is `∫ f d posterior`. -/
theorem conc_gibbs_measure (a b : ℝ) (K n : ℕ) (ha : 0 < a) (hb : 0 < b) (hK : 1 ≤ K) (hn : 1 ≤ n)
    (f : ℝ → ENNReal) (hf : Measurable f) :
    ∫⁻ x, ∫⁻ η, ∫⁻ x', f x' ∂mixtureMeasure a b K n η ∂betaMeasure (x + 1) n
        ∂posteriorMeasure a b K n
      = ∫⁻ x, f x ∂posteriorMeasure a b K n := by
  have hP : ∀ F : ℝ → ENNReal, ∫⁻ x, F x ∂posteriorMeasure a b K n
      = ∫⁻ x in Ioi (0 : ℝ), ENNReal.ofReal (target a b K n x) * F x :=
    lintegral_withDensity_eq_lintegral_mul_non_measurable₀ _ (target_aemeasurable a b K n hn)
      (ae_of_all _ fun _ => ENNReal.ofReal_lt_top)
  rw [hP, hP, ← conc_gibbs a b K n ha hb hK hn f hf]
  refine lintegral_congr fun x => ?_
  rw [lintegral_betaMeasure]
  refine congrArg _ (setLIntegral_congr_fun measurableSet_Ioo fun η hη => ?_)
  have hs := shape_pos ha (Nat.one_le_cast.mpr hK)
  have hr := rate_pos hb hη.1 hη.2.le
  obtain ⟨hw0, hw1⟩ := wR_mem (n := n) hs hr (Nat.cast_pos.mpr hn)
  exact congrArg _ (lintegral_gammaMixture hw0 hw1 (hs.trans (sub_one_lt _)) hs hr f hf)

/-- **C13, set form.**  `∫ P(x' ∈ A | x) d posterior(x) = posterior(A)` for every measurable `A`:
`posteriorMeasure` is invariant under the update's transition kernel
`x ↦ ∫ mixtureMeasure η dBeta(x+1, n)(η)`. -/
theorem conc_gibbs_set (a b : ℝ) (K n : ℕ) (ha : 0 < a) (hb : 0 < b) (hK : 1 ≤ K) (hn : 1 ≤ n)
    (A : Set ℝ) (hA : MeasurableSet A) :
    ∫⁻ x, ∫⁻ η, mixtureMeasure a b K n η A ∂betaMeasure (x + 1) n ∂posteriorMeasure a b K n
      = posteriorMeasure a b K n A := by
  have := conc_gibbs_measure a b K n ha hb hK hn (A.indicator 1) (measurable_one.indicator hA)
  simpa only [lintegral_indicator_one hA] using this

/-- the second draw is from a probability measure (for `η ∈ (0,1)`; the first is from Mathlib's
`betaMeasure (x+1) n`, a probability measure by `isProbabilityMeasureBeta`): the update's transition
kernel is Markov -/
theorem mixtureMeasure_prob (a b η : ℝ) (K n : ℕ) (ha : 0 < a) (hb : 0 < b) (hK : 1 ≤ K)
    (hn : 1 ≤ n) (h0 : 0 < η) (h1 : η < 1) : mixtureMeasure a b K n η univ = 1 := by
  have hs := shape_pos ha (Nat.one_le_cast.mpr hK)
  have hr := rate_pos hb h0 h1.le
  obtain ⟨hw0, hw1⟩ := wR_mem (n := n) hs hr (Nat.cast_pos.mpr hn)
  exact gammaMixture_univ hw0 hw1 (hs.trans (sub_one_lt _)) hs hr

/-- **The posterior is normalisable.**  `posteriorMeasure a b K n` (density `target`) has finite,
non-zero total mass, so the probability measure with density `∝ target` exists; by homogeneity of
`conc_gibbs_set` it is invariant under the update as well. -/
theorem posterior_finite_pos (a b : ℝ) (K n : ℕ) (ha : 0 < a) (hb : 0 < b) (hK : 1 ≤ K)
    (hn : 1 ≤ n) :
    posteriorMeasure a b K n univ ≠ 0 ∧ posteriorMeasure a b K n univ ≠ ⊤ := by
  have hn' : (0 : ℝ) < n := Nat.cast_pos.mpr hn
  have hG : 0 < Gamma n := Gamma_pos_of_pos hn'
  have hmass : posteriorMeasure a b K n univ
      = ∫⁻ x in Ioi (0 : ℝ), ENNReal.ofReal (target a b K n x) := by
    rw [posteriorMeasure, withDensity_apply _ MeasurableSet.univ, Measure.restrict_univ]
  rw [hmass]
  constructor
  · -- positive: `target > 0` on `(0, ∞)`, a set of positive Lebesgue measure
    intro h
    have hpos : ∀ x ∈ Ioi (0 : ℝ), ENNReal.ofReal (target a b K n x) ≠ 0 := fun x hx =>
      (ENNReal.ofReal_pos.mpr (mul_pos (gammaPDFReal_pos ha hb hx) (div_pos
        (mul_pos (rpow_pos_of_pos hx _) (Gamma_pos_of_pos hx))
        (Gamma_pos_of_pos (add_pos hx hn'))))).ne'
    have h0 := ae_iff.mp ((ae_restrict_iff' measurableSet_Ioi).mp
      ((lintegral_eq_zero_iff' (target_aemeasurable a b K n hn)).mp h))
    refine ENNReal.top_ne_zero ((Real.volume_Ioi (a := 0)).symm.trans (measure_mono_null ?_ h0))
    exact fun x hx himp => hpos x hx (himp hx)
  · -- finite: Γ(n) · mass = ∫∫ joint < ⊤ (the joint is dominated by `prior(x) x^(K-1) (x+n)`)
    have hfin : ∫⁻ x in Ioi (0 : ℝ), ∫⁻ η in Ioo (0 : ℝ) 1, ENNReal.ofReal (joint a b K n x η) < ⊤ :=
      lintegral_jointR_lt_top ha hb (Nat.one_le_cast.mpr hK) (Nat.one_le_cast.mpr hn)
    rw [setLIntegral_congr_fun measurableSet_Ioi fun x hx =>
        (eta_marginal_lintegral a b x K n hx hn).trans (ENNReal.ofReal_mul hG.le),
      lintegral_const_mul' _ _ ENNReal.ofReal_ne_top] at hfin
    intro htop
    rw [htop, ENNReal.mul_top (ENNReal.ofReal_pos.mpr hG).ne'] at hfin
    exact lt_irrefl _ hfin

/-! ## Non-vacuity: the hypotheses are satisfiable on concrete non-trivial inputs -/

/-- the run command's prior `a = b = 1/100`, `α = 1`, `K = 2` clones, `n = 5` points, `L = 3/10`:
the model produces the mixture branch with these parameters (`conc_params`, `conc_gibbs_partial`) -/
example : plan (1/100) (1/100) 1 2 5 (3/10) true = some (.mix
    { betaA := 2, betaB := 5, rate := 31/100, odds := 101/155, pi := 101/256, shape := 201/100,
      scale := 100/31 }) := by
  decide +kernel

/-- `mixture_density_identity`, `alpha_conditional`, `eta_conditional`, `eta_marginal`,
`eta_marginal_lintegral`, `eta_conditional_density`, `alpha_conditional_density`: the real
hypotheses hold at `a = b = 1/100`, `η = 1/2`, `K = 2`, `n = 5`, `x = 1` -/
example : (0 : ℝ) < 1/100 ∧ (1 : ℕ) ≤ 2 ∧ (1 : ℕ) ≤ 5 ∧ (0 : ℝ) < 1/2 ∧ (1/2 : ℝ) < 1 ∧ (0 : ℝ) < 1 := by
  norm_num

/-- `conc_gibbs`, `conc_gibbs_measure`, `conc_gibbs_set`, `posterior_finite_pos`,
`mixtureMeasure_prob`: the hypotheses hold at the run command's prior `a = b = 1/100`, `K = 2`,
`n = 5`, `A = (1, 2]`, `f = 1_A`, `η = 1/2`; by `posterior_finite_pos` the invariance identity is not
`0 = 0` or `⊤ = ⊤` for `A = univ` -/
example : let P := posteriorMeasure (1/100) (1/100) 2 5
    (∫⁻ x, ∫⁻ η, mixtureMeasure (1/100) (1/100) 2 5 η (Ioc 1 2) ∂betaMeasure (x + 1) (5 : ℕ) ∂P
      = P (Ioc 1 2)) ∧ P univ ≠ 0 ∧ P univ ≠ ⊤ ∧ mixtureMeasure (1/100) (1/100) 2 5 (1/2) univ = 1 ∧
    Measurable ((Ioc (1 : ℝ) 2).indicator (1 : ℝ → ENNReal)) := by
  have h : (0 : ℝ) < 1 / 100 := by norm_num
  have hp := posterior_finite_pos (1/100) (1/100) 2 5 h h (by norm_num) (by norm_num)
  exact ⟨conc_gibbs_set _ _ 2 5 h h (by norm_num) (by norm_num) _ measurableSet_Ioc, hp.1, hp.2,
    mixtureMeasure_prob _ _ (1/2) 2 5 h h (by norm_num) (by norm_num) (by norm_num) (by norm_num),
    measurable_one.indicator measurableSet_Ioc⟩

/-- `kn_from_tree`: clone {0,1} with child {2}, an empty sibling clone, outliers {3,4}: `K = 3`
clones, `n = 3` of the `N = 5` data points -/
example : let f : DF := .cons [0, 1] (.cons [2] .nil .nil) (.cons [] .nil .nil)
    (f.all ++ [3, 4]).Perm (List.range 5) ∧ kn f [3, 4] true = (3, 3) ∧ kn f [3, 4] false = (3, 3) := by
  decide

/-- `value_in_force`: three iterations, thinning 2 -/
example : runTrace true 2 1 [1/2, 1/3, 1/4]
    = [⟨0, 1, 1⟩, ⟨0, 1/2, 1/2⟩, ⟨2, 1/4, 1/4⟩] := by
  decide +kernel

end PhyModel.Props.C13
