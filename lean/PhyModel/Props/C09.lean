import PhyModel.Proofs.OrdersUniform
/-! # C09 — data orders are drawn uniformly from those compatible with the tree

`Orders.allOrders` is the constructive enumeration, `Orders.sampleOrder` mirrors
`RootPermutationDistribution.sample` as a finite distribution, `Orders.countCode` mirrors
`log_count` in the probability domain (including the outlier permutations), and
`Orders.CompatAll` is the specification written independently of all three: a permutation of all
data points in which every data point of a descendant clone precedes every data point of its
ancestors.  All statements hold for every forest (any shape, clone sizes, number of top-level
clones) and every outlier list, provided data indices are distinct. -/

namespace PhyModel.Props.C09
open PhyModel.Orders

/-- the orders that can be drawn are exactly the compatible ones: soundness and completeness -/
theorem c09_orders_exact (f : Orders.Forest) (out : List ℕ) (hnd : (f.all ++ out).Nodup) (σ : List ℕ) :
    σ ∈ allOrders f out ↔ CompatAll f out σ :=
  (c09 f out hnd).1 σ

/-- no order is enumerated twice, so "number of orders" is the length of the enumeration -/
theorem c09_nodup (f : Orders.Forest) (out : List ℕ) (hnd : (f.all ++ out).Nodup) :
    (allOrders f out).Nodup :=
  (c09 f out hnd).2.1

/-- the code's count (nested multinomials, own-data factorials, outlier interleaving and outlier
permutations) is the number of compatible orders -/
theorem c09_count (f : Orders.Forest) (out : List ℕ) :
    countCode f out.length = ((allOrders f out).length : ℚ) :=
  countCode_eq_length f out

/-- the sampler is uniform on the compatible orders: the expectation of every test function is its
average over the enumeration (take `h` = indicator of one order for "each order has probability
1 / count") -/
theorem c09_uniform (f : Orders.Forest) (out : List ℕ) (h : List ℕ → ℚ) :
    Dist.E (sampleOrder f out) h
      = (1 / ((allOrders f out).length : ℚ)) * lsum (allOrders f out) h :=
  sampleOrder_uniform f out h

/-- the reported density of a draw is one over the number of compatible orders -/
theorem c09_pdf (f : Orders.Forest) (out : List ℕ) :
    1 / countCode f out.length = 1 / ((allOrders f out).length : ℚ) := by
  rw [c09_count]

/-- non-vacuity: a chain 1 → 0 with a sibling clone {2} and one outlier has distinct data (and
twelve compatible orders: three of the forest, each with four places for the outlier) -/
example : ((Orders.Forest.cons [0] (.cons [1] .nil .nil) (.cons [2] .nil .nil)).all ++ [3]).Nodup := by
  decide

end PhyModel.Props.C09
