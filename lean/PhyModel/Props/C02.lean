import PhyModel.Proofs.LikIso
import PhyModel.Proofs.LikPos
import PhyModel.Model.Tree
/-! # C02 — tree likelihood = exact CCF-grid marginal under the sum constraint

Property theorems only; helper lemmas live in `Proofs/`.  The floating-point clauses of the
property (underflow floor, FFT accuracy, finiteness of the float result) are decided by the
correspondence check, not here (DESIGN.md 3.1). -/

namespace PhyModel.Props.C02

/-- Specification, written independently of the recursion: sum over **all** preorder assignments
of grid indices to the clones of `f` that are feasible (each clone's index at least the sum of its
children's, checked by `evalA`) and whose top-level total is at most `k`, of the product of the
clones' prior-weighted likelihoods at their indices. -/
def specUpTo (G : ℕ) (f : Forest) (k : ℕ) : ℚ :=
  lsum (allAssign G f.size) fun a =>
    match evalA f a with
    | some (tot, w) => if tot ≤ k then w else 0
    | none => 0

/-- **C02 (exact-arithmetic core).**  For every data set, sample, forest (any shape, any number of
children and top-level clones) and grid index `k`, the virtual root's likelihood vector equals the
prior times the brute-force constrained sum. -/
theorem rootR_eq_bruteforce (dt : Data) (s : ℕ) (f : DF) (k : ℕ) (hk : k < dt.G) :
    getQ (rootR dt s f) k = dt.prior * specUpTo dt.G (toLik dt s f) k := by
  unfold rootR
  rw [getQ_map_mul, getQ_prefixSum _ _ k hk,
    Finset.sum_congr rfl fun j hj => D_eq_spec _ _ j (lt_of_lt_of_le (Finset.mem_range.mp hj) hk), sum_specD]
  rfl

/-- the value does not depend on the order in which siblings are stored, at any depth -/
theorem rootR_iso (G : ℕ) {f g : Forest} (h : Iso f g) : D G f = D G g := D_iso G h

/-- non-vacuity: on a 3-point grid the last index is in range and a forest of two clones has nine
assignments to sum over -/
example : (3 : ℕ) - 1 < 3 ∧ (allAssign 3 2).length = 9 := by decide

/-- **C02 (sibling order, on data forests).**  The virtual root's likelihood vector is the same for
every order in which siblings are stored, at any depth (`DFIso`, `Proofs/DFIso.lean`: the congruence
generated by swapping adjacent siblings) — `D_iso` lifted through `toLik`. -/
theorem rootR_dfiso (dt : Data) (s : ℕ) {f g : DF} (h : DFIso f g) : rootR dt s f = rootR dt s g :=
  rootR_isoP dt s h.toP

/-- … and also for every order of the data inside a clone (`DFIsoP`) -/
theorem rootR_dfisoP (dt : Data) (s : ℕ) {f g : DF} (h : DFIsoP f g) : rootR dt s f = rootR dt s g :=
  rootR_isoP dt s h

/-- **C02 (finiteness).**  On a non-empty grid, if every likelihood value of every data point of
the forest is positive in sample `s`, every entry of the virtual root's vector is positive — its
logarithm, the value the code reports, is finite.  (Induction on the forest: `D` has non-negative
entries and a positive entry at index 0, so its prefix sums are positive everywhere; a clone's `R`
is then positive; the truncated convolution of a positive vector with one that is non-negative and
positive at 0 is again non-negative and positive at 0.) -/
theorem rootR_pos (dt : Data) (hG : 0 < dt.G) (s : ℕ) (f : DF)
    (hL : ∀ i ∈ f.all, ∀ k, k < dt.G → 0 < getQ (dt.L i s) k) (k : ℕ) (hk : k < dt.G) :
    0 < getQ (rootR dt s f) k := rootR_pos' dt hG s f hL k hk

/-- non-vacuity for `rootR_dfiso` / `rootR_pos`: two stored orders of a three-clone tree on a
2-point grid; the hypotheses hold and the common value is a genuine positive number -/
def exData : Data :=
  { G := 2, S := 1, vals := [[[1/2, 1/3]], [[1/4, 1]], [[1, 1/5]]], op := [], sz := [] }
def exF : DF := .cons [0] (.cons [1] .nil .nil) (.cons [2] .nil .nil)
def exG : DF := .cons [2] .nil (.cons [0] (.cons [1] .nil .nil) .nil)

example : exF ≠ exG ∧ rootR exData 0 exF = rootR exData 0 exG
    ∧ 0 < getQ (rootR exData 0 exF) 1 ∧ getQ (rootR exData 0 exF) 1 = 17/480 := by
  refine ⟨by simp [exF, exG], rootR_dfiso exData 0 (.swap _ _ _ _ _), ?_, by decide +kernel⟩
  have hL : ∀ i ∈ exF.all, ∀ k < exData.G, 0 < getQ (exData.L i 0) k := by decide +kernel
  exact rootR_pos exData (by decide) 0 exF hL 1 (by decide)

end PhyModel.Props.C02
