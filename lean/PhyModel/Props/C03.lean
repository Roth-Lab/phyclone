import PhyModel.Model.Density
import PhyModel.Proofs.DensityPos
import PhyModel.Proofs.CanonKey
import Mathlib.Tactic.NormNum
/-! # C03 — the joint density depends only on the tree, and is positive

Property theorems only; helper lemmas live in `Proofs/{DFIso,DensityPos,LikPos,CanonSort,
CanonEqv,CanonKey}.lean`.  The FS-CRP formula itself (`Model/Density.lean`) is the specification and is
compared with the code and with an independent transcription by the correspondence check.

Tree identity.  `DFIso` (defined in `Proofs/DFIso.lean`, because C02 uses it too) is the congruence
on data forests generated by swapping adjacent siblings at any depth; `DFIsoP` additionally allows
a permutation of each clone's own data list.  `DFIsoP` together with a permutation of the outlier
list is the model's rendering of "same clades and same outliers". -/

namespace PhyModel.Props.C03
open Orders.Forest

/-! ## 1. tree identity -/

/-- `DFIso` is contained in `DFIsoP` -/
theorem dfiso_toP {f g : DF} (h : DFIso f g) : DFIsoP f g := h.toP

/-- both relations preserve the multiset of data in the forest -/
theorem all_perm_of_isoP {f g : DF} (h : DFIsoP f g) : f.all.Perm g.all := all_isoP h

/-! ## 2. the two joint densities depend only on the tree -/

/-- **C03 (fixed-root form).**  `log_p_one` is the same for every sibling order at every depth, every
order of the data inside a clone and every order of the outlier list — for every data set, every
`α` and every forest. -/
theorem pOne_isoP (dt : Data) (α : ℚ) {f g : DF} {out out' : List ℕ}
    (h : DFIsoP f g) (ho : out.Perm out') :
    Density.pOne dt α f out = Density.pOne dt α g out' := Density.pOne_isoP dt α h ho

/-- **C03 (marginal form).**  The same invariance for `TreeJointDistribution.log_p`. -/
theorem pMarg_isoP (dt : Data) (α : ℚ) {f g : DF} {out out' : List ℕ}
    (h : DFIsoP f g) (ho : out.Perm out') :
    Density.pMarg dt α f out = Density.pMarg dt α g out' := Density.pMarg_isoP dt α h ho

theorem pOne_iso (dt : Data) (α : ℚ) {f g : DF} {out out' : List ℕ}
    (h : DFIso f g) (ho : out.Perm out') :
    Density.pOne dt α f out = Density.pOne dt α g out' := pOne_isoP dt α h.toP ho

theorem pMarg_iso (dt : Data) (α : ℚ) {f g : DF} {out out' : List ℕ}
    (h : DFIso f g) (ho : out.Perm out') :
    Density.pMarg dt α f out = Density.pMarg dt α g out' := pMarg_isoP dt α h.toP ho

/-! ## 3. the canonical form is the same tree -/

/-- the canonical form used by the harness and the driver to compare trees is the same tree -/
theorem canon_iso (f : DF) : DFIsoP f f.canon := canon_isoP f

/-- evaluating the densities on the canonical form (with the outliers sorted) is evaluating them on the
tree itself (`canon_iso`) -/
theorem pOne_canon (dt : Data) (α : ℚ) (f : DF) (out : List ℕ) :
    Density.pOne dt α f.canon (sortNat out) = Density.pOne dt α f out :=
  (pOne_isoP dt α (canon_iso f) (sortNat_perm out).symm).symm

theorem pMarg_canon (dt : Data) (α : ℚ) (f : DF) (out : List ℕ) :
    Density.pMarg dt α f.canon (sortNat out) = Density.pMarg dt α f out :=
  (pMarg_isoP dt α (canon_iso f) (sortNat_perm out).symm).symm

/-! ## 4. positivity (finite log-densities) -/

/-- positivity hypothesis on a data set: a non-empty grid, every likelihood value of every data
point in every sample positive, every outlier prior in `[0, 1)`.  (`outlierPriorOut` uses the
factor 1 for a data point with outlier prior 0, so no `> 0` is needed for outliers.)  The
quantifiers are bounded by the data set's own sizes: outside them `Data.L` returns the empty
vector, so an unbounded version would be unsatisfiable. -/
structure PosData (dt : Data) : Prop where
  G_pos : 0 < dt.G
  L_pos : ∀ i s k, i < dt.n → s < dt.S → k < dt.G → 0 < getQ (dt.L i s) k
  op_range : ∀ i, i < dt.n → 0 ≤ dt.opOf i ∧ dt.opOf i < 1

/-- **C03 (finiteness, fixed-root form).**  `log_p_one` is finite on a `PosData` data set: the model is in the
probability domain, where a finite logarithm is a positive value. -/
theorem pOne_pos (dt : Data) (hd : PosData dt) {α : ℚ} (hα : 0 < α) (f : DF) (out : List ℕ)
    (hidx : ∀ i ∈ f.all ++ out, i < dt.n) : 0 < Density.pOne dt α f out := by
  have hf : ∀ i ∈ f.all, i < dt.n := fun i hi => hidx i (List.mem_append_left _ hi)
  have ho : ∀ i ∈ out, i < dt.n := fun i hi => hidx i (List.mem_append_right _ hi)
  exact Density.pOne_pos' dt hα hd.G_pos f out
    (fun i hi s hs k hk => hd.L_pos i s k (hf i hi) hs hk)
    (fun i hi s hs k hk => hd.L_pos i s k (ho i hi) hs hk)
    (fun i hi => (hd.op_range i (hf i hi)).2) (fun i hi => (hd.op_range i (ho i hi)).1)

/-- **C03 (finiteness, marginal form).**  The same for `TreeJointDistribution.log_p`. -/
theorem pMarg_pos (dt : Data) (hd : PosData dt) {α : ℚ} (hα : 0 < α) (f : DF) (out : List ℕ)
    (hidx : ∀ i ∈ f.all ++ out, i < dt.n) : 0 < Density.pMarg dt α f out := by
  have hf : ∀ i ∈ f.all, i < dt.n := fun i hi => hidx i (List.mem_append_left _ hi)
  have ho : ∀ i ∈ out, i < dt.n := fun i hi => hidx i (List.mem_append_right _ hi)
  exact Density.pMarg_pos' dt hα hd.G_pos f out
    (fun i hi s hs k hk => hd.L_pos i s k (hf i hi) hs hk)
    (fun i hi s hs k hk => hd.L_pos i s k (ho i hi) hs hk)
    (fun i hi => (hd.op_range i (hf i hi)).2) (fun i hi => (hd.op_range i (ho i hi)).1)

/-! ## 5. the outlier marginal is the single-clone marginal -/

/-- the factor an outlier contributes is the marginal likelihood it would have alone in a
single-clone tree -/
theorem outlierMarg_single (dt : Data) (i : ℕ) :
    Density.outlierMarg1 dt i = Density.dataMarg dt (.cons [i] .nil .nil) := rfl

/-- the outlier term of a tree is the product over its outliers of the single-clone marginal likelihoods of
`outlierMarg_single` -/
theorem outlierMarg_eq (dt : Data) (out : List ℕ) :
    Density.outlierMarg dt out
      = prodL (out.map fun i => Density.dataMarg dt (.cons [i] .nil .nil)) := rfl

/-! ## 6. the canonical form is a complete invariant -/

/-- **C03 (tree key).**  On forests with distinct data (all below the sentinel `big`) and no empty
clone, two forests are the same tree exactly when their canonical forms coincide.  The direction
`←` needs no hypothesis (`isoP_of_canon_eq`). -/
theorem treeKey_iff {f g : DF} (hf : KeyWF f) : DFIsoP f g ↔ f.canon = g.canon :=
  ⟨fun h => canon_eq_of_isoP h hf, isoP_of_canon_eq⟩

/-- full tree identity including the outlier list -/
theorem treeKey_iff_out {f g : DF} (hf : KeyWF f) (out out' : List ℕ) :
    (DFIsoP f g ∧ out.Perm out') ↔ (f.canon = g.canon ∧ sortNat out = sortNat out') := by
  rw [treeKey_iff hf]
  refine and_congr Iff.rfl ⟨sortNat_perm_eq, fun h => ?_⟩
  exact (sortNat_perm out).symm.trans (h ▸ sortNat_perm out')

/-! ## non-vacuity -/

/-- three data points, two grid points, one sample; data point 0 has outlier modelling off -/
def exData : Data :=
  { G := 2, S := 1, vals := [[[1/2, 1/3]], [[1/4, 1]], [[1, 1/5]]], op := [0, 1/10, 1/2], sz := [1, 2, 1] }

/-- two top-level clones, the first with a child -/
def exF : DF := .cons [0] (.cons [1] .nil .nil) (.cons [2] .nil .nil)
/-- `exF` with the top-level clones stored in the other order -/
def exG : DF := .cons [2] .nil (.cons [0] (.cons [1] .nil .nil) .nil)

example : DFIso exF exG ∧ exF ≠ exG := ⟨.swap _ _ _ _ _, by simp [exF, exG]⟩

example : DFIsoP (.cons [0, 1] .nil .nil) (.cons [1, 0] .nil .nil) :=
  .cons (List.Perm.swap 1 0 []) (.refl _) (.refl _)

theorem exData_pos : PosData exData where
  G_pos := by decide
  L_pos := by
    have h : ∀ i < exData.n, ∀ s < exData.S, ∀ k < exData.G, 0 < getQ (exData.L i s) k := by
      decide +kernel
    exact fun i s k hi hs hk => h i hi s hs k hk
  op_range := by
    have h : ∀ i < exData.n, 0 ≤ exData.opOf i ∧ exData.opOf i < 1 := by decide +kernel
    exact h

/-- `pOne_iso`, `pOne_pos` (and the marginal forms) apply to a concrete non-trivial input: the two
stored orders give the same, positive, value — also with an outlier -/
example : Density.pOne exData 1 exF [] = Density.pOne exData 1 exG []
    ∧ 0 < Density.pOne exData 1 exF [] ∧ 0 < Density.pMarg exData (7/2) exG [] :=
  ⟨pOne_iso exData 1 (.swap _ _ _ _ _) (List.Perm.refl _),
   pOne_pos exData exData_pos one_pos exF [] (by decide),
   pMarg_pos exData exData_pos (by norm_num) exG [] (by decide)⟩

example : Density.pMarg exData 1 (.cons [0, 1] .nil .nil) [2]
      = Density.pMarg exData 1 (.cons [1, 0] .nil .nil) [2]
    ∧ 0 < Density.pOne exData (1/10) (.cons [0, 1] .nil .nil) [2] :=
  ⟨pMarg_isoP exData 1 (.cons (List.Perm.swap 1 0 []) (.refl _) (.refl _)) (List.Perm.refl _),
   pOne_pos exData exData_pos (by norm_num) _ [2] (by decide)⟩

/-- `canon_iso` / `treeKey_iff` on a concrete input: `exG` is not canonical, its canonical form is
`exF`, and `exF` meets the key hypotheses -/
example : exG.canon = exF ∧ exG.canon ≠ exG := by
  have h : exG.canon = exF := rfl
  refine ⟨h, ?_⟩
  rw [h]; simp [exF, exG]

theorem exF_keyWF : KeyWF exF :=
  ⟨by decide, by decide, List.cons_ne_nil _ _, ⟨List.cons_ne_nil _ _, trivial, trivial⟩,
    List.cons_ne_nil _ _, trivial, trivial⟩

example : DFIsoP exF exG ↔ exF.canon = exG.canon := treeKey_iff exF_keyWF

/-- `outlierMarg_single` on a concrete input: the value is a genuine number, not a default -/
example : Density.outlierMarg1 exData 2 = 11/20 := by decide +kernel

end PhyModel.Props.C03
