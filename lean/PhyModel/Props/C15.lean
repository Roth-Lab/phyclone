import PhyModel.Proofs.DictInv
import PhyModel.Proofs.TraceEntries
/-! # C15 — trees survive serialisation; trace entries are self-consistent

Part 1 is about the store model of `phyclone.tree.Tree` (`Model/Store.lean`: `toDict`, `fromDict`, with
`buildSF` the rebuild of the graph from the edge list, payloads re-created by `TreeNode(...)` +
`add_data_point_list` in `_data` order, then `update()`).  The hypotheses are the shared store
invariants of C06/C07 (`Proofs/StoreInv.lean`: `WF`, `Full`, `CacheOK`) plus the payload-order
normalisation `Aligned`; `WFd` (`Model/DictRT.lean`) is the part of them the round trip actually needs
(`wfd_of_shared`).  Graph indices may have arbitrary gaps and any order, node names are arbitrary
non-negative integers, outliers and clone-less trees are included.

Part 2 is about the main loop of `run.py:_run_main_sampler`: its control-flow skeleton
(`RunLoop.mainFrom` / `runSchedule`, the model the driver executes for the correspondence) and the
stateful loop `TraceLoop.runMain`, in which the samplers, the concentration draw, the clock and the
time-limit comparison are oracles, so the statements hold for every outcome of every one of them. -/

namespace PhyModel.Props.C15
open PhyModel.Store PhyModel.Store.Store PhyModel.RunLoop PhyModel.TraceLoop

/-- The invariants a reachable store satisfies, in the shared vocabulary of `Proofs/StoreInv.lean`:
C07's `WF` (names / graph indices unique, the two maps are exactly the payload pairs, `_data` keyed by
clone names or the outlier key and listing each clone's payload set, every data point in one place;
graph indices may have arbitrary gaps), `Full` (every clone has a `_data` entry), C06's `CacheOK`, and
the payload-order normalisation `Aligned` (also `Proofs/StoreInv.lean`: the payload's data-point set is
listed in `_data` order, the order in which `from_dict` re-adds it). -/
def Inv (dt : Data) (s : Store) : Prop := WF s ∧ Full s ∧ CacheOK dt s ∧ Aligned s

theorem Inv.wfd {dt : Data} {s : Store} (h : Inv dt s) : WFd dt s :=
  wfd_of_shared dt s h.1 h.2.1 h.2.2.1 h.2.2.2

/-! ## Part 1: dictionary round trip -/

/-- **Round trip, minimal hypotheses.**  For every store satisfying `WFd` (the part of the invariants
the round trip needs, `Model/DictRT.lean`), `Tree.from_dict(t.to_dict())` succeeds and yields
`normRoot dt s`: the same payload forest (shape, graph indices with their gaps, names, data points,
cached `log_p` and `log_r` of every clone), the same two index maps, the same `_data` map (outliers
included), the same `_last_node_added_to`, and — whenever the tree has a clone — the same root
vector, i.e. literally the same store; on a clone-less tree only the never-read root vector is
recomputed.  Consequently both joint densities (`log_p_one`, `log_p`) agree for every `α`. -/
theorem fromDict_toDict_wfd (dt : Data) (s : Store) (h : WFd dt s) :
    fromDict dt (toDict s) = some (normRoot dt s) ∧
    (normRoot dt s).forest = s.forest ∧ (normRoot dt s).nodeIdx = s.nodeIdx ∧
    (normRoot dt s).nodeIdxRev = s.nodeIdxRev ∧ (normRoot dt s).data = s.data ∧
    (normRoot dt s).last = s.last ∧ (normRoot dt s).labels = s.labels ∧
    (s.forest.isNil = false → normRoot dt s = s) ∧
    (∀ α, pOneC dt α (normRoot dt s) = pOneC dt α s) ∧ (∀ α, pMargC dt α (normRoot dt s) = pMargC dt α s) := by
  have e := normRoot_eq dt s
  exact ⟨fromDict_toDict_norm dt s h, (congrArg Store.forest e :), (congrArg Store.nodeIdx e :),
    (congrArg Store.nodeIdxRev e :), (congrArg Store.data e :), (congrArg Store.last e :), labels_normRoot dt s,
    normRoot_of_not_nil dt s, fun α => pOneC_normRoot dt α s, fun α => pMargC_normRoot dt α s⟩

/-- **Round trip** for every store satisfying the shared invariants `WF s ∧ Full s ∧ CacheOK dt s`
and `Aligned s` (any gaps in the graph indices, any names, outliers, clone-less trees): same forest,
names, indices, `_data`, last-added clone, labels, cached vectors and both densities. -/
theorem fromDict_toDict (dt : Data) (s : Store) (hw : WF s) (hf : Full s) (hc : CacheOK dt s) (ha : Aligned s) :
    fromDict dt (toDict s) = some (normRoot dt s) ∧
    (normRoot dt s).forest = s.forest ∧ (normRoot dt s).nodeIdx = s.nodeIdx ∧
    (normRoot dt s).nodeIdxRev = s.nodeIdxRev ∧ (normRoot dt s).data = s.data ∧
    (normRoot dt s).last = s.last ∧ (normRoot dt s).labels = s.labels ∧
    (s.forest.isNil = false → normRoot dt s = s) ∧
    (∀ α, pOneC dt α (normRoot dt s) = pOneC dt α s) ∧ (∀ α, pMargC dt α (normRoot dt s) = pMargC dt α s) :=
  fromDict_toDict_wfd dt s (wfd_of_shared dt s hw hf hc ha)

/-- **Exact round trip.**  If moreover the root vector is current (always the case after any edit
that touched a clone, after `update()`, and after a first round trip), the restored store *is* the
original: `from_dict(to_dict(t)) = t`, field by field, caches included. -/
theorem fromDict_toDict_eq (dt : Data) (s : Store) (h : Inv dt s)
    (hr : s.forest.isNil = true → s.rootR = recompRoot dt s.forest) :
    fromDict dt (toDict s) = some s := by
  rw [fromDict_toDict_norm dt s h.wfd, normRoot]
  split
  · rename_i hn
    rw [← hr hn]
  · rfl

theorem inv_normRoot (dt : Data) (s : Store) (h : Inv dt s) : Inv dt (normRoot dt s) :=
  normRoot_inv dt s h.1 h.2.1 h.2.2.1 h.2.2.2

/-- The restored store satisfies the invariants again and is a fixed point of the round trip. -/
theorem roundtrip_fixed_point (dt : Data) (s : Store) (h : Inv dt s) :
    Inv dt (normRoot dt s) ∧ fromDict dt (toDict (normRoot dt s)) = some (normRoot dt s) := by
  have hw := inv_normRoot dt s h
  refine ⟨hw, ?_⟩
  rw [fromDict_toDict_norm dt _ hw.wfd, normRoot_idem]

/-- **Further editing.**  A dictionary round trip of any live handle in the middle of an edit history
(`Op.dictRT`, the model of `t = Tree.from_dict(t.to_dict())`) never fails on a store satisfying the
invariants and changes nothing that any later operation can see: every continuation `ops`
(placements, data-point moves, `get_subtree` / `remove_subtree` / `add_subtree`, `relabel_nodes`,
`copy`, further round trips, node creation with index allocation) runs to the same result — same
failure or same stores — as without the round trip.  (In the code the stored order of a clone's
children may be permuted by the round trip, so names handed out by a later `relabel_nodes` /
`add_subtree` agree up to that permutation only; the check compares continuations clone by clone.) -/
theorem roundtrip_edits_commute (dt : Data) (sys : Sys) (h : ℕ) (s : Store) (hs : sys[h]? = some s)
    (hw : Inv dt s) (hr : s.forest.isNil = true → s.rootR = recompRoot dt s.forest) (ops : List Op) :
    run dt sys (Op.dictRT h :: ops) = run dt sys ops := by
  have hset : setH sys h s = sys := by
    obtain ⟨hlt, hget⟩ := List.getElem?_eq_some_iff.1 hs
    unfold setH
    rw [← hget]
    exact List.set_getElem_self hlt
  have hstep : step dt sys (.dictRT h) = some sys := by
    show (sys[h]? >>= fun s => fromDict dt s.toDict >>= fun r => pure (setH sys h r)) = _
    rw [hs, Option.bind_eq_bind, Option.bind_some, fromDict_toDict_eq dt s hw hr, Option.bind_some, hset]
    rfl
  unfold run
  rw [List.foldlM_cons, hstep]
  rfl

/-! ### non-vacuity: a store with a gap in the graph indices (after `remove_subtree`) and an outlier -/

def exData : Data :=
  { G := 2, S := 1, vals := [[[1/2, 1]], [[1, 1/2]], [[1/4, 1/2]], [[1/2, 1/2]], [[1, 1/4]]],
    op := [1/4, 1/4, 1/4, 1/4, 1/4], sz := [1, 1, 1, 1, 1] }

/-- clones 0 = {0}, 1 = {1,2}, 2 = {3} above both; prune the subtree of clone 1; data point 4 an outlier -/
def exOps : List Op :=
  [.create 0 [] [0], .create 0 [] [1, 2], .create 0 [0, 1] [3], .getSub 0 (some 1), .rmSub 0 1, .addDp 0 4 (-1)]

def exStore : Store := ((run exData [Store.init exData] exOps).getD []).getD 0 (Store.init exData)

/-- graph indices 3 and 1 (2 is a hole), names 2 and 0, one outlier, last edit = the outliers -/
example : exStore.forest.idxs = [3, 1] ∧ exStore.forest.names = [2, 0] ∧ exStore.outliers = [4] ∧
    (toDict exStore).edges = [(0, 3), (3, 1)] ∧ exStore.last = some (-1) := by decide +kernel

/-- the shared invariants hold of a concrete store once the executable tests pass -/
theorem inv_of_tests (dt : Data) (s : Store)
    (h : (wfShB s && fullB s && cacheOKB dt s && alignedB s) = true) : Inv dt s :=
  shared_of_tests dt s h

theorem exStore_inv : Inv exData exStore := inv_of_tests _ _ (by decide +kernel)

theorem exStore_root : exStore.forest.isNil = true → exStore.rootR = recompRoot exData exStore.forest := by
  decide +kernel

example : fromDict exData (toDict exStore) = some exStore :=
  fromDict_toDict_eq exData exStore exStore_inv exStore_root
example := fromDict_toDict exData exStore exStore_inv.1 exStore_inv.2.1 exStore_inv.2.2.1 exStore_inv.2.2.2
example := fromDict_toDict_wfd exData exStore exStore_inv.wfd
example := roundtrip_fixed_point exData exStore exStore_inv
/-- continue editing after the round trip: a new clone (allocates a graph index), then relabel -/
example := roundtrip_edits_commute exData [exStore] 0 exStore rfl exStore_inv exStore_root
  [.create 0 [2] [4], .relabel 0]
/-- clone-less trees: the fresh store's root vector is all ones, `update()` makes it the prior; an
outlier-only store restores with the recomputed (never read) root vector -/
example : Inv exData (Store.init exData) ∧
    (fromDict exData (toDict (Store.init exData))).map (·.rootR) = some [[1/2, 1/2]] ∧
    (Store.init exData).rootR = [[1, 1]] := by
  refine ⟨inv_of_tests _ _ (by decide +kernel), by decide +kernel, by decide +kernel⟩

/-! ## Part 2: the trace -/

/-- **Schedule.**  For every `num_iters`, every thinning interval `thin ≥ 1` (and `print_freq ≥ 1`)
and every outcome of the time-limit comparisons, `_run_main_sampler` records the post-burn-in state
first (`iter = 0`), then exactly the iterations `j` of `range(num_iters)` — i.e. `0 ≤ j < m` — with
`j % thin = 0`, in increasing order, where `m` is the number of iterations executed: `m = num_iters`
unless the time limit cut the run, in which case the comparison `elapsed >= max_time` fired in
iteration `m - 1` (whose entry, if due, is still recorded) and in no earlier iteration. -/
theorem trace_schedule (c : Cfg) (hth : 1 ≤ c.thin) (hpf : 1 ≤ c.printFreq) (hN : 1 ≤ c.numParticles)
    (stopB stopM : ℕ → Bool) :
    ∃ out m, runSchedule c stopB stopM = .ok out ∧
      out.iters = 0 :: (List.range' 0 m).filter (fun j => j % c.thin = 0) ∧ out.mainIters = m ∧
      m ≤ c.numIters ∧ (∀ j, j + 1 < m → stopM j = false) ∧ (m < c.numIters → 0 < m ∧ stopM (m - 1) = true) := by
  obtain ⟨b, eb, _, _⟩ := burninFrom_ok c.printFreq hpf stopB c.burnin 0
  obtain ⟨m, em, _, h1, h2, h3⟩ := mainFrom_spec c.thin c.printFreq hth hpf stopM c.numIters 0 [0]
  rw [Nat.zero_add] at h1 h3
  unfold runSchedule
  rw [particlesGuard_ok c hN, ok_bind, eb, ok_bind, em]
  exact ⟨_, m, rfl, rfl, rfl, h1, fun j => h2 j (Nat.zero_le j), h3⟩

/-- thin does not divide num_iters; no time limit: `0`, then `0, 3, 6` of `range(8)` -/
example : runSchedule ⟨1, 8, 3, 1, 1, 0, 0, false⟩ (fun _ => false) (fun _ => false)
    = .ok ⟨1, 8, [0, 0, 3, 6], 0, 0, 0⟩ := by decide +kernel
/-- the limit fires in iteration 4 of 10 (thin 2): iterations 0..4 run, entries `0 | 0, 2, 4` -/
example : runSchedule ⟨1, 10, 2, 1, 1, 0, 0, false⟩ (fun _ => false) (fun i => decide (4 ≤ i))
    = .ok ⟨1, 5, [0, 0, 2, 4], 0, 0, 0⟩ := by decide +kernel
/-- the limit is already exceeded during burn-in: the first main iteration still runs and is recorded -/
example : runSchedule ⟨3, 10, 2, 1, 1, 0, 0, false⟩ (fun i => decide (1 ≤ i)) (fun _ => true)
    = .ok ⟨2, 1, [0, 0], 0, 0, 0⟩ := by decide +kernel

/-- The same with the wall clock (`with timer:` semantics: the comparison in iteration `j` sees the
burn-in plus the durations of the iterations before `j`): the recorded iterations are a prefix of the
untimed schedule, cut exactly where the accumulated time first reaches the limit. -/
theorem trace_schedule_timed (c : Cfg) (hth : 1 ≤ c.thin) (hpf : 1 ≤ c.printFreq) (hN : 1 ≤ c.numParticles)
    (maxT : Option ℚ) (dB dM : ℕ → ℚ) :
    ∃ out m b, runTimed c maxT dB dM = .ok out ∧
      out.iters = 0 :: (List.range' 0 m).filter (fun j => j % c.thin = 0) ∧ m ≤ c.numIters ∧
      (∀ j, j + 1 < m → stopMain maxT (RunLoop.sumTo dB b) dM j = false) ∧
      (m < c.numIters → 0 < m ∧ stopMain maxT (RunLoop.sumTo dB b) dM (m - 1) = true) := by
  obtain ⟨b, eb, _, _⟩ := burninFrom_ok c.printFreq hpf (stopBurnin maxT dB) c.burnin 0
  obtain ⟨out, m, e, h1, _, h3, h4, h5⟩ :=
    trace_schedule c hth hpf hN (stopBurnin maxT dB) (stopMain maxT (RunLoop.sumTo dB b) dM)
  refine ⟨out, m, b, ?_, h1, h3, h4, h5⟩
  unfold runTimed
  rw [particlesGuard_ok c hN, ok_bind, eb, ok_bind, e]

/-- limit 7/2 with unit durations, burn-in 1: main iteration `j` sees `1 + j`; stops in `j = 3` -/
example : (runTimed ⟨1, 10, 3, 1, 1, 0, 0, false⟩ (some (7/2)) (fun _ => 1) (fun _ => 1)).toOption.map (·.iters)
    = some [0, 0, 3] := by decide +kernel

/-- **What an entry is built from.**  The trace of the stateful loop is, entry by entry: the
post-burn-in state, then for every scheduled iteration `j` the entry built by `append_to_trace` from
the chain state *after* iteration `j` — the tree after the samplers and `relabel_nodes()`, the
concentration value after `update_concentration_value` (when enabled) — with `log_p_one` evaluated on
exactly that tree under exactly that concentration value, and the tree stored in dictionary form. -/
theorem entry_after_update (dt : Data) (o : Oracles) (cu : Bool) (thin numIters : ℕ) (st0 : St) :
    ∃ m, (runMain dt o cu thin numIters st0).1
        = mkEntry dt 0 (o.clock 0) st0 ::
            ((List.range' 0 m).filter (fun j => j % thin = 0)).map
              (fun j => mkEntry dt j (o.clock j) (stateAt o cu st0 (j + 1))) ∧
      (∀ j, (stateAt o cu st0 (j + 1)).tree = (o.moves j (stateAt o cu st0 j).tree).relabelNodes ∧
            (stateAt o cu st0 (j + 1)).alpha
              = if cu then o.conc j (stateAt o cu st0 j).alpha (stateAt o cu st0 (j + 1)).tree
                else (stateAt o cu st0 j).alpha) ∧
      m ≤ numIters ∧ (m < numIters → 0 < m ∧ o.stop (m - 1) = true) := by
  obtain ⟨m, e, h1, _, h3⟩ := runMain_spec dt o cu thin numIters st0
  exact ⟨m, congrArg Prod.fst e, fun j => ⟨rfl, rfl⟩, h1, h3⟩

/-- **Entry consistency.**  If the tree after burn-in satisfies the store invariant and every
iteration's samplers followed by `relabel_nodes` preserve it (C06/C07), then every recorded entry
restores with `Tree.from_dict`, and `log_p_one` of the restored tree under the entry's recorded
concentration value is the entry's recorded `log_p_one` — for every outcome of the samplers, of the
concentration draws and of the clock, with the concentration update on or off. -/
theorem entry_consistent (dt : Data) (o : Oracles) (cu : Bool) (thin numIters : ℕ) (st0 : St)
    (h0 : Inv dt st0.tree) (hstep : ∀ i s, Inv dt s → Inv dt (o.moves i s).relabelNodes) :
    ∀ e ∈ (runMain dt o cu thin numIters st0).1,
      ∃ s', fromDict dt e.tree = some s' ∧ pOneC dt e.alpha s' = e.logPOne := by
  intro e he
  obtain ⟨j, t, k, _, rfl⟩ := mem_trace dt o cu thin numIters st0 e he
  have hw := stateAt_inv o cu st0 (Inv dt) h0 hstep k
  exact ⟨_, mkEntry_restores dt j t _ hw.wfd⟩

/-- **Entries hold all data.**  If moreover the samplers conserve the data (every index of `0..n-1` in
exactly one place, C07 `data_conserved`), every recorded entry restores to a tree that holds every
data point exactly once. -/
theorem entry_data_complete (dt : Data) (n : ℕ) (o : Oracles) (cu : Bool) (thin numIters : ℕ) (st0 : St)
    (h0 : Inv dt st0.tree ∧ dataCompleteB n st0.tree = true)
    (hstep : ∀ i s, Inv dt s ∧ dataCompleteB n s = true →
      Inv dt (o.moves i s).relabelNodes ∧ dataCompleteB n (o.moves i s).relabelNodes = true) :
    ∀ e ∈ (runMain dt o cu thin numIters st0).1,
      ∃ s', fromDict dt e.tree = some s' ∧ dataCompleteB n s' = true := by
  intro e he
  obtain ⟨j, t, k, _, rfl⟩ := mem_trace dt o cu thin numIters st0 e he
  have hw := stateAt_inv o cu st0 (fun s => Inv dt s ∧ dataCompleteB n s = true) h0 hstep k
  refine ⟨_, (mkEntry_restores dt j t _ hw.1.wfd).1, ?_⟩
  have := hw.2
  unfold dataCompleteB at this ⊢
  rw [labels_normRoot]
  exact this

/-! ### non-vacuity: a two-iteration chain on `exData` whose "sampler" moves data point 4 from the
outliers into clone 0 in iteration 0 and whose concentration draws are 2 and 3 -/

def exFull : Store :=
  ((run exData [Store.init exData] [.create 0 [] [0, 1], .create 0 [0] [2, 3], .addDp 0 4 (-1)]).getD []).getD 0
    (Store.init exData)

def exMoved : Store :=
  ((run exData [exFull] [.rmOut 0 4, .addDp 0 4 0]).getD []).getD 0 exFull

def exO : Oracles :=
  { moves := fun i t => if i = 0 then exMoved else t,
    conc := fun i _ _ => if i = 0 then 2 else 3,
    clock := fun i => (i : Rat) + 1,
    stop := fun _ => false }

example : (runMain exData exO true 1 2 ⟨exFull, 1⟩).1.map (fun e => (e.iter, e.alpha, e.logPOne))
    = [(0, 1, pOneC exData 1 exFull), (0, 2, pOneC exData 2 exMoved.relabelNodes),
       (1, 3, pOneC exData 3 exMoved.relabelNodes.relabelNodes)] := rfl

example : Inv exData exFull ∧ dataCompleteB 5 exFull = true ∧
    Inv exData exMoved.relabelNodes ∧ dataCompleteB 5 exMoved.relabelNodes = true ∧
    pOneC exData 1 exFull ≠ pOneC exData 2 exMoved.relabelNodes := by
  refine ⟨inv_of_tests _ _ (by decide +kernel), by decide +kernel, inv_of_tests _ _ (by decide +kernel),
    by decide +kernel, by decide +kernel⟩

end PhyModel.Props.C15
