import PhyModel.Proofs.MemoBridge
import PhyModel.Model.Proposal
/-! # C14 — memoised recursion and proposal results equal unmemoised computation

Property theorems only; helper lemmas live in `Proofs/CacheProofs.lean` (LRU table) and
`Proofs/MemoProofs.lean` (order-insensitivity of the children recursion, content keys).

The memo table is `Model/Cache.lean`: a keyed LRU list with a capacity (`functools.lru_cache`
behind a content key), operations `call e a` (a call with argument `a` while the environment — the
concentration value — is `e`) and `clear`.  `Cache.run` is the memoised execution of a history,
`Cache.direct` the unmemoised one.  Collision-freeness of the content digest (xxhash) and
`functools.lru_cache` itself are trusted; the floating-point side (a hit on a permuted children list
returns the value computed in another summation order) is decided by the shadow comparison of the
correspondence check, not here. -/

namespace PhyModel.Props.C14
open PhyModel.Cache PhyModel.Memo

/-- **C14 (core).**  For every history of calls and clears, every capacity (hence every eviction
pattern), every sequence of environments and every sound starting table, the memoised execution
returns exactly the values of the unmemoised one — provided the function respects the key. -/
theorem cache_sound {E A K V : Type} [DecidableEq K] (key : E → A → K) (f : E → A → V)
    (hresp : ∀ e a e' a', key e a = key e' a' → f e a = f e' a')
    (ops : List (Op E A)) (c : Cache K V) (hc : Sound key f c.entries) :
    (run key f c ops).2 = direct f ops :=
  Cache.cache_sound key f hresp ops c hc

/-- the same from the empty table a process starts with, for every capacity -/
theorem cache_sound_from_empty {E A K V : Type} [DecidableEq K] (key : E → A → K) (f : E → A → V)
    (hresp : ∀ e a e' a', key e a = key e' a' → f e a = f e' a') (cap : ℕ) (ops : List (Op E A)) :
    (run key f ⟨[], cap⟩ ops).2 = direct f ops :=
  Cache.cache_sound_from_empty key f hresp cap ops

/-- non-vacuity: a key that identifies arguments modulo 3, a function that respects it, capacity 2;
the history below contains a hit (`4 ≡ 1`), an eviction and a clear, and both executions agree. -/
example :
    let key : Unit → ℕ → ℕ := fun _ a => a % 3
    let f : Unit → ℕ → ℕ := fun _ a => 10 * (a % 3)
    let ops : List (Op Unit ℕ) := [.call () 1, .call () 4, .call () 2, .call () 0, .clear, .call () 1]
    (∀ e a e' a', key e a = key e' a' → f e a = f e' a') ∧
    (runTrace key f ⟨[], 2⟩ ops).map (fun t => (t.1, t.2.2)) =
      [(false, 1), (true, 1), (false, 2), (false, 2), (false, 0), (false, 1)] ∧
    (run key f ⟨[], 2⟩ ops).2 = direct f ops := by
  intro key f ops
  have hresp : ∀ e a e' a', key e a = key e' a' → f e a = f e' a' := by
    intro _ a _ a' h
    simp only [key, f] at h ⊢
    rw [h]
  exact ⟨hresp, by decide +kernel, Cache.cache_sound_from_empty key f hresp 2 ops⟩

/-- the premise is needed: with a key that forgets the environment (a proposal cache keyed
without `alpha`) a stale value is returned after the environment changed -/
example :
    (run (envKey false) (fun e a => 100 * e + a) ⟨[], 8⟩ [.call 1 0, .call 2 0]).2
      ≠ direct (fun e a => 100 * e + a) [.call 1 0, .call 2 0] := by decide +kernel

/-! ## the two numeric caches -/

/-- any permutation of the children list gives the same `D` (hence the same `S`):
`compute_log_S` / `compute_log_D` do not depend on the order of the children -/
theorem logS_perm (G S : ℕ) {l1 l2 : List Mat} (h : l1.Perm l2) : logS G S l1 = logS G S l2 := by
  unfold logS
  rw [childD_perm G S h]

/-- **key premise of `compute_log_S`**: the key is the sorted multiset of the children's contents;
equal keys give equal values -/
theorem logS_respects_key (G S : ℕ) (e : Unit) (a : List Mat) (e' : Unit) (a' : List Mat)
    (h : logSKey e a = logSKey e' a') : logSFun G S e a = logSFun G S e' a' :=
  logS_perm G S (keyS_perm_of_eq h)

/-- non-vacuity: two different orders of three children (one repeated) have the same key -/
example :
    let A : Mat := [[1, 1/2, 0], [1/4, 1, 1]]
    let B : Mat := [[1, 1/2, 0], [1/4, 1, 1/2]]
    [A, B, A] ≠ [B, A, A] ∧ logSKey () [A, B, A] = logSKey () [B, A, A] ∧
      logSKey () [A, B, A] ≠ logSKey () [A, B, B] := by
  refine ⟨by decide +kernel, by decide +kernel, by decide +kernel⟩

/-- **key premise of `_convolve_two_children`**: the key is the unordered pair -/
theorem conv_respects_key (G : ℕ) (e : Unit) (ab : Mat × Mat) (e' : Unit) (ab' : Mat × Mat)
    (h : convKey e ab = convKey e' ab') : convFun G e ab = convFun G e' ab' := by
  obtain ⟨a, b⟩ := ab
  obtain ⟨a', b'⟩ := ab'
  rcases keyPair_cases h with ⟨h1, h2⟩ | ⟨h1, h2⟩
  · simp only [convFun] at *; rw [h1, h2]
  · simp only [convFun] at *; rw [h1, h2]; exact convM_comm G _ _

example : convKey () ([[1, 2]], [[3, 4]]) = convKey () ([[3, 4]], [[1, 2]]) := by decide +kernel

/-- **C14 for `compute_log_S`**: every history (calls with repeated / permuted children lists,
clears, evictions at any capacity) returns the unmemoised values -/
theorem logS_memo_sound (G S cap : ℕ) (ops : List (Op Unit (List Mat))) :
    (run logSKey (logSFun G S) ⟨[], cap⟩ ops).2 = direct (logSFun G S) ops :=
  Cache.cache_sound_from_empty _ _ (logS_respects_key G S) cap ops

/-- **C14 for `_convolve_two_children`** -/
theorem conv_memo_sound (G cap : ℕ) (ops : List (Op Unit (Mat × Mat))) :
    (run convKey (convFun G) ⟨[], cap⟩ ops).2 = direct (convFun G) ops :=
  Cache.cache_sound_from_empty _ _ (conv_respects_key G) cap ops

/-- non-vacuity: a permuted repeat is a hit (second call), and the value is the directly computed one -/
example :
    let A : Mat := [[1, 2, 0]]
    let B : Mat := [[1, 1, 3]]
    (runTrace logSKey (logSFun 3 1) ⟨[], 1⟩ [.call () [A, B], .call () [B, A]]).map (fun t => t.1)
      = [false, true] ∧
    logSFun 3 1 () [A, B] = [[1, 4, 9]] := by
  refine ⟨by decide +kernel, by decide +kernel⟩

/-- the memoised function is the recursion C02 is about: on the `R` vectors of the top-level clones of
any non-empty forest `compute_log_S` returns the prefix sums of C02's `D` (single sample; the samples
are independent rows) -/
theorem logS_eq_prefixSum_D (G : ℕ) (f : Forest) (hf : f ≠ .nil) :
    logS G 1 ((kidsR G f).map fun v => [v]) = [prefixSum G (D G f)] := by
  unfold logS
  rw [childD_eq_D G f hf]
  rfl

example : (Forest.cons [1, 2] (.cons [1, 1] .nil .nil) (.cons [3, 1] .nil .nil)) ≠ .nil ∧
    (kidsR 2 (Forest.cons [1, 2] (.cons [1, 1] .nil .nil) (.cons [3, 1] .nil .nil))).length = 2 := by
  refine ⟨by simp, by simp [kidsR]⟩

/-- the driver's tracing run reports the values of `Cache.run` -/
theorem trace_values {E A K V : Type} [DecidableEq K] (key : E → A → K) (f : E → A → V)
    (ops : List (Op E A)) (c : Cache K V) :
    (runTrace key f c ops).map (fun t => t.2.1) = (run key f c ops).2 := by
  induction ops generalizing c with
  | nil => rfl
  | cons op ops ih => simp only [runTrace, run, List.map_cons]; rw [ih]

/-! ## the proposal caches

`_get_cached_semi_proposal_dist` / `_get_cached_full_proposal_dist` are `lru_cache`d on
`(data_point, kernel, parent_particle, outlier_proposal_prob, alpha)` and `get_cached_new_tree` on
`(parent_particle, data_point, children, tree_dist, perm_dist)` (`tree_dist` hashes as its `alpha`).
The proposal model is `Model/Proposal.lean`: `table dt c first p i` is the proposal table
(`log_p()` of every placement), `Cfg` carries the kernel parameters (`kind`, `op`, `usePerm`) and
`α`; the data set `dt` is fixed per process.  The generic half — any key that carries both the
environment and the argument is sound — is `env_key_sound`; the proposal-specific half is that the
modelled table and new-clone tree take no input beyond the key's components. -/

theorem env_key_sound {Alpha Arg V : Type} [DecidableEq Alpha] [DecidableEq Arg]
    (table : Alpha → Arg → V) (cap : ℕ) (ops : List (Op Alpha Arg)) :
    (run (fun α a => (a, α)) table ⟨[], cap⟩ ops).2 = direct table ops := by
  apply Cache.cache_sound_from_empty
  intro e a e' a' h
  simp only [Prod.mk.injEq] at h
  rw [h.1, h.2]

/-- non-vacuity: alpha 1 → 2 → 1 with the same argument: miss, miss, hit on the entry of alpha 1 -/
example :
    (runTrace (fun (α : ℕ) (a : ℕ) => (a, α)) (fun α a => 100 * α + a) ⟨[], 8⟩
      [.call 1 0, .call 2 0, .call 1 0]).map (fun t => (t.1, t.2.1)) =
      [(false, some 100), (false, some 200), (true, some 100)] := by decide +kernel

open PhyModel.Proposal

/-- what the key of `_get_cached_{semi,full}_proposal_dist` carries: data point, kernel parameters
(proposal kind, outlier proposal probability, with / without permutation distribution), parent
particle (`first` = `parent_particle is None`, else its tree `p`) and `alpha` -/
abbrev PKey := ℕ × Prop3 × ℚ × Bool × Bool × T × ℚ

instance : DecidableEq PKey :=
  have : DecidableEq (Bool × Bool × T × ℚ) := inferInstance
  inferInstance

def proposalKey (c : Cfg) (first : Bool) (p : T) (i : ℕ) : PKey :=
  (i, c.kind, c.op, c.usePerm, first, p, c.α)

/-- the `TreeHolder`s of the new-clone placements (`get_cached_new_tree`): each tree with a new
clone holding `i` above a subset of the top-level clones of `p`, together with its cached
`log_p`, `log_p_one` and permutation `log_pdf` -/
def newTrees (dt : Data) (c : Cfg) (p : T) (i : ℕ) : List (T × ℚ × ℚ × ℚ) :=
  (placements p i).filterMap fun (k, t) =>
    match k with
    | .newNode _ => some (t, pMargT dt c t, pOneT dt c t, pdfOf c t)
    | _ => none

/-- one call of `get_cached_new_tree`: `j` numbers the subset of top-level clones that become the
children of the new clone -/
def newTree (dt : Data) (c : Cfg) (p : T) (i j : ℕ) : Option (T × ℚ × ℚ × ℚ) := (newTrees dt c p i)[j]?

/-- what the key of `get_cached_new_tree` carries: parent particle, data point, children, `alpha`
(the hash of `tree_dist`), with / without permutation distribution -/
abbrev NKey := T × ℕ × ℕ × ℚ × Bool

def newTreeKey (c : Cfg) (p : T) (i j : ℕ) : NKey := (p, i, j, c.α, c.usePerm)

theorem newTrees_congr (dt : Data) (c₁ c₂ : Cfg) (p : T) (i : ℕ) (hα : c₁.α = c₂.α)
    (hp : c₁.usePerm = c₂.usePerm) : newTrees dt c₁ p i = newTrees dt c₂ p i := by
  unfold newTrees pMargT pOneT pdfOf
  rw [hα, hp]

/-- **key completeness of the proposal caches.**  For a fixed data set, the proposal table of all
three proposals is a function of the key `(i, kind, op, usePerm, first, p, α)` and the new-clone
tree (with its cached densities) is a function of the key `(p, i, children, α, usePerm)`:
equal keys give equal results, whatever else differs between the two calls. -/
theorem proposal_key_complete (dt : Data) :
    (∀ (c₁ c₂ : Cfg) (first₁ first₂ : Bool) (p₁ p₂ : T) (i₁ i₂ : ℕ),
      proposalKey c₁ first₁ p₁ i₁ = proposalKey c₂ first₂ p₂ i₂ →
      table dt c₁ first₁ p₁ i₁ = table dt c₂ first₂ p₂ i₂) ∧
    (∀ (c₁ c₂ : Cfg) (p₁ p₂ : T) (i₁ i₂ j₁ j₂ : ℕ),
      newTreeKey c₁ p₁ i₁ j₁ = newTreeKey c₂ p₂ i₂ j₂ →
      newTree dt c₁ p₁ i₁ j₁ = newTree dt c₂ p₂ i₂ j₂) := by
  constructor
  · intro c₁ c₂ first₁ first₂ p₁ p₂ i₁ i₂ h
    obtain ⟨k₁, o₁, a₁, u₁⟩ := c₁
    obtain ⟨k₂, o₂, a₂, u₂⟩ := c₂
    simp only [proposalKey, Prod.mk.injEq] at h
    obtain ⟨rfl, rfl, rfl, rfl, rfl, rfl, rfl⟩ := h
    rfl
  · intro c₁ c₂ p₁ p₂ i₁ i₂ j₁ j₂ h
    simp only [newTreeKey, Prod.mk.injEq] at h
    obtain ⟨rfl, rfl, rfl, hα, hp⟩ := h
    unfold newTree
    rw [newTrees_congr dt c₁ c₂ p₁ i₁ hα hp]

/-- argument of a proposal-cache call (everything in the key except `alpha`, which is read from
`tree_dist.prior.alpha` at call time and changes between calls) -/
structure PArg where
  i : ℕ
  kind : Prop3
  op : ℚ
  usePerm : Bool
  first : Bool
  p : T

/-- the key and the unmemoised function of `_get_cached_{semi,full}_proposal_dist` in the shape of
`cache_sound`: environment = current `alpha` -/
def pKey (α : ℚ) (a : PArg) : PKey := proposalKey ⟨a.kind, a.op, α, a.usePerm⟩ a.first a.p a.i
def pTable (dt : Data) (α : ℚ) (a : PArg) : List (T × ℚ) :=
  table dt ⟨a.kind, a.op, α, a.usePerm⟩ a.first a.p a.i

/-- argument of a `get_cached_new_tree` call: `(usePerm, p, i, children)` -/
abbrev NArg := Bool × T × ℕ × ℕ
def nKey (α : ℚ) (a : NArg) : NKey := newTreeKey ⟨.semi, 0, α, a.1⟩ a.2.1 a.2.2.1 a.2.2.2
def nTree (dt : Data) (α : ℚ) (a : NArg) : Option (T × ℚ × ℚ × ℚ) :=
  newTree dt ⟨.semi, 0, α, a.1⟩ a.2.1 a.2.2.1 a.2.2.2

/-- `nTree` is the new-clone tree of any configuration with that `alpha` and permutation setting
(the proposal kind and the outlier proposal probability do not enter) -/
theorem newTree_eq_nTree (dt : Data) (c : Cfg) (p : T) (i j : ℕ) :
    newTree dt c p i j = nTree dt c.α (c.usePerm, p, i, j) :=
  (proposal_key_complete dt).2 c ⟨.semi, 0, c.α, c.usePerm⟩ p p i i j j rfl

/-- **C14 for the proposal-distribution caches**: for every history of calls (any data point,
kernel, parent particle), cache clears and `alpha` changes, at every capacity, the memoised
proposal table is the unmemoised one -/
theorem proposal_memo_sound (dt : Data) (cap : ℕ) (ops : List (Op ℚ PArg)) :
    (run pKey (pTable dt) ⟨[], cap⟩ ops).2 = direct (pTable dt) ops :=
  Cache.cache_sound_from_empty _ _
    (fun _ _ _ _ h => (proposal_key_complete dt).1 _ _ _ _ _ _ _ _ h) cap ops

/-- **C14 for `get_cached_new_tree`** -/
theorem new_tree_memo_sound (dt : Data) (cap : ℕ) (ops : List (Op ℚ NArg)) :
    (run nKey (nTree dt) ⟨[], cap⟩ ops).2 = direct (nTree dt) ops :=
  Cache.cache_sound_from_empty _ _
    (fun _ _ _ _ h => (proposal_key_complete dt).2 _ _ _ _ _ _ _ _ h) cap ops

/-! ### non-vacuity, and `alpha` is needed in the key -/

/-- two data points on a grid of size 2, one sample -/
def exDt : Data := ⟨2, 1, [[[1, 1/2]], [[1/2, 1]]], [0, 0], [1, 1]⟩
/-- parent particle: data point 0 alone in one clone -/
def exP : T := T.mk' (.cons [0] .nil .nil) []

/-- the fully-adapted table of data point 1 on `exP` at `alpha = 1`: join the clone, new clone above
it, new clone beside it -/
example : (table exDt ⟨.full, 0, 1, false⟩ false exP 1).map (·.2) = [72/101, 20/101, 9/101] ∧
    (newTrees exDt ⟨.semi, 0, 1, false⟩ exP 1).length = 2 := by decide +kernel

/-- the proposal table of the example depends on `alpha` -/
theorem exTable_ne :
    table exDt ⟨.full, 0, 1, false⟩ false exP 1 ≠ table exDt ⟨.full, 0, 2, false⟩ false exP 1 := by
  decide +kernel

/-- a key omitting `alpha` is NOT sound on the real table: two configurations that agree on
`(i, kind, op, usePerm, first, p)` and have different proposal tables -/
example :
    let c₁ : Cfg := ⟨.full, 0, 1, false⟩
    let c₂ : Cfg := ⟨.full, 0, 2, false⟩
    (1, c₁.kind, c₁.op, c₁.usePerm, false, exP) = (1, c₂.kind, c₂.op, c₂.usePerm, false, exP) ∧
    table exDt c₁ false exP 1 ≠ table exDt c₂ false exP 1 := ⟨rfl, exTable_ne⟩

/-- … and the memo table then returns a stale proposal distribution after a concentration update,
while with `alpha` in the key the same history (alpha 1 → 2 → 1: miss, miss, hit) is served
correctly -/
example :
    let a : PArg := ⟨1, .full, 0, false, false, exP⟩
    (run (fun _ (a : PArg) => (a.i, a.kind, a.op, a.usePerm, a.first, a.p)) (pTable exDt) ⟨[], 8⟩
        [.call 1 a, .call 2 a]).2 ≠ direct (pTable exDt) [.call 1 a, .call 2 a] ∧
    (runTrace pKey (pTable exDt) ⟨[], 8⟩ [.call 1 a, .call 2 a, .call 1 a]).map (fun t => t.1) =
      [false, false, true] ∧
    (run pKey (pTable exDt) ⟨[], 8⟩ [.call 1 a, .call 2 a, .call 1 a]).2 =
      direct (pTable exDt) [.call 1 a, .call 2 a, .call 1 a] := by
  intro a
  refine ⟨fun h => exTable_ne ?_, by decide +kernel, proposal_memo_sound exDt 8 _⟩
  -- the second call is served the table stored by the first
  have h' : [some (pTable exDt 1 a), some (pTable exDt 1 a)]
      = [some (pTable exDt 1 a), some (pTable exDt 2 a)] := h
  exact Option.some.inj (List.cons.inj (List.cons.inj h').2).1

/-- the new-clone tree depends on `alpha` too (through the cached `log_p`) -/
example : nTree exDt 1 (false, exP, 1, 0) ≠ nTree exDt 2 (false, exP, 1, 0) ∧
    (nTree exDt 1 (false, exP, 1, 0)).isSome := by decide +kernel

end PhyModel.Props.C14
