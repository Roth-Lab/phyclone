import PhyModel.Proofs.RunLoopProofs
import PhyModel.Proofs.C19Example
import PhyModel.Proofs.RunChain
import PhyModel.Proofs.RunExample
import PhyModel.Props.C03
import PhyModel.Props.C15
import Mathlib.Tactic.NormNum
/-! # C19 — a run on valid input completes and records only finite, complete trees

The property has three clauses; which theorem covers which:

1. **"the sampler finishes without an exception"** — the statements about the run-loop skeleton
   `Model/RunLoop.lean`, in which every Python failure point the model can express is an explicit
   `Except` branch (list index, `choice` from an empty list, `multinomial` with a negative count,
   division by a zero weight sum, `%` by zero, the asserts of the swarm code): `resample_index_ok`,
   `subtree_choice_nonempty_or_fallback`, `normalise_ok`, `weights_positive` (no log-weight is `-inf`, so
   no weight sum is zero), `schedule_total`, `schedule_untimed`, `run_guards_ok`.  They hold for every
   particle count from 1, every number of data points from 1, every outcome of every random draw and
   every sequence of iteration durations.
2. **"every recorded entry is a well-formed tree over all data points"** — `support_complete_wf`
   (every tree listed by each of the five sampler models `SMC.pgStep`, `SMC.smcStep`,
   `Moves.dataPointMove`, `Moves.pruneRegraft`, `Moves.subtreeMove` for a complete well-formed tree is a
   complete well-formed tree on the same data), `run_states_ok` (by induction: every state of a run —
   burn-in sweeps, main sweeps, any schedule, any concentration values, any outcome of every draw),
   `run_entries_ok` (the recorded entries of `TraceLoop.runMain`, the stateful loop of C15, when the
   sampler oracle returns a store reached by legal edits (C07 `Legal`) whose tree is listed by the sweep
   model: every entry restores with `Tree.from_dict` to a store satisfying the invariants of C07 / C06,
   holding every data point exactly once and representing a well-formed tree).
3. **"with a finite `log_p_one`"** — `run_states_ok` (`0 < pOne` for every reachable tree, every
   positive concentration value: `RunOK.holds_pOne_pos`, the positivity of C03) and `run_entries_ok`
   (the recorded value is the density of the restored tree under the recorded concentration value,
   C15 / C06 `rebuild_eq`, and positive).

What no model here can exclude — exceptions raised inside the numerical and graph libraries, floating
point underflow, operating-system failures — is listed as the remaining open obligation and explored on
the real code by the boundary cross-product of the check. -/

namespace PhyModel.Props.C19
open PhyModel.RunLoop PhyModel.C19P

/-- Conditional SMC bookkeeping (`_init_swarm`, the repaired `_resample_swarm`, `_update_swarm`): for
every particle count `N ≥ 1`, every number of data points `T ≥ 1`, every pattern of resampling
decisions and every multiplicity vector `multinomial(N - 1, ·)` can return, no index lookup fails,
the number of draws is never negative, the swarm always has `N` particles and its slot 0 holds the
constrained path (so the retained-particle lookup `swarm.particles[0]` is always in range). -/
theorem resample_index_ok (N T : ℕ) (hN : 1 ≤ N) (hT : 1 ≤ T) (o : Oracle)
    (hm : ∀ k, (o.mult k).length = N ∧ (o.mult k).sum = N - 1) :
    ∃ sw, csmc N T o = .ok sw ∧ sw.length = N ∧ sw.head? = some ⟨T, 0⟩ :=
  csmc_ok N T o hN hT hm

example : ∃ sw, csmc 1 1 ⟨fun _ => true, fun _ => [0]⟩ = .ok sw ∧ sw.length = 1 :=
  ⟨[⟨1, 0⟩], by decide, rfl⟩
example : csmc 3 3 ⟨fun _ => true, fun k => if k = 0 then [1, 1, 0] else [0, 0, 2]⟩
    = .ok [⟨3, 0⟩, ⟨3, 1⟩, ⟨3, 2⟩] := by decide

/-- The lookup the unrepaired code used (`constrained_path[iteration + 1]` at `iteration = 1`) is out
of range exactly when there is a single data point — the regression input of F10. -/
theorem resample_unrepaired_fails (T : ℕ) :
    retainedOld T 1 = .error .indexOutOfRange ↔ T ≤ 1 := by
  refine ⟨fun h => ?_, fun h => fromPath_fail T 2 (by omega)⟩
  by_contra hc
  have h2 : retainedOld T 1 = .ok ⟨2, 0⟩ := fromPath_ok T 2 (by omega) (by omega)
  rw [h2] at h
  cases h

example : retainedOld 1 1 = .error .indexOutOfRange := by decide
example : retainedOld 2 1 = .ok ⟨2, 0⟩ := by decide

/-- The subtree sampler never fails: it falls back to the whole-tree update exactly when every data
point is an outlier, and otherwise `choice` is called on a non-empty list and returns a clone that
holds a data point. -/
theorem subtree_choice_nonempty_or_fallback (labels : List (Option ℕ)) (u : ℕ) :
    (∃ r, subtreeStep labels u = .ok r) ∧
    (subtreeStep labels u = .ok .fallback ↔ ∀ l ∈ labels, l = none) ∧
    (∀ n, subtreeStep labels u = .ok (.node n) → some n ∈ labels) ∧
    (subtreeStepOld labels u = .error .emptyChoice ↔ ∀ l ∈ labels, l = none) := by
  by_cases h : (labels.filterMap id).length = 0
  · have hall := (filterMap_id_nil_iff labels).1 h
    have e := subtreeStep_nil labels u h
    exact ⟨⟨.fallback, e⟩, ⟨fun _ => hall, fun _ => e⟩, fun n hn => (nomatch e.symm.trans hn),
      ⟨fun _ => hall, fun _ => subtreeStepOld_nil labels u h⟩⟩
  · obtain ⟨a, ha, hmem⟩ := choice_ok (labels.filterMap id) u h
    have hnall : ¬ ∀ l ∈ labels, l = none := fun hc => h ((filterMap_id_nil_iff labels).2 hc)
    have e := subtreeStep_node labels u a h ha
    have eo := subtreeStepOld_node labels u a ha
    refine ⟨⟨.node a, e⟩, ⟨fun hc => (nomatch e.symm.trans hc), fun hc => absurd hc hnall⟩, fun n hn => ?_,
      ⟨fun hc => (nomatch eo.symm.trans hc), fun hc => absurd hc hnall⟩⟩
    cases e.symm.trans hn
    obtain ⟨x, hx, hid⟩ := List.mem_filterMap.1 hmem
    obtain rfl : x = some a := hid
    exact hx
example : subtreeStep [none, none, none] 7 = .ok .fallback := by decide
example : subtreeStep [none, some 4, some 5] 3 = .ok (.node 5) := by decide
example : subtreeStepOld [none, none] 0 = .error .emptyChoice := by decide

/-- Normalising a non-empty vector of positive weights (in front of every `multinomial` call) never
divides by zero; the result is a probability vector with positive entries. -/
theorem normalise_ok (ws : List ℚ) (hne : ws ≠ []) (hp : ∀ w ∈ ws, 0 < w) :
    ∃ p, normalise ws = .ok p ∧ total p = 1 ∧ p.length = ws.length ∧ ∀ x ∈ p, 0 < x := by
  have ht := total_pos ws hne hp
  refine ⟨ws.map (· / total ws), ?_, ?_, List.length_map _, ?_⟩
  · unfold normalise
    rw [if_neg (mt List.length_eq_zero_iff.1 hne), if_neg ht.ne']
    rfl
  · rw [total_map_div, div_self ht.ne']
  · intro x hx
    obtain ⟨w, hw, rfl⟩ := List.mem_map.1 hx
    exact div_pos (hp w hw) ht

example : normalise [1 / 2, 3 / 2] = .ok [1 / 4, 3 / 4] := by decide +kernel
example : normalise [0, 0] = .error .zeroWeightSum := by decide +kernel

/-- With positive likelihood values (every data point mentioned, every sample, every grid point),
`α > 0` and outlier probabilities in `[0,1)` — both the per-data-point priors and the kernel's
outlier proposal probability — every proposal probability in `Proposal.table` (the table mirroring
`log_p()`, for all three proposals, first or later data point) is positive, every tree it lists
has positive `log_p` / `log_p_one` densities, and the incremental weight of `create_particle` /
`_get_log_w` (with or without the last-step correction) is positive.  So every log-weight a sweep
produces is finite and, with `normalise_ok`, weight normalisation never divides by zero. -/
theorem weights_positive (dt : Data) (hG : 0 < dt.G) (c : Proposal.Cfg) (hα : 0 < c.α)
    (hop0 : 0 ≤ c.op) (hop1 : c.op < 1) (first last : Bool) (p : T) (i : ℕ)
    (hp : Good dt p.f p.out) (hi : GoodIdx dt i) :
    ∀ tq ∈ Proposal.table dt c first p i,
      0 < tq.2 ∧ 0 < Proposal.pMargT dt c tq.1 ∧ 0 < Proposal.pOneT dt c tq.1 ∧
      0 < Proposal.incrWeight dt c first last p tq.1 tq.2 := by
  intro tq h
  have hall := Proposal.placements_good dt p i hp hi
  obtain ⟨hq, kt, hkt, hEq⟩ := Proposal.table_pos dt hG c hα hop0 hop1 first p i hall tq h
  have hgood := hall kt hkt
  rw [hEq] at hgood
  exact ⟨hq, Density.pMarg_pos dt hG c.α hα _ _ hgood, Density.pOne_pos dt hG c.α hα _ _ hgood,
    Proposal.incrWeight_pos dt hG c hα first last p tq.1 tq.2 hq hgood (fun _ => hp)⟩

/-- the hypotheses are satisfiable (`Proofs/C19Example.lean`: two data points on a 2-point grid, outlier
prior 1/2, parent state "data point 0 in one clone", placing data point 1), and the table the theorem
speaks about is not empty there (join the clone,
new top-level clone, new clone above the existing one, outlier) -/
example := weights_positive exData (by decide) ⟨.full, 1/10, 1, true⟩ (by norm_num) (by norm_num) (by norm_num)
  false true exParent 1 exGoodParent exGood1
example : (Proposal.table exData ⟨.full, 1/10, 1, true⟩ false exParent 1).length = 4 := by
  decide +kernel

theorem runSchedule_ok (c : Cfg) (hN : 1 ≤ c.numParticles) {stopB stopM : ℕ → Bool} {b m : ℕ} {tr : List ℕ}
    (eb : burninFrom c.printFreq stopB c.burnin 0 = .ok b)
    (em : mainFrom c.thin c.printFreq stopM c.numIters 0 [0] = .ok (tr, m)) :
    ∃ out, runSchedule c stopB stopM = .ok out ∧ out.iters = tr ∧ out.burninIters = b ∧ out.mainIters = m := by
  unfold runSchedule
  rw [particlesGuard_ok c hN, eb, em]
  exact ⟨_, rfl, rfl, rfl, rfl⟩

/-- Burn-in, main loop, thinning and time limit: for `thin ≥ 1`, `print_freq ≥ 1`, at least one
particle and *any* outcome of the timer comparisons the chain driver terminates without a failure,
the first recorded entry is the post-burn-in one (`iter = 0`), at most `1 + num_iters` entries are
recorded, no loop runs longer than asked, and as soon as `num_iters ≥ 1` the first main iteration is
executed and recorded as well. -/
theorem schedule_total (c : Cfg) (hth : 1 ≤ c.thin) (hpf : 1 ≤ c.printFreq) (hN : 1 ≤ c.numParticles)
    (stopB stopM : ℕ → Bool) :
    ∃ out, runSchedule c stopB stopM = .ok out ∧ out.iters.head? = some 0 ∧
      1 ≤ out.iters.length ∧ out.iters.length ≤ 1 + out.mainIters ∧
      out.burninIters ≤ c.burnin ∧ out.mainIters ≤ c.numIters ∧
      (1 ≤ c.numIters → 1 ≤ out.mainIters ∧ 2 ≤ out.iters.length) := by
  obtain ⟨b, eb, _, hb2⟩ := burninFrom_ok c.printFreq hpf stopB c.burnin 0
  obtain ⟨m, em, _, hm2, _, hshort⟩ := mainFrom_spec c.thin c.printFreq hth hpf stopM c.numIters 0 [0]
  obtain ⟨out, e, h1, h2, h3⟩ := runSchedule_ok c hN eb em
  rw [Nat.zero_add] at hb2 hm2 hshort
  refine ⟨out, e, ?_⟩
  rw [h1, h2, h3]
  -- the trace is `0 :: sched thin 0 m`, and `sched thin 0 m` is a sublist of `[0, …, m-1]`
  have hlen : (TraceLoop.sched c.thin 0 m).length ≤ m :=
    (List.length_filter_le _ _).trans (by rw [List.length_range']; exact Nat.sub_le m 0)
  refine ⟨rfl, Nat.le_add_left 1 _, Nat.add_comm 1 m ▸ Nat.succ_le_succ hlen, hb2, hm2, fun h1 => ?_⟩
  -- a loop that stops early has run at least once
  have hm : 1 ≤ m := (Nat.lt_or_ge m c.numIters).elim (fun h => (hshort h).1) (Nat.le_trans h1)
  refine ⟨hm, Nat.succ_le_succ (List.length_pos_iff.2 ?_)⟩
  exact List.ne_nil_of_mem (a := 0) (List.mem_filter.2
    ⟨List.mem_range'_1.2 ⟨Nat.le_refl 0, (Nat.zero_add _).symm ▸ hm⟩, decide_eq_true (Nat.zero_mod _)⟩)

example : runSchedule ⟨2, 5, 2, 100, 2, 1, -1, true⟩ (fun _ => false) (fun i => i == 2)
    = .ok ⟨2, 3, [0, 0, 2], 5, 0, 3⟩ := by decide

/-- Without a time limit exactly the thinned schedule is recorded: the post-burn-in entry, then
every iteration `i < num_iters` with `i % thin = 0`; all burn-in and main iterations run. -/
theorem schedule_untimed (c : Cfg) (hth : 1 ≤ c.thin) (hpf : 1 ≤ c.printFreq) (hN : 1 ≤ c.numParticles) :
    ∃ out, runSchedule c (fun _ => false) (fun _ => false) = .ok out ∧
      out.iters = 0 :: (List.range c.numIters).filter (fun i => i % c.thin = 0) ∧
      out.burninIters = c.burnin ∧ out.mainIters = c.numIters := by
  obtain ⟨out, e, h1, h2, h3⟩ := runSchedule_ok c hN (burninFrom_never c.printFreq hpf c.burnin 0)
    (mainFrom_never c.thin c.printFreq hth hpf c.numIters 0 [0])
  refine ⟨out, e, ?_, ?_, ?_⟩
  · simpa using h1
  · simpa using h2
  · simpa using h3

example : runSchedule ⟨1, 7, 3, 1, 1, 0, 0, false⟩ (fun _ => false) (fun _ => false)
    = .ok ⟨1, 7, [0, 0, 3, 6], 0, 0, 0⟩ := by decide

/-- The chain with its wall clock (`with timer:` semantics, any positive or zero durations, any time
limit including 0 and `inf`): every guard of the skeleton passes for every option combination the
command line accepts (`thin`, `print_freq`, particle count from 1). -/
theorem run_guards_ok (c : Cfg) (hth : 1 ≤ c.thin) (hpf : 1 ≤ c.printFreq) (hN : 1 ≤ c.numParticles)
    (maxT : Option ℚ) (dB dM : ℕ → ℚ) :
    ∃ out, runTimed c maxT dB dM = .ok out ∧ out.iters.head? = some 0 ∧ out.iters.length ≤ 1 + c.numIters := by
  obtain ⟨b, eb, _, _⟩ := burninFrom_ok c.printFreq hpf (stopBurnin maxT dB) c.burnin 0
  obtain ⟨out, e, h0, _, h2, _, h4, _⟩ :=
    schedule_total c hth hpf hN (stopBurnin maxT dB) (stopMain maxT (RunLoop.sumTo dB b) dM)
  refine ⟨out, ?_, h0, Nat.le_trans h2 (Nat.add_le_add_left h4 1)⟩
  unfold runTimed
  rw [particlesGuard_ok c hN, eb]
  exact e

/-- time limit 0, unit durations: the first comparison of the burn-in sees `0 > 0` (false), the
second `1 > 0`; the main loop stops after its first iteration -/
example : stopBurnin (some 0) (fun _ => 1) 0 = false ∧ stopBurnin (some 0) (fun _ => 1) 1 = true ∧
    stopMain (some 0) 2 (fun _ => 1) 0 = true := by
  decide +kernel
example : runSchedule ⟨2, 5, 2, 100, 2, 1, 2, true⟩ (fun i => i == 1) (fun _ => true)
    = .ok ⟨2, 1, [0, 0], 3, 6, 1⟩ := by decide
example := run_guards_ok ⟨2, 5, 2, 100, 2, 1, 2, true⟩ (by decide) (by decide) (by decide) (some 0) (fun _ => 1) (fun _ => 1)

/-! ## The recorded trees: complete, well formed, finite density

`RunOK.Holds c D x` — *`x` is a complete well-formed tree on the data points `D`*: `PG.WFT c x`
(canonical form, no empty clone, data indices pairwise distinct and below the sentinel of the canonical
order, no outlier when outlier modelling is off) and the data points of `x`, clones and outliers
together, are exactly `D` (`(x.f.all ++ x.out).Perm D`).  `RunOK.AllD P d` — every outcome the finite
distribution `d` *lists* satisfies `P` (also outcomes listed with probability 0).
`RunOK.Params` — the options of a run the sampler models depend on; `p.run α`, `p.mv α` are the
configurations of the SMC samplers and of the auxiliary moves under the concentration value `α`
(`run.py:setup_kernel`, `setup_samplers`: the data-point move uses the outlier set iff outlier
modelling is on). -/

open PhyModel.RunOK PhyModel.Store PhyModel.Store.Store PhyModel.TraceLoop in
/-- **(a) Every sampler model of a sweep maps complete well-formed trees to complete well-formed
trees.**  For every data set, proposal kind, outlier setting, particle count (0 included: nothing is
listed then), threshold and concentration value, and every well-formed tree `x`
holding the data points `D`: every tree listed by the whole-tree particle-Gibbs update `SMC.pgStep`, by
the burn-in sampler `SMC.smcStep`, by the data-point move `Moves.dataPointMove`, by the prune-regraft
move `Moves.pruneRegraft` and by the random-subtree update `Moves.subtreeMove` (its fallback to the
whole-tree update when every data point is an outlier included) is a well-formed tree holding `D`: no
data point is lost or duplicated, no clone is left empty, no outlier appears when outlier modelling is
off. -/
theorem support_complete_wf (p : Params) (α : ℚ) (D : List ℕ) (x : T) (hx : Holds p.c D x) :
    AllD (Holds p.c D) (SMC.pgStep (p.run α) x) ∧ AllD (Holds p.c D) (SMC.smcStep (p.run α) x) ∧
    AllD (Holds p.c D) (Moves.dataPointMove (p.mv α) x) ∧ AllD (Holds p.c D) (Moves.pruneRegraft (p.mv α) x) ∧
    AllD (Holds p.c D) (Moves.subtreeMove (p.run α) x) :=
  ⟨run_holds pgStep_holds p α hx, run_holds smcStep_holds p α hx,
    dataPointMove_holds (p.mv α) hx (mv_outliers p α), pruneRegraft_holds (p.mv α) hx,
    run_holds subtreeMove_holds p α hx⟩

/-- non-vacuity (`Proofs/RunExample.lean`: the two-point data set, semi-adapted proposal, outliers
on, two particles): the single-clone tree is complete and well formed, and the samplers do list other
trees — the burn-in sampler lists "0 above 1", particle Gibbs moves data point 1 of the two-clone tree
to the outliers, prune-regraft moves a clone to the top level -/
example : RunOK.Holds RunOK.Ex.exP.c [0, 1] RunOK.Ex.x0 ∧
    RunOK.Listed (SMC.smcStep (RunOK.Ex.exP.run 1) RunOK.Ex.x0) RunOK.Ex.xA ∧
    RunOK.Listed (SMC.pgStep (RunOK.Ex.exP.run 1) RunOK.Ex.xC) RunOK.Ex.xD ∧
    RunOK.Listed (Moves.pruneRegraft (RunOK.Ex.exP.mv 1) RunOK.Ex.xA) RunOK.Ex.xC :=
  ⟨RunOK.single_holds _ (by simp) (by decide) (by decide), RunOK.Ex.smc_lists, RunOK.Ex.pg_lists,
    RunOK.Ex.pr_lists.1⟩

open PhyModel.RunOK in
/-- **(b), (c) Every state of a run is a complete well-formed tree with a finite `log_p_one`.**
`ChainOut p sched x0 y`: `y` is reached from `x0` by the sweeps of the schedule `sched` — each a
burn-in sweep (`SMC.smcStep`) or a main sweep (`SMC.pgStep` or `Moves.subtreeMove`), followed by
`num_samples_data_point` data-point moves and `num_samples_prune_regraph` prune-regraft moves, under
its own concentration value — for *some* outcome of every draw.  For a data set with positive
likelihoods and outlier priors in `[0,1)` (C03 `PosData`) and any start tree that is complete and well
formed on data points of the data set — in particular `Tree.get_single_node_tree`, `single D` — every
such `y` is complete and well formed on the same data, and `pOne` of it is positive under every
positive concentration value. -/
theorem run_states_ok (p : Params) (hd : C03.PosData p.dt) (D : List ℕ) (hD : ∀ i ∈ D, i < p.dt.n)
    (x0 : T) (h0 : Holds p.c D x0) (sched : List (Phase × ℚ)) (y : T) (h : ChainOut p sched x0 y) :
    Holds p.c D y ∧ ∀ α : ℚ, 0 < α → 0 < Density.pOne p.dt α y.f y.out := by
  have hy := chain_holds p sched x0 y h0 h
  exact ⟨hy, fun α hα => holds_pOne_pos p.dt hd.G_pos hd.L_pos hd.op_range hy hD hα⟩

open PhyModel.RunOK in
/-- the start tree of `run_phyclone_chain`: all data points in one clone -/
theorem run_start_ok (c : Proposal.Cfg) (D : List ℕ) (hne : D ≠ []) (hnd : D.Nodup)
    (hbig : ∀ a ∈ D, a < Orders.Forest.big) : Holds c D (single D) :=
  single_holds c hne hnd hbig

open PhyModel.RunOK PhyModel.Store in
/-- the start store of a chain: any store built from the empty tree `Tree(grid_size)` by a history of
legal edits within the data set (as `Tree.get_single_node_tree` does: `create_root_node`, then the data
points one by one) satisfies the store invariants — C07 `inv_run`, C06 `cacheOK_run_legal` -/
theorem run_start_store_ok (dt : Data) (hd : C03.PosData dt) (s0 : Store)
    (h : LegalFrom dt (Store.init dt) s0) : C15.Inv dt s0 :=
  sinv_of_legalFrom (fun i s k hi hs hk => ne_of_gt (hd.L_pos i s k hi hs hk)) (sinv_init dt) h

theorem exData_pos : C03.PosData exData where
  G_pos := by decide
  L_pos i s k hi hs hk :=
    (by decide +kernel : ∀ i < 2, ∀ s < 1, ∀ k < 2, 0 < getQ (exData.L i s) k) i hi s hs k hk
  op_range i hi := (by decide +kernel : ∀ i < 2, 0 ≤ exData.opOf i ∧ exData.opOf i < 1) i hi

/-- non-vacuity: the start store of the example is one `create_root_node` away from the empty tree and
represents the single-clone tree -/
example : C15.Inv exData RunOK.Ex.s0 ∧ RunOK.absT RunOK.Ex.s0 = RunOK.single [0, 1] :=
  ⟨run_start_store_ok exData exData_pos RunOK.Ex.s0 RunOK.Ex.legal0, by decide +kernel⟩

/-- non-vacuity: a burn-in sweep and a main sweep from the single-clone tree of the two-point data set
end in "clone {0}, data point 1 an outlier" -/
example : RunOK.ChainOut RunOK.Ex.exP [(.burnin, 1), (.main, 1)] (RunOK.single [0, 1]) RunOK.Ex.xD := by
  have e0 : RunOK.single [0, 1] = RunOK.Ex.x0 := by decide +kernel
  rw [e0]
  refine ⟨RunOK.Ex.xC, ?_, RunOK.Ex.xD, ?_, rfl⟩
  · have := RunOK.Ex.sweepB
    rwa [RunOK.Ex.abs0, RunOK.Ex.absB] at this
  · have := RunOK.Ex.sweepM
    rwa [RunOK.Ex.abs1, RunOK.Ex.absM] at this
example := run_states_ok RunOK.Ex.exP exData_pos [0, 1] (by decide) (RunOK.single [0, 1])
  (run_start_ok _ [0, 1] (by simp) (by decide) (by decide))

open PhyModel.RunOK PhyModel.Store PhyModel.Store.Store PhyModel.TraceLoop in
/-- **The recorded trace.**  `TraceLoop.runMain` (C15) is the stateful main loop of
`_run_main_sampler`: it carries the store (the model of `phyclone.tree.Tree`) and the concentration
value; samplers, concentration draw, clock and time-limit comparison are oracles.  `burnState mvB b`
is the store after `b` burn-in iterations.  Hypotheses:

* the data set has positive likelihoods and outlier priors in `[0,1)` (C03 `PosData`);
* the start store satisfies the store invariants (`C15.Inv`: C07 `WF`, `Full`, `Aligned`, C06 `CacheOK`)
  and represents (`absT`: forget names, graph indices, caches) a complete well-formed tree on
  `0 .. n-1`;
* **the sampler oracle is instantiated by an element of the support of the sweep model**
  (`RealisesAt`), in each of the `b` burn-in iterations and each of the `num_iters` main iterations,
  at the store the chain is in: the store it returns is one of the live trees of a history of edits
  started from the current store, each edit `Legal` where it is applied (C07: what the samplers
  compose) and within the data set; and the tree it represents is listed by the sweep model
  (`SweepOut`: burn-in `SMC.smcStep`, main `SMC.pgStep` or `Moves.subtreeMove`; then the data-point and
  prune-regraft moves) for the tree the current store represents, under some concentration value;
* the concentration oracle returns positive values (the Gamma draw, floored at `1e-10`: C13).

Conclusion, for every thinning interval, time limit outcome, concentration update on or off: every
entry of the trace restores with `Tree.from_dict` to a store that satisfies the store invariants again,
lists every data point `0 .. n-1` exactly once (`dataCompleteB`), represents a complete well-formed
tree, and whose `log_p_one` under the entry's recorded concentration value is the entry's recorded
value — which is positive, i.e. finite in the log domain.  (That the *real* samplers satisfy `RealisesAt`
is not an obligation of any model: it is the trusted correspondence — the exact transition rows of the five
real samplers are compared with these very models by the checks of C01 / C04, their edits with the store
model by C06 / C07 / C15.)  Used: C07 `inv_run` (legal histories keep
`WF`, `Full`, `Aligned`), C06 `cacheOK_run_legal` and `pOneC_eq` (the cached density is the rebuilt one),
C15 `mkEntry_restores` (round trip), C03 positivity, and `support_complete_wf`. -/
theorem run_entries_ok (p : Params) (hd : C03.PosData p.dt)
    (s0 : Store) (h0 : C15.Inv p.dt s0) (h0' : Holds p.c (List.range p.dt.n) (absT s0))
    (mvB : ℕ → Store → Store) (b : ℕ) (hB : ∀ i, i < b → RealisesAt p .burnin mvB i (burnState mvB i s0))
    (o : Oracles) (hconc : ∀ i α s, 0 < α → 0 < o.conc i α s) (α0 : ℚ) (hα0 : 0 < α0) (cu : Bool)
    (thin numIters : ℕ)
    (hM : ∀ k, k < numIters → RealisesAt p .main o.moves k (stateAt o cu ⟨burnState mvB b s0, α0⟩ k).tree) :
    ∀ e ∈ (runMain p.dt o cu thin numIters ⟨burnState mvB b s0, α0⟩).1,
      ∃ s', fromDict p.dt e.tree = some s' ∧ C15.Inv p.dt s' ∧ dataCompleteB p.dt.n s' = true ∧
        Holds p.c (List.range p.dt.n) (absT s') ∧ pOneC p.dt e.alpha s' = e.logPOne ∧ 0 < e.logPOne := by
  have hNZ : DataNZ p.dt := fun i s k hi hs hk => (hd.L_pos i s k hi hs hk).ne'
  intro e he
  -- every entry is recorded at a chain state, and every chain state is reached by realised sweeps
  obtain ⟨j, t, k, hkle, rfl⟩ := mem_trace p.dt o cu thin numIters _ e he
  exact entry_ok p hd.G_pos (fun i hi => ⟨fun s hs k hk => hd.L_pos i s k hi hs hk, hd.op_range i hi⟩)
    (chain_ok hNZ (s := fun k => (stateAt o cu ⟨burnState mvB b s0, α0⟩ k).tree) (fun _ => rfl)
      (chain_ok hNZ (s := fun b => burnState mvB b s0) (fun _ => rfl) ⟨h0, h0'⟩ b hB) k
      fun i hi => hM i (Nat.lt_of_lt_of_le hi hkle))
    (stateAt_alpha_pos hconc cu hα0 k) j t

/-- non-vacuity (`Proofs/RunExample.lean`): one burn-in and one main iteration on the two-point data
set, the oracles building their stores by legal edits on a fresh handle; every hypothesis holds, the
trace has two entries, and they record different trees with different densities -/
example := run_entries_ok RunOK.Ex.exP exData_pos RunOK.Ex.s0 RunOK.Ex.sinv0 RunOK.Ex.holds0 RunOK.Ex.mvB 1
  RunOK.Ex.realB RunOK.Ex.exO (fun _ _ _ _ => by norm_num [RunOK.Ex.exO]) 1 one_pos true 1 1 RunOK.Ex.realM
example : ((TraceLoop.runMain exData RunOK.Ex.exO true 1 1 ⟨RunOK.burnState RunOK.Ex.mvB 1 RunOK.Ex.s0, 1⟩).1.map
      fun e => (e.iter, e.alpha, RunOK.absT ((Store.Store.fromDict exData e.tree).getD RunOK.Ex.s0)))
    = [(0, 1, RunOK.Ex.xC), (0, 2, RunOK.Ex.xD)] := by decide +kernel

-- OBLIGATION-OPEN run_ok: full statement "for every valid data set and every CLI-accepted option combination run_phyclone_chain returns a trace whose entries are well-formed trees over all data with finite log_p_one" — on the models every clause is now proved (guards of the run loop and of the swarm code: resample_index_ok … run_guards_ok; completeness / well-formedness / finite density of every reachable state and every recorded entry: support_complete_wf, run_states_ok, run_entries_ok, composing C03, C06, C07, C15); what remains is outside any model: exceptions raised inside rustworkx / numpy / numba / scipy (including the `_update_path_to_root` and cache asserts that guard their results), float underflow of log-weights to -inf on large inputs (the models use exact rationals, where a positive weight never rounds to 0), and OS-level failures (memory, process pool, file system, clock); these are explored on the real code by the boundary cross-product and the CLI boundary cases of the check

end PhyModel.Props.C19
