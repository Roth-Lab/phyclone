import PhyModel.Proofs.LoaderPipeline
/-! # C17 — input loading is order-independent and filters exactly as documented

Property theorems about the loader model `PhyModel.Loader` (`Model/Loader.lean`, tied to
`phyclone/data/pyclone.py` by the correspondence check `harness/props/c17.py`).  Helper lemmas live
in `Proofs/LoaderBasics.lean`, `Proofs/LoaderPipeline.lean`.  Identifiers are strings in code-point order; pandas' file parsing is
outside the model (DESIGN.md section 5). -/

namespace PhyModel.Props.C17
open PhyModel.Loader List

/-- number of rows of the raw table for mutation `m` in sample `s` with a positive major copy number -/
def usableCount (rows : List Row) (m s : String) : Nat :=
  (rows.filter fun r => decide (r.mid = m ∧ r.sample = s ∧ 0 < r.major)).length

/-! ## order independence -/

/-- **C17 (order independence).**  For every table, any permutation of its rows loads to the same
result — the same samples, mutations, per-sample entries, or the same error. -/
theorem load_perm (tc er : Bool) {rows rows' : List Row} (h : rows ~ rows') :
    load tc er rows = load tc er rows' := by
  unfold load
  have hk := keptRows_perm h
  rw [samplesOf_perm (positive_perm h), mutsOf_perm hk,
    mapE_congr fun m _ => mutEntries_perm tc er hk _ m]

/-- the same for `load_data` without a cluster file (numbered data points) -/
theorem loadData_perm (tc er : Bool) {rows rows' : List Row} (h : rows ~ rows') :
    loadData tc er rows = loadData tc er rows' := by
  unfold loadData
  rw [load_perm tc er h]

/-- the same for `load_data` with a cluster file -/
theorem loadClustered_perm (tc er : Bool) {rows rows' : List Row} (h : rows ~ rows') (cl : List CRow) (op : Rat) :
    loadClustered tc er rows cl op = loadClustered tc er rows' cl op := by
  unfold loadClustered
  rw [load_perm tc er h]

/-! ## the filter -/

/-- **C17 (filter).**  Whenever the table is loaded (no offset mix, no `major < minor`; see
`load_ok_iff`) and has at least one usable row: the samples are exactly the sample ids that keep a
usable row, and a mutation is among the loaded data exactly when every sample has exactly one row
for it with a positive major copy number — missing in a sample, zero major copy number in a
sample, or duplicated all drop it entirely. -/
theorem kept_iff {tc er : Bool} {rows : List Row} {ss : List String} {data : List (String × List Entry)}
    (h : load tc er rows = .ok (ss, data)) :
    (∀ s, s ∈ ss ↔ ∃ r ∈ rows, r.sample = s ∧ 0 < r.major) ∧
    (ss ≠ [] → ∀ m, m ∈ data.map (·.1) ↔ ∀ s ∈ ss, usableCount rows m s = 1) := by
  have hss : ss = samplesOf (positive rows) := (load_ok_shape h).1
  refine ⟨fun s => ?_, fun hne m => ?_⟩
  · rw [hss, mem_samplesOf]
    constructor
    · rintro ⟨r, hr, rfl⟩
      exact ⟨r, (mem_positive.mp hr).1, rfl, (mem_positive.mp hr).2⟩
    · rintro ⟨r, hr, rfl, hp⟩
      exact ⟨r, mem_positive.mpr ⟨hr, hp⟩, rfl⟩
  · rw [load_ok_names h]
    simp only [usableCount, ← cell_positive]
    constructor
    · intro hm s hs
      obtain ⟨r, e, hr, _⟩ := load_ok_cells h hm hs
      rw [← cell_kept_eq hm, hr]
      rfl
    · intro hall
      subst hss
      obtain ⟨s0, hs0⟩ := exists_mem_of_ne_nil _ hne
      obtain ⟨r, hr⟩ := length_eq_one_iff.mp (hall s0 hs0)
      have hr' : r ∈ cell (positive rows) m s0 := hr ▸ mem_singleton.mpr rfl
      exact mem_mutsOf_complete.mpr ⟨countMut_of_cells hall, r, (mem_cell.mp hr').1, (mem_cell.mp hr').2.1⟩

/-- the property's precondition, on the raw table: the table is loaded exactly when it has no
"extra rows in one sample offset missing rows in another" mix and no surviving row with
`major < minor` (so `kept_iff`'s hypothesis is exactly the property's stated domain) -/
theorem load_ok_iff {tc er : Bool} {rows : List Row} :
    (∃ res, load tc er rows = .ok res) ↔ NoOffsetMix rows ∧ ∀ r ∈ keptRows rows, ¬ r.major < r.minor := by
  constructor
  · rintro ⟨⟨ss, data⟩, h⟩
    have hss : ss = samplesOf (positive rows) := (load_ok_shape h).1
    constructor
    · refine noOffsetMix_of_present fun r hr hc s hs => ?_
      have hm : r.mid ∈ mutsOf (keptRows rows) := mem_mutsOf_complete.mpr ⟨hc, r, hr, rfl⟩
      obtain ⟨r', e, hr', _⟩ := load_ok_cells h hm (hss ▸ hs)
      rw [← cell_kept_eq hm, hr']
      rfl
    · intro r hr
      have hpos := keptRows_subset_positive hr
      have hm : r.mid ∈ mutsOf (keptRows rows) := mem_mutsOf.mpr ⟨r, hr, rfl⟩
      have hs : r.sample ∈ ss := hss ▸ mem_samplesOf.mpr ⟨r, hpos, rfl⟩
      obtain ⟨r', e, hr', he⟩ := load_ok_cells h hm hs
      have : r ∈ cell (keptRows rows) r.mid r.sample := mem_cell.mpr ⟨hr, rfl, rfl⟩
      rw [hr', mem_singleton] at this
      subst this
      exact entry_ok_iff.mp ⟨e, he⟩
  · rintro ⟨hno, hml⟩
    have hcell : ∀ m ∈ mutsOf (keptRows rows), ∀ s ∈ samplesOf (positive rows),
        ∃ e, cellEntry tc er (keptRows rows) m s = .ok e := by
      intro m hm s hs
      obtain ⟨r, hrk, hr⟩ := cell_kept_singleton hno hm hs
      obtain ⟨e, he⟩ := entry_ok_iff.mpr (hml r hrk)
      exact ⟨e, cellEntry_ok_iff.mpr ⟨r, hr, he⟩⟩
    have hmut : ∀ m ∈ mutsOf (keptRows rows),
        ∃ d, mutEntries tc er (keptRows rows) (samplesOf (positive rows)) m = .ok d := by
      intro m hm
      obtain ⟨es, hes⟩ := mapE_ok_of (hcell m hm)
      rw [mutEntries_eq]
      exact ⟨(m, es), map_eq_ok.mpr ⟨es, hes, rfl⟩⟩
    obtain ⟨ds, hds⟩ := mapE_ok_of hmut
    rw [load_eq]
    exact ⟨_, map_eq_ok.mpr ⟨ds, hds, rfl⟩⟩

/-- **C17 (degenerate mix rejected).**  A mutation whose usable-row count equals the number of
samples although some sample does not hold exactly one of them makes the load fail with an error
(it is not silently filtered). -/
theorem degenerate_rejected {tc er : Bool} {rows : List Row} (h : ¬ NoOffsetMix rows) :
    ∃ e, load tc er rows = .error e := by
  cases hl : load tc er rows with
  | error e => exact ⟨e, rfl⟩
  | ok res => exact absurd (load_ok_iff.mp ⟨res, hl⟩).1 h

/-- **C17 (copy-number validation).**  A row that survives the filters with a major copy number
below the minor one makes the load fail; when there is no offset mix the error is the
copy-number error of such a row. -/
theorem major_lt_minor_rejected {tc er : Bool} {rows : List Row}
    (h : ∃ r ∈ keptRows rows, r.major < r.minor) :
    (∃ e, load tc er rows = .error e) ∧
    (NoOffsetMix rows → ∃ r ∈ keptRows rows, r.major < r.minor ∧
      load tc er rows = .error (.majorLtMinor r.major r.minor)) := by
  have herr : ∃ e, load tc er rows = .error e := by
    cases hl : load tc er rows with
    | error e => exact ⟨e, rfl⟩
    | ok res =>
      obtain ⟨r, hr, hlt⟩ := h
      exact absurd hlt ((load_ok_iff.mp ⟨res, hl⟩).2 r hr)
  refine ⟨herr, fun hno => ?_⟩
  obtain ⟨e, he⟩ := herr
  obtain ⟨r, hr, hlt, rfl⟩ := load_error_kind hno he
  exact ⟨r, hr, hlt, he⟩

/-! ## numbering and order -/

/-- **C17 (numbering).**  The loaded data points are numbered `0..n-1`, their names are the kept
mutation ids in strictly increasing order, the samples are in strictly increasing order, and each
data point has one entry per sample, in sample order, built from that sample's (unique, by
`kept_iff`) usable row of the mutation. -/
theorem numbering_sorted {tc er : Bool} {rows : List Row} {ss : List String}
    {dps : List (Nat × String × List Entry)} (h : loadData tc er rows = .ok (ss, dps)) :
    ss.Pairwise (· < ·) ∧
    (dps.map (·.2.1)).Pairwise (· < ·) ∧
    (∀ i (hi : i < dps.length), dps[i].1 = i) ∧
    (∀ d ∈ dps, Forall₂ (fun s e => ∃ r ∈ rows, r.mid = d.2.1 ∧ r.sample = s ∧ 0 < r.major ∧
        entry tc er r = .ok e) ss d.2.2) := by
  rw [loadData_eq] at h
  obtain ⟨⟨_, data⟩, hl, he⟩ := map_eq_ok.mp h
  cases he
  have hshape := load_ok_shape hl
  have hstrict := sortedDistinct_lt (le := strLe) fun _ _ => decide_eq_true_iff
  refine ⟨?_, ?_, ?_, ?_⟩
  · rw [hshape.1]
    exact hstrict _
  · have hn : (enumFrom 0 data).map (·.2.1) = data.map (·.1) := by
      have := congrArg (map (·.1)) (enumFrom_map_snd 0 data)
      rwa [map_map] at this
    rw [hn, load_ok_names hl]
    exact hstrict _
  · intro i hi
    exact (enumFrom_getElem_fst 0 data i hi).trans (Nat.zero_add i)
  · intro d hd
    obtain ⟨m, _, hm, hcells⟩ := forall₂_mem_right hshape.2 (exists_mem_enumFrom.mp ⟨d, hd, rfl⟩)
    refine hcells.imp ?_
    rintro s e ⟨r, hr, he⟩
    have hmem : r ∈ cell (keptRows rows) m s := hr ▸ mem_singleton.mpr rfl
    obtain ⟨hk, hrm, hs⟩ := mem_cell.mp hmem
    have hp := mem_positive.mp (keptRows_subset_positive hk)
    exact ⟨r, hp.1, hrm.trans hm.symm, hs, hp.2, he⟩

/-- **C17 (numbering, cluster file).**  With a cluster file the data points are the clusters that
contain at least one kept mutation, numbered `0..n-1` in strictly increasing cluster-id order. -/
theorem numbering_sorted_clusters {tc er : Bool} {rows : List Row} {cl : List CRow} {op : Rat}
    {ss : List String} {cs : List Cluster} (h : loadClustered tc er rows cl op = .ok (ss, cs)) :
    (cs.map (·.cid)).Pairwise (· < ·) ∧
    (∀ i (hi : i < cs.length), cs[i].idx = i) ∧
    (∀ c ∈ cs, c.members ≠ []) := by
  obtain ⟨data, assigned, _, _, rfl⟩ := loadClustered_ok h
  unfold clustersOf
  refine ⟨?_, ?_, ?_⟩
  ·
    have hcid : ((enumFrom 0 (sortedDistinct natLe (assigned.map (·.2)))).map
        (mkCluster (dropDups [] cl) op assigned)).map (·.cid) = sortedDistinct natLe (assigned.map (·.2)) :=
      map_map.trans (enumFrom_map_snd 0 _)
    rw [hcid]
    exact sortedDistinct_lt (fun _ _ => decide_eq_true_iff) _
  · intro i hi
    rw [getElem_map]
    exact (enumFrom_getElem_fst 0 _ i _).trans (Nat.zero_add i)
  · intro c hc
    obtain ⟨ic, hic, rfl⟩ := mem_map.mp hc
    obtain ⟨a, ha1, ha2⟩ := mem_map.mp (mem_sortedDistinct.mp (exists_mem_enumFrom.mp ⟨ic, hic, rfl⟩))
    exact ne_nil_of_mem (mem_members.mpr ⟨a, ha1, ha2, rfl⟩)

/-- **C17 (cluster contents).**  With a cluster file, the kept mutations — exactly those of the
plain load, so `kept_iff` applies — are distributed over the cluster data points: every kept
mutation is a member of some data point, and data points have no other members. -/
theorem cluster_members {tc er : Bool} {rows : List Row} {cl : List CRow} {op : Rat}
    {ss : List String} {cs : List Cluster} (h : loadClustered tc er rows cl op = .ok (ss, cs)) :
    ∃ data, load tc er rows = .ok (ss, data) ∧
      (∀ m ∈ data.map (·.1), ∃ c ∈ cs, m ∈ c.members) ∧
      (∀ c ∈ cs, ∀ m ∈ c.members, m ∈ data.map (·.1)) := by
  obtain ⟨data, assigned, hl, ha, rfl⟩ := loadClustered_ok h
  refine ⟨data, hl, ?_, ?_⟩
  · intro m hm
    obtain ⟨d, hd, rfl⟩ := mem_map.mp hm
    obtain ⟨a, ha1, ha2⟩ := forall₂_mem_left (mapE_ok ha) hd
    obtain ⟨ic, hic, hic2⟩ :=
      exists_mem_enumFrom.mpr (mem_sortedDistinct.mpr (mem_map_of_mem (f := (·.2)) ha1))
    exact ⟨_, mem_map_of_mem hic, mem_members.mpr ⟨a, ha1, hic2.symm, assignOne_ok_fst ha2⟩⟩
  · intro c hc m hm
    obtain ⟨ic, _, rfl⟩ := mem_map.mp hc
    obtain ⟨a, ha1, _, rfl⟩ := mem_members.mp hm
    obtain ⟨d, hd, hda⟩ := forall₂_mem_right (mapE_ok ha) ha1
    exact mem_map.mpr ⟨d, hd, (assignOne_ok_fst hda).symm⟩

/-! ## defaults -/

/-- **C17 (defaults).**  When the table has no `tumour_content` column every entry's tumour
content is 1.0; when it has no `error_rate` column every genotype row uses the error rate 0.001;
when the columns are present the row's own values are used. -/
theorem defaults {tc er : Bool} {r : Row} {e : Entry} (h : entry tc er r = .ok e) :
    e.a = r.ref ∧ e.b = r.alt ∧
    (tc = false → e.t = 1) ∧ (tc = true → e.t = r.tc) ∧
    (er = false → ∀ g ∈ e.mu, g.1 = 1 / 1000 ∧ g.2.1 = 1 / 1000) ∧
    (er = true → ∀ g ∈ e.mu, g.1 = r.err ∧ g.2.1 = r.err) := by
  obtain ⟨ha, hb, ht, hm⟩ := entry_spec h
  refine ⟨ha, hb, ?_, ?_, ?_, ?_⟩
  -- with the flag a literal, the `if` and the default constants reduce by definition
  · rintro rfl
    exact ht
  · rintro rfl
    exact ht
  · rintro rfl
    exact majorCnPrior_mu hm
  · rintro rfl
    exact majorCnPrior_mu hm

/-! ## non-vacuity: a concrete table (2 samples; `m0` complete, `m1` missing in `S1`, `m2` with
major copy number zero in `S1`) on which the hypotheses of the theorems above hold -/

section Examples

private def a0 : Row := ⟨"m0", "S1", 10, 5, 2, 1, 2, 1, 0⟩
private def a1 : Row := ⟨"m0", "S2", 7, 3, 1, 1, 2, 1, 0⟩
private def b1 : Row := ⟨"m1", "S2", 4, 4, 1, 0, 2, 1, 0⟩
private def c0 : Row := ⟨"m2", "S1", 9, 1, 0, 0, 2, 1, 0⟩
private def c1 : Row := ⟨"m2", "S2", 9, 1, 1, 1, 2, 1, 0⟩
private def exRows : List Row := [a0, a1, b1, c0, c1]

private theorem ex_samples : samplesOf (positive exRows) = ["S1", "S2"] :=
  sortedDistinct_of_sorted (by decide +kernel) (by decide +kernel)

private theorem ex_kept : keptRows exRows = [a0, a1] := by
  unfold keptRows
  rw [ex_samples]
  decide +kernel

private theorem ex_muts : mutsOf (keptRows exRows) = ["m0"] := by
  rw [ex_kept]
  exact sortedDistinct_of_sorted (by decide +kernel) (by decide +kernel)

private theorem ex_load : ∃ e0 e1, load false false exRows = .ok (["S1", "S2"], [("m0", [e0, e1])]) := by
  unfold load
  rw [ex_muts, ex_samples, ex_kept]
  exact ⟨_, _, rfl⟩

/-- `load_perm`: a genuine (non-identity) permutation of a table with kept and dropped mutations -/
example : exRows ~ exRows.reverse ∧ exRows ≠ exRows.reverse := ⟨(reverse_perm _).symm, by decide +kernel⟩

/-- `kept_iff`, `load_ok_iff`: the table loads, has samples, keeps `m0` and drops `m1`, `m2` -/
example : ∃ ss data, load false false exRows = .ok (ss, data) ∧ ss ≠ [] ∧
    "m0" ∈ data.map (·.1) ∧ "m1" ∉ data.map (·.1) ∧ "m2" ∉ data.map (·.1) := by
  obtain ⟨e0, e1, h⟩ := ex_load
  exact ⟨_, _, h, by simp, by simp, by simp, by simp⟩

/-- ... and the right-hand side of `kept_iff` is true for `m0`, false for `m1` and `m2` -/
example : (∀ s ∈ ["S1", "S2"], usableCount exRows "m0" s = 1) ∧ usableCount exRows "m1" "S1" = 0 ∧
    usableCount exRows "m2" "S1" = 0 := by decide +kernel

/-- `numbering_sorted`: a successful `loadData` with a data point -/
example : ∃ ss d, loadData false false exRows = .ok (ss, [d]) := by
  obtain ⟨e0, e1, h⟩ := ex_load
  refine ⟨["S1", "S2"], (0, "m0", [e0, e1]), ?_⟩
  unfold loadData
  rw [h]
  rfl

/-- `numbering_sorted_clusters`, `cluster_members`: a successful clustered load (one cluster with a
kept member; the cluster of the dropped `m1` disappears) -/
example : ∃ ss cs, loadClustered false false exRows [⟨"m0", 3, none⟩, ⟨"m1", 1, none⟩] (1 / 10000) = .ok (ss, cs) := by
  obtain ⟨e0, e1, h⟩ := ex_load
  refine ⟨["S1", "S2"], clustersOf [⟨"m0", 3, none⟩, ⟨"m1", 1, none⟩] (1 / 10000) [("m0", 3)], ?_⟩
  unfold loadClustered
  rw [h]
  rfl

/-- `defaults`: an entry built with both optional columns absent -/
example : ∃ e, entry false false a0 = .ok e := entry_ok_iff.mpr (by decide +kernel)

private def badRows : List Row := [⟨"m0", "S1", 1, 1, 1, 2, 2, 1, 0⟩]

/-- `major_lt_minor_rejected`: a one-row table whose row survives the filters with major 1 < minor 2,
and which has no offset mix -/
example : (∃ r ∈ keptRows badRows, r.major < r.minor) ∧ NoOffsetMix badRows := by
  have hs : samplesOf (positive badRows) = ["S1"] :=
    sortedDistinct_of_sorted (by decide +kernel) (by decide +kernel)
  have hk : keptRows badRows = badRows := by
    unfold keptRows
    rw [hs]
    decide +kernel
  refine ⟨?_, ?_⟩
  · rw [hk]
    decide +kernel
  · refine noOffsetMix_of_present ?_
    rw [hs]
    decide +kernel

private def mixRows : List Row :=
  [⟨"m0", "S1", 1, 1, 1, 1, 2, 1, 0⟩, ⟨"m0", "S1", 2, 2, 1, 1, 2, 1, 0⟩,
   ⟨"m1", "S1", 1, 1, 1, 1, 2, 1, 0⟩, ⟨"m1", "S2", 1, 1, 1, 1, 2, 1, 0⟩]

/-- `degenerate_rejected`: two rows of `m0` in `S1` offset the missing row in `S2` -/
example : ¬ NoOffsetMix mixRows := by
  have hs : samplesOf (positive mixRows) = ["S1", "S2"] :=
    sortedDistinct_of_sorted (by decide +kernel) (by decide +kernel)
  intro h
  have := h "m0" (by rw [hs]; decide +kernel) "S2" (by rw [hs]; decide +kernel)
  revert this
  decide +kernel

end Examples

end PhyModel.Props.C17
