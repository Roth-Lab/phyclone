import PhyModel.Proofs.ChainsProofs
/-! # C18 — a seeded run is reproducible regardless of scheduling and hash seed

Property theorems about the *wiring* of `phyclone/run.py: run` (model: `Model/Chains.lean`).  What a
chain does with its generator is an arbitrary function `body`; OS scheduling enters only as the
completion order `ord` of the futures.  The theorems say: whatever that order, the collected
`results` dict is the same map, chain `i`'s entry is `run_phyclone_chain` applied to *its own*
generator `(chainGens …)[i]` and nothing else, and a single chain runs on the main generator.

Not provable here, and not claimed: that the worker processes share no state, that nothing inside
a chain reads the wall clock, the hash seed or `np.random`'s module state, and that
`Generator.spawn` is a function of the seed.  Those are facts about the running code and are
decided by the runtime differential and the static scan of `harness/props/c18.py` (level `other`). -/

namespace PhyModel.Props.C18
open PhyModel.Chains

/-- the value the dict holds for chain `i`: `run_phyclone_chain` on the `i`-th generator -/
def entry {G R : Type} (spawn : G → Nat → List G) (body : G → Nat → R) (main : G) (k i : Nat) :
    Option (ChainResult R) :=
  (chainGens spawn main k)[i]?.map fun g => runChain body g i

/-- **Explicit content of the result map.**  For every chain count `k ≥ 1`, every spawning function
returning `k` children, every chain body and every completion order that completes each future
exactly once, key `i` holds the result of chain `i` on the `i`-th generator (and keys `≥ k` are
absent). -/
theorem run_lookup {G R : Type} (spawn : G → Nat → List G) (body : G → Nat → R) (main : G) (k : Nat)
    (hk : 1 ≤ k) (hs : (spawn main k).length = k) (ord : List Nat) (hord : ord.Perm (List.range k))
    (i : Nat) :
    (run spawn body main k ord).lookup i = entry spawn body main k i := by
  unfold run entry chainGens
  by_cases h1 : k = 1
  · subst h1
    rw [if_pos rfl, if_pos rfl]
    cases i <;> rfl
  · rw [if_neg h1, if_neg h1, lookup_collect]
    by_cases hi : i < k
    · rw [if_pos (hord.mem_iff.mpr (List.mem_range.mpr hi))]
    · rw [if_neg fun h => hi (List.mem_range.mp (hord.mem_iff.mp h)),
        List.getElem?_eq_none (hs.symm ▸ Nat.le_of_not_lt hi : (spawn main k).length ≤ i)]
      rfl

/-- **C18, scheduling.**  For every two completion orders of the `k` chains the collected results
are the same map: every key reads the same under both. -/
theorem collect_order_free {G R : Type} (spawn : G → Nat → List G) (body : G → Nat → R) (main : G)
    (k : Nat) (hk : 1 ≤ k) (hs : (spawn main k).length = k) (ord ord' : List Nat)
    (hord : ord.Perm (List.range k)) (hord' : ord'.Perm (List.range k)) (i : Nat) :
    (run spawn body main k ord).lookup i = (run spawn body main k ord').lookup i := by
  rw [run_lookup spawn body main k hk hs ord hord, run_lookup spawn body main k hk hs ord' hord']

/-- **C18, isolation.**  Chain `i`'s entry depends only on its own generator and on what
`run_phyclone_chain` does with *that* generator: change the seed / spawning of all other chains
(`spawn'`, `main'`), what the other chains compute (`body'` may differ from `body` anywhere except
at chain `i`'s generator), and the completion order — key `i` reads the same. -/
theorem chain_isolated {G R : Type} (spawn spawn' : G → Nat → List G) (body body' : G → Nat → R)
    (main main' : G) (k : Nat) (hk : 1 ≤ k)
    (hs : (spawn main k).length = k) (hs' : (spawn' main' k).length = k)
    (ord ord' : List Nat) (hord : ord.Perm (List.range k)) (hord' : ord'.Perm (List.range k))
    (i : Nat) (g : G)
    (hg : (chainGens spawn main k)[i]? = some g) (hg' : (chainGens spawn' main' k)[i]? = some g)
    (hb : body g i = body' g i) :
    (run spawn body main k ord).lookup i = some (runChain body g i) ∧
    (run spawn' body' main' k ord').lookup i = (run spawn body main k ord).lookup i := by
  rw [run_lookup spawn body main k hk hs ord hord, run_lookup spawn' body' main' k hk hs' ord' hord']
  unfold entry
  rw [hg, hg']
  simp [runChain, hb]

/-- **C18, the single-chain quirk.**  With one chain nothing is spawned: the chain consumes the
main generator, whatever `spawn` would return and whatever `ord` is. -/
theorem single_chain_uses_main {G R : Type} (spawn : G → Nat → List G) (body : G → Nat → R) (main : G)
    (ord : List Nat) :
    chainGens spawn main 1 = [main] ∧
    run spawn body main 1 ord = [(0, runChain body main 0)] := by
  simp [chainGens, run]

/-- **No chain is lost or duplicated**: the dict has exactly the keys `0 … k-1`, once each. -/
theorem collect_complete {G R : Type} (spawn : G → Nat → List G) (body : G → Nat → R) (main : G)
    (k : Nat) (hk : 1 ≤ k) (hs : (spawn main k).length = k) (ord : List Nat)
    (hord : ord.Perm (List.range k)) (i : Nat) :
    ((run spawn body main k ord).lookup i).isSome = decide (i < k) := by
  have hlen : (chainGens spawn main k).length = k := by
    unfold chainGens
    split
    · next h1 => exact h1.symm
    · exact hs
  rw [run_lookup spawn body main k hk hs ord hord, entry, Option.isSome_map]
  by_cases hi : i < k
  · rw [List.getElem?_eq_getElem (hlen.symm ▸ hi), decide_eq_true hi]
    rfl
  · rw [List.getElem?_eq_none (hlen.symm ▸ Nat.le_of_not_lt hi), decide_eq_false hi]
    rfl

/-! ## Non-vacuity: a concrete driver (generators are strings, a trace is a string) -/

def exSpawn (g : String) (k : Nat) : List String := (List.range k).map fun i => s!"{g}/{i}"
def exBody (g : String) (n : Nat) : String := s!"trace({g},{n})"

-- three chains finishing in the order 2, 0, 1: the dict is inserted in that order but reads 0,1,2 correctly
example : run exSpawn exBody "seed7" 3 [2, 0, 1] =
    [(2, ⟨2, "trace(seed7/2,2)"⟩), (0, ⟨0, "trace(seed7/0,0)"⟩), (1, ⟨1, "trace(seed7/1,1)"⟩)] := by decide +kernel
example : (run exSpawn exBody "seed7" 3 [2, 0, 1]).lookup 1 = (run exSpawn exBody "seed7" 3 [0, 1, 2]).lookup 1 :=
  collect_order_free exSpawn exBody "seed7" 3 (by decide +kernel) (by decide +kernel) _ _ (by decide +kernel) (by decide +kernel) 1
example : ([2, 0, 1] : List Nat).Perm (List.range 3) := by decide +kernel
-- isolation: another seed for the others, another body elsewhere, another order: chain 1 unchanged
example : (run (fun g k => if k = 3 then ["x", "seed7/1", "y"] else exSpawn g k)
      (fun g n => if g = "seed7/1" then exBody g n else "other") "seed9" 3 [1, 2, 0]).lookup 1
    = some ⟨1, "trace(seed7/1,1)"⟩ := by decide +kernel
-- the quirk is visible: one chain runs on "seed7", not on "seed7/0"
example : run exSpawn exBody "seed7" 1 [0] = [(0, ⟨0, "trace(seed7,0)"⟩)] := by decide +kernel
example : run exSpawn exBody "seed7" 2 [1, 0] ≠ run exSpawn exBody "seed7" 2 [0, 1] := by decide +kernel
example : ((run exSpawn exBody "seed7" 2 [1, 0]).lookup 2).isSome = false := by decide +kernel

end PhyModel.Props.C18
