import PhyModel.Proofs.FramingContainer
/-! # C20 — an interrupted or truncated trace file is never read as a valid result

Framing proof that accompanies the exhaustive fault enumeration on the real code
(`harness/props/c20.py`).  The file is written as one serialised object inside one stream
container; a crash at any byte leaves a prefix of the complete file (checked on the real writer by
the harness).  The theorems say that the composed reader, on **every** prefix of the file, either
fails or returns exactly the object that was written — first for any serialiser / container obeying
four stated laws (the assumptions made about the real `pickle` / `gzip`, which are outside the
model), then for the concrete executable codec of `Model/Framing.lean`, which satisfies the laws
(so they are not vacuous) and which the driver runs in the correspondence check. -/

namespace PhyModel.Props.C20
open PhyModel.Framing

/-- the serialiser reads back what it wrote, whatever follows in the stream (pickle: `STOP`) -/
theorem dec_enc (x : Val) (r : List Sym) : decode (enc x ++ r) = some x := by
  unfold decode
  rw [decAux_complete x _ r (Nat.le_succ_of_le (Nat.le_trans (size_le_enc_length x)
    (List.length_append ▸ Nat.le_add_right _ _)))]

/-- every proper prefix of a serialised object fails to decode -/
theorem dec_proper_prefix_fails (x : Val) (p : List Sym) (hp : p <+: enc x) (hne : p ≠ enc x) :
    decode p = none := by
  unfold decode
  cases hd : decAux (p.length + 1) p with
  | none => rfl
  | some q =>
    -- `p = enc w ++ r` and `p ++ t = enc x`: unique parsing forces `r ++ t = []`, so `p = enc x`
    obtain ⟨w, r⟩ := q
    obtain ⟨t, ht⟩ := hp
    have hs := decAux_sound _ _ _ _ hd
    obtain ⟨rfl, e⟩ := enc_inj w x (r ++ t) [] (by rw [← List.append_assoc, ← hs, ht, List.append_nil])
    rw [List.append_eq_nil_iff.mp e |>.1, List.append_nil] at hs
    exact absurd hs hne

example : decode ((enc (.sub (.num 3 .nil) (.num 5 .nil))).take 5) = none ∧
    decode (enc (.sub (.num 3 .nil) (.num 5 .nil)) ++ [9, 9]) = some (.sub (.num 3 .nil) (.num 5 .nil)) := by
  decide +kernel

theorem dec_take {α : Type} {S : Serialiser α} (hS : S.Lawful) (x : α) (k : Nat) :
    S.dec ((S.enc x).take k) = if (S.enc x).length ≤ k then some x else none := by
  by_cases h : (S.enc x).length ≤ k
  · rw [if_pos h, List.take_of_length_le h, ← hS.dec_enc x [], List.append_nil]
  · rw [if_neg h]
    refine hS.dec_proper_prefix x _ (List.take_prefix k _) fun he => h ?_
    have hl := congrArg List.length he
    rw [List.length_take] at hl
    exact hl ▸ Nat.min_le_left k _

/-- **C20, abstract form.**  For any lawful serialiser and container, any object `x` and any crash
point `n`, reading the first `n` symbols of the file written for `x` fails or yields exactly `x`. -/
theorem read_prefix_safe_abstract {α : Type} (S : Serialiser α) (C : Container)
    (hS : S.Lawful) (hC : C.Lawful) (x : α) (n : Nat) :
    readCut S C x n = none ∨ readCut S C x n = some x := by
  unfold readCut
  rcases hC.deliver_cut (S.enc x) n with h | ⟨k, h⟩
  · rw [h]
    exact .inl rfl
  · rw [h, Option.bind_some, dec_take hS]
    split
    · exact .inr rfl
    · exact .inl rfl

/-- the complete file reads back as `x` (so the disjunction above is not always `none`) -/
theorem read_full_abstract {α : Type} (S : Serialiser α) (C : Container)
    (hS : S.Lawful) (hC : C.Lawful) (x : α) (n : Nat) (hn : (C.pack (S.enc x)).length ≤ n) :
    readCut S C x n = some x := by
  unfold readCut
  rw [List.take_of_length_le hn, hC.deliver_full]
  simpa using hS.dec_enc x []

/-- the concrete serialiser obeys the laws -/
theorem valSerialiser_lawful : valSerialiser.Lawful :=
  ⟨dec_enc, dec_proper_prefix_fails⟩

theorem decode_take (x : Val) (k : Nat) :
    decode ((enc x).take k) = if (enc x).length ≤ k then some x else none :=
  dec_take valSerialiser_lawful x k

/-- the concrete block container (any block size) obeys the laws -/
theorem blockContainer_lawful (B : Nat) : (blockContainer B).Lawful := by
  constructor
  · intro b n
    rcases deliver_take B b n with ⟨_, h⟩ | ⟨_, k, h, _, _⟩
    · left; exact h
    · right; exact ⟨k, h⟩
  · intro b
    rcases deliver_take B b (pack B b).length with ⟨hlt, _⟩ | ⟨_, k, h, _, h3⟩
    · rw [pack_length] at hlt
      exact absurd hlt (Nat.not_lt_of_le (Nat.le_add_left 3 _))
    · rw [List.take_length, List.take_of_length_le (h3 (by rw [pack_length]; omega))] at h
      exact h

/-- **C20 on the executable model.**  For every block size, every trace value `x` and every prefix
length `n` of the file written for `x`, the reader used by the summary commands returns an error or
exactly `x`. -/
theorem read_prefix_safe (B : Nat) (x : Val) (n : Nat) :
    readPrefix B x n = none ∨ readPrefix B x n = some x :=
  read_prefix_safe_abstract valSerialiser (blockContainer B) valSerialiser_lawful
    (blockContainer_lawful B) x n

/-- where the outcome switches: the read is complete exactly from the end of the block stream on;
only the trailer (checksum, length) may be missing — the "trailer window" seen on the real files. -/
theorem read_complete_iff (B : Nat) (x : Val) (n : Nat) :
    readPrefix B x n = some x ↔ bodyEnd B x ≤ n := by
  rw [readPrefix, readLazy, file, bodyEnd, Nat.add_comm]
  rcases deliver_take B (enc x) n with ⟨hlt, h⟩ | ⟨_, k, h, h2, h3⟩
  · rw [h]
    exact iff_of_false nofun (Nat.not_le_of_lt (Nat.lt_of_lt_of_le hlt (Nat.le_add_left 3 _)))
  · rw [h, Option.bind_some, decode_take]
    show _ ↔ (blocks B (enc x)).length + 3 ≤ n
    by_cases hn : (blocks B (enc x)).length + 3 ≤ n
    · rw [if_pos (h3 hn)]
      exact iff_of_true rfl hn
    · rw [if_neg (Nat.not_le_of_lt (h2 (enc_ne_nil x) (Nat.lt_of_not_le hn)))]
      exact iff_of_false nofun hn

/-- outcomes are monotone in the prefix length: once a prefix reads completely, every longer one does -/
theorem read_monotone (B : Nat) (x : Val) (n m : Nat) (hnm : n ≤ m)
    (h : readPrefix B x n = some x) : readPrefix B x m = some x :=
  (read_complete_iff B x m).mpr (Nat.le_trans ((read_complete_iff B x n).mp h) hnm)

/-- non-vacuity on a two-chain-shaped value with block size 4: file of 26 symbols, error on every
prefix shorter than 24, the original from 24 on (trailer window of 2) -/
example :
    let x : Val := .sub (.num 0 (.sub (.num 0 (.num 7 .nil)) .nil)) (.num 5 .nil)
    (file 3 x).length = 26 ∧ bodyEnd 3 x = 24 ∧
    (List.range 24).all (fun n => readPrefix 3 x n == none) ∧
    (List.range' 24 4).all (fun n => readPrefix 3 x n == some x) := by
  decide +kernel

/-- **Strict reader** (end marker *and* trailer with matching checksum / length required): it returns
the original exactly on the complete file and an error on every proper prefix. -/
theorem readPrefixStrict_eq (B : Nat) (x : Val) (n : Nat) :
    readPrefixStrict B x n = if (file B x).length ≤ n then some x else none := by
  unfold readPrefixStrict readStrict file
  rw [unpack_take]
  split
  · simpa using dec_enc x []
  · rfl

theorem read_strict_complete_iff (B : Nat) (x : Val) (n : Nat) :
    readPrefixStrict B x n = some x ↔ (file B x).length ≤ n := by
  rw [readPrefixStrict_eq]
  split <;> simp [*]

theorem read_prefix_safe_strict (B : Nat) (x : Val) (n : Nat) :
    readPrefixStrict B x n = none ∨ readPrefixStrict B x n = some x := by
  rw [readPrefixStrict_eq]
  split
  · exact .inr rfl
  · exact .inl rfl

/-- whatever the strict reader accepts the incremental reader accepts too: the only difference
between them is the trailer window -/
theorem strict_implies_lazy (B : Nat) (x : Val) (n : Nat)
    (h : readPrefixStrict B x n = some x) : readPrefix B x n = some x := by
  refine (read_complete_iff B x n).mpr (Nat.le_trans ?_ ((read_strict_complete_iff B x n).mp h))
  rw [file, pack_length, bodyEnd, Nat.add_comm header.length]
  exact Nat.add_le_add_right (Nat.le_add_right _ 2) 3

example :
    let x : Val := .sub (.num 0 (.sub (.num 0 (.num 7 .nil)) .nil)) (.num 5 .nil)
    (List.range 26).all (fun n => readPrefixStrict 3 x n == none) ∧
    readPrefixStrict 3 x 26 = some x ∧ readPrefixStrict 3 x 27 = some x := by
  decide +kernel

end PhyModel.Props.C20
