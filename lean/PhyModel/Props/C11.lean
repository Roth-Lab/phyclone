import PhyModel.Proofs.TopoProofs
import Mathlib.Algebra.Order.Ring.Unbundled.Rat
/-! # C11 — trace summaries pick the true maximum and count topologies exactly

Property theorems only; helper lemmas are in `Proofs/TraceProofs.lean`, `Proofs/TopoProofs.lean`.
Everything is stated for **all** traces: any list of chains (the `results` dict in its insertion order,
which depends on process scheduling), any entries, any type of tree keys with decidable equality, any
linearly ordered type of scores (the recorded floats embed exactly into `Rat`, which is what the driver
uses).  `WF tr` says that chain numbers are distinct — true of every dict.

`DataFrame.sort_values` is not a stable sort, so which of several rows with the same score (count) comes
first is unspecified in the code.  The model fixes one sort (`sortBy`), but every statement below except
`freqPick_maxcount` is about *membership* in the table or about the sorted score column and therefore
holds for every admissible order; frequency mode is covered for every admissible order by
`freqCandidates_maxcount`. -/

namespace PhyModel.Props.C11
open PhyModel.Trace

section
variable {κ σ : Type} [LinearOrder σ]

/-! ## MAP, joint-likelihood mode -/

/-- The MAP command returns an entry of the trace whose recorded score is the maximum over all entries of
all chains. -/
theorem mapPick_max (tr : Trace κ σ) (hwf : WF tr) (hne : entries tr ≠ []) :
    ∃ e, mapPick tr = some e ∧ e ∈ entries tr ∧ ∀ e' ∈ entries tr, e'.2 ≤ e.2 := by
  have hfl : flat tr ≠ [] := by
    intro h
    apply hne
    rw [← flat_map, h]
    rfl
  obtain ⟨b, h1, h2, h3⟩ := mapScan_spec hfl
  have hl := lookup_of_mem_flat hwf h2
  refine ⟨(b.key, b.score), by simp [mapPick, h1, hl], lookup_mem hl, ?_⟩
  intro e' he'
  obtain ⟨r, hr, _, hs⟩ := mem_entries_iff.mp he'
  rw [← hs]
  exact h3 r hr

/-- If ties at the maximum were broken differently (`>=` instead of `>`, another scan order), the command
would report one of `mapCandidates`: exactly the entries whose score is the maximum; the model's own pick
is one of them. -/
theorem mapCandidates_spec (tr : Trace κ σ) (e : κ × σ) :
    e ∈ mapCandidates tr ↔ e ∈ entries tr ∧ ∀ e' ∈ entries tr, e'.2 ≤ e.2 := by
  unfold mapCandidates
  rw [List.mem_filter, List.all_eq_true]
  refine and_congr_right fun _ => forall₂_congr fun e' _ => ?_
  rw [Bool.not_eq_true', decide_eq_false_iff_not, not_lt]

private theorem mapPick_mem {tr : Trace κ σ} {e : κ × σ} (h : mapPick tr = some e) : e ∈ entries tr := by
  unfold mapPick at h
  split at h <;> exact lookup_mem h

/-- Completion order does not matter: for any permutation of the chains the MAP command reports the same
score (the tree may differ only among entries tied at the maximum). -/
theorem mapPick_perm (tr tr' : Trace κ σ) (hwf : WF tr) (hp : tr.Perm tr') :
    (mapPick tr).map Prod.snd = (mapPick tr').map Prod.snd := by
  have hwf' : WF tr' := (hp.map _).nodup_iff.mp hwf
  have hpe : (entries tr).Perm (entries tr') := hp.flatMap_right _
  by_cases hne : entries tr = []
  · -- no entries: both picks are `none`, a pick being an entry
    have none_of : ∀ t : Trace κ σ, entries t = [] → mapPick t = none := fun t ht =>
      Option.eq_none_iff_forall_ne_some.mpr fun e he => List.ne_nil_of_mem (mapPick_mem he) ht
    rw [none_of tr hne, none_of tr' (hne ▸ hpe).symm.eq_nil]
  · obtain ⟨e, h1, h2, h3⟩ := mapPick_max tr hwf hne
    obtain ⟨e', h1', h2', h3'⟩ := mapPick_max tr' hwf' fun h => hne (h ▸ hpe).eq_nil
    rw [h1, h1']
    exact congrArg some (le_antisymm (h3' e (hpe.mem_iff.mp h2)) (h3 e' (hpe.mem_iff.mpr h2')))

end

section
variable {κ σ : Type} [DecidableEq κ]

/-- number of entries of the trace whose tree is `k` -/
def occurrences (tr : Trace κ σ) (k : κ) : Nat := (entries tr).countP (fun e => decide (e.1 = k))

private theorem occurrences_flat (tr : Trace κ σ) (k : κ) :
    occurrences tr k = (flat tr).countP (fun r => decide (r.key = k)) := by
  unfold occurrences
  rw [← flat_map, List.countP_map]
  rfl

variable [LinearOrder σ]

/-! ## the topology table -/

/-- One row per distinct tree: no tree has two rows, and the trees with a row are exactly the trees that
occur in the trace. -/
theorem topo_rows_distinct (tr : Trace κ σ) :
    ((topoTable tr).map (·.key)).Nodup ∧
      ∀ k, k ∈ (topoTable tr).map (·.key) ↔ k ∈ (entries tr).map Prod.fst := by
  have inv := inv_topoTable tr
  refine ⟨inv.nodup, fun k => ⟨?_, ?_⟩⟩
  · intro hk
    obtain ⟨w, hw, rfl⟩ := List.mem_map.mp hk
    obtain ⟨r, hr, h1, h2, _⟩ := (inv.good w hw).att
    exact List.mem_map.mpr ⟨(w.key, w.score), mem_entries_iff.mpr ⟨r, hr, h1, h2⟩, rfl⟩
  · intro hk
    obtain ⟨e, he, rfl⟩ := List.mem_map.mp hk
    obtain ⟨r, hr, h1, _⟩ := mem_entries_iff.mp he
    rw [← h1]
    exact inv.cover r hr

/-- A row's count is the number of entries with that tree. -/
theorem topo_count_correct (tr : Trace κ σ) (w : Row κ σ) (hw : w ∈ topoTable tr) :
    w.count = occurrences tr w.key := by
  rw [occurrences_flat]
  exact ((inv_topoTable tr).good w hw).count_eq

/-- Counts sum to the number of entries. -/
theorem topo_counts_sum (tr : Trace κ σ) :
    ((topoTable tr).map (·.count)).sum = (entries tr).length := by
  rw [(inv_topoTable tr).sum, flat_length]

/-- A row's score is the maximum over the entries with that tree (an upper bound that is attained). -/
theorem topo_score_is_max (tr : Trace κ σ) (w : Row κ σ) (hw : w ∈ topoTable tr) :
    (∀ e ∈ entries tr, e.1 = w.key → e.2 ≤ w.score) ∧ (w.key, w.score) ∈ entries tr := by
  have g := (inv_topoTable tr).good w hw
  constructor
  · intro e he hk
    obtain ⟨r, hr, h1, h2⟩ := mem_entries_iff.mp he
    rw [← h2]
    exact g.ge r hr (h1.trans hk)
  · obtain ⟨r, hr, h1, h2, _⟩ := g.att
    exact mem_entries_iff.mpr ⟨r, hr, h1, h2⟩

/-- A row's `(chain_num, iter)` pointer leads to an entry with the row's tree and the row's score. -/
theorem topo_pointer_attains (tr : Trace κ σ) (hwf : WF tr) (w : Row κ σ) (hw : w ∈ topoTable tr) :
    lookup tr w.chain w.iter = some (w.key, w.score) := by
  obtain ⟨r, hr, h1, h2, h3, h4⟩ := ((inv_topoTable tr).good w hw).att
  rw [← h1, ← h2, ← h3, ← h4]
  exact lookup_of_mem_flat hwf hr

/-- Distinct rows have distinct pointers — which is why the archive's look-up of a dictionary value in
the data frame by `(count, score, iter, chain_num)` finds exactly one row (`assert len(row) == 1`). -/
theorem topo_pointers_distinct (tr : Trace κ σ) (hwf : WF tr) :
    (topoTable tr).Pairwise (fun a b => (a.chain, a.iter) ≠ (b.chain, b.iter)) := by
  have hnd : (topoTable tr).Pairwise (fun a b => a.key ≠ b.key) :=
    List.pairwise_map.mp (topo_rows_distinct tr).1
  refine hnd.imp_of_mem ?_
  intro a b ha hb hk hp
  have h1 := topo_pointer_attains tr hwf a ha
  have h2 := topo_pointer_attains tr hwf b hb
  simp only [Prod.mk.injEq] at hp
  rw [hp.1, hp.2, h2] at h1
  simp only [Option.some.injEq, Prod.mk.injEq] at h1
  exact hk h1.1.symm

/-- Rows are ranked by score: every row's score is at least the score of every later row (the id of the
row at position `i` is `t_<i>`, see `ranked`). -/
theorem topo_sorted (tr : Trace κ σ) : (topoTable tr).Pairwise (fun a b => b.score ≤ a.score) :=
  sortBy_desc scoreGe_iff _

/-! ## MAP, frequency mode -/

private theorem maxcount_of_row (tr : Trace κ σ) (w : Row κ σ) (hw : w ∈ topoTable tr)
    (hmax : ∀ v ∈ topoTable tr, v.count ≤ w.count) (k : κ) : occurrences tr k ≤ occurrences tr w.key := by
  rw [← topo_count_correct tr w hw]
  by_cases hk : k ∈ (entries tr).map Prod.fst
  · obtain ⟨v, hv, rfl⟩ := List.mem_map.mp (((topo_rows_distinct tr).2 k).mpr hk)
    rw [← topo_count_correct tr v hv]
    exact hmax v hv
  · have : occurrences tr k = 0 := by
      apply List.countP_eq_zero.mpr
      intro e he
      simp only [decide_eq_true_eq]
      rintro rfl
      exact hk (List.mem_map.mpr ⟨e, he, rfl⟩)
    exact this ▸ Nat.zero_le _

/-- Whatever row of maximal count an (unstable) sort puts first, its pointer leads to an entry whose tree
has maximal count in the trace. -/
theorem freqCandidates_maxcount (tr : Trace κ σ) (hwf : WF tr) (w : Row κ σ) (hw : w ∈ freqCandidates tr) :
    lookup tr w.chain w.iter = some (w.key, w.score) ∧ ∀ k, occurrences tr k ≤ occurrences tr w.key := by
  simp only [freqCandidates, List.mem_filter, List.all_eq_true, decide_eq_true_eq] at hw
  exact ⟨topo_pointer_attains tr hwf w hw.1, maxcount_of_row tr w hw.1 hw.2⟩

/-- In frequency mode the MAP command returns an entry of the trace whose tree has maximal count. -/
theorem freqPick_maxcount (tr : Trace κ σ) (hwf : WF tr) (hne : entries tr ≠ []) :
    ∃ e, freqPick tr = some e ∧ e ∈ entries tr ∧ ∀ k, occurrences tr k ≤ occurrences tr e.1 := by
  cases hs : sortBy countGe (topoTable tr) with
  | nil =>
    obtain ⟨e, he⟩ := List.exists_mem_of_ne_nil _ hne
    obtain ⟨w, hw, _⟩ := List.mem_map.mp (((topo_rows_distinct tr).2 e.1).mpr (List.mem_map_of_mem he))
    have := (sortBy_perm countGe (topoTable tr)).mem_iff.mpr hw
    rw [hs] at this
    cases this
  | cons w rest =>
    obtain ⟨hw, hmax⟩ := sortBy_head_max countGe_iff hs
    have hl := topo_pointer_attains tr hwf w hw
    exact ⟨(w.key, w.score), by simp [freqPick, freqRow, hs, hl], lookup_mem hl, maxcount_of_row tr w hw hmax⟩

/-! ## the archive -/

/-- The archive holds exactly the first `k` rows of the table with their ranks (all rows when no limit is
given), and on the topology table these are top-ranked: no row left out has a larger score than an
archived one. -/
theorem archive_is_top_k {α : Type} (tbl : List α) (k : Nat) :
    archive (some k) tbl = ranked 0 (tbl.take k) ∧ archive none tbl = ranked 0 tbl := by
  constructor
  · have := ranked_filter_lt 0 k tbl
    simpa [archive] using this
  · simp [archive]

theorem archive_top_ranked (tr : Trace κ σ) (k : Nat) :
    ∀ p ∈ archive (some k) (topoTable tr), ∀ w ∈ (topoTable tr).drop k, w.score ≤ p.2.score := by
  intro p hp w hw
  rw [(archive_is_top_k (topoTable tr) k).1] at hp
  have hp2 : p.2 ∈ (topoTable tr).take k := by
    have := List.mem_map_of_mem (f := Prod.snd) hp
    rwa [ranked_map_snd] at this
  have hs := topo_sorted tr
  rw [← List.take_append_drop k (topoTable tr)] at hs
  exact (List.pairwise_append.mp hs).2.2 _ hp2 _ hw

/-- the option range of `--top-trees`: at least 1, `sys.maxsize` means no limit -/
theorem clampTop_pos (mx : Nat) (n : Int) (v : Nat) (h : clampTop mx n = some v) : 1 ≤ v ∧ v ≠ mx := by
  have hv : 1 ≤ (if n < 1 then 1 else n.toNat) := by
    split
    · exact Nat.le_refl _
    · omega
  unfold clampTop at h
  generalize (if n < 1 then 1 else n.toNat) = w at h hv
  dsimp only at h
  split at h
  · cases h
  · cases h
    exact ⟨hv, ‹_›⟩

end

/-! ## non-vacuity: a concrete trace with two chains in "completion order" 1, 0, a repeated tree, a tie -/

def ex : Trace Nat Int := [(1, [(7, -3), (8, -2), (7, -5)]), (0, [(8, -4), (9, -2), (7, -1)])]

example : WF ex ∧ entries ex ≠ [] := by
  unfold WF
  decide
example : mapPick ex = some (7, -1) ∧ mapCandidates ex = [(7, -1)] := by decide +kernel
example : (mapPick [ex[1], ex[0]]).map Prod.snd = some (-1) ∧ [ex[0], ex[1]].Perm [ex[1], ex[0]] :=
  ⟨by decide +kernel, List.Perm.swap _ _ _⟩
example : (topoTable ex).map (fun w => (w.key, w.count, w.score, w.chain, w.iter)) =
    [(7, 3, -1, 0, 2), (8, 2, -2, 1, 1), (9, 1, -2, 0, 1)] := by decide +kernel
example : freqPick ex = some (7, -1) ∧ (freqCandidates ex).map (·.key) = [7] := by decide +kernel
example : occurrences ex 7 = 3 ∧ occurrences ex 8 = 2 ∧ occurrences ex 5 = 0 := by decide +kernel
example : (archive (some 2) (topoTable ex)).map (fun p => (p.1, p.2.key)) = [(0, 7), (1, 8)] ∧
    ((topoTable ex).drop 2).map (·.key) = [9] := by decide +kernel
example : clampTop 100 (-3) = some 1 ∧ clampTop 100 5 = some 5 ∧ clampTop 100 100 = none := by decide +kernel

/-! ## the driver's instance

The driver runs the model with `TreeKey` keys and `Rat` scores using core Lean's `<` on `Rat`; the theorems
above are stated for any `LinearOrder`.  These examples check that the instantiation at `Rat` is literally
the function the driver executes (the two `Decidable` instances agree definitionally). -/

/-- exactly what `Drv/C11.lean` computes (elaborated with core instances only, as in the driver) -/
def drvMapPick (tr : Trace TreeKey Rat) : Option (TreeKey × Rat) :=
  @mapPick TreeKey Rat Rat.instLT Rat.instDecidableLt tr
def drvTable (tr : Trace TreeKey Rat) : List (Row TreeKey Rat) :=
  @topoTable TreeKey Rat Rat.instLT Rat.instDecidableLt inferInstance tr

example (tr : Trace TreeKey Rat) (hwf : WF tr) (hne : entries tr ≠ []) :
    ∃ e, drvMapPick tr = some e ∧ e ∈ entries tr ∧ ∀ e' ∈ entries tr, e'.2 ≤ e.2 := mapPick_max tr hwf hne
example (tr : Trace TreeKey Rat) : (drvTable tr).Pairwise (fun a b => b.score ≤ a.score) := topo_sorted tr
example (tr : Trace TreeKey Rat) (w : Row TreeKey Rat) (hw : w ∈ drvTable tr) :
    w.count = occurrences tr w.key := topo_count_correct tr w hw

end PhyModel.Props.C11
